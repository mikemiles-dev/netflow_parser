/-
  Fast.lean — run-time replacements (`@[csimp]`) for the hot functions of the executable model.

  NOTHING here changes a model definition: every replacement `f ↦ fFast` is justified by a
  kernel-checked theorem `@f = @fFast`, which the code generator uses when it compiles code that
  mentions `f` AFTER the theorem was declared.  Because the model files were compiled before this
  file, a replacement only takes effect in definitions compiled later; therefore the whole call
  chain from the driver's entry points (`parseBytes`, `Findings.inputClasses`) down to the
  primitives is re-stated here:

  * `…C`  : a verbatim COPY of the model definition (proof `rfl` or a trivial induction) whose
            only purpose is to be compiled again, now with the replacements below in force;
  * `…F`/`…M` : a genuinely different, faster algorithm, with an equality proof.

  What was slow (input is `List UInt8`, `List.length` is O(n)):
    takeN/beU            `n ≤ i.length`                 → `lenGe n i` walks ≤ n cells
    ipRecLoop            `i.length - r.length` per record→ consumed-byte count returned by a
                                                            measured record parser, length threaded
    ipParseSets          `r.length = i.length` per set   → O(1) test on the set's header fields
    many0 (3 callers)    `r.length = i.length` per item  → dropped (the item parsers always consume)
    v9ScopeLoop/OptLoop  `r.length = i.length` per field → `f.len = 0`
    v9RecLoop            `acc ++ [r]` per record         → reversed accumulator
    Findings.varlenTail  `rest.sum` per record           → one pass computing suffix sums
    Preds.decomposes / c03ok / errConsistent / takeAllowed / versionOf (per-call oracles)
                         `n ≤ buf.length`, old `beU` per packet → `lenGe`, new `beU`

  Entry points used by Main.lean that are re-routed: `parseBytes`, `Findings.inputClasses`,
  `Preds.parseOracles`, `Preds.takeAllowed`.  Every `@[csimp]` theorem below depends on no axioms
  beyond propext / Quot.sound.
-/
import NetflowModel.Lemmas.Inversion
import NetflowModel.Findings
import NetflowModel.Oracle
namespace Netflow.Fast
open Netflow

/-- `decide (n ≤ i.length)` looking at no more than `n` cells -/
def lenGe {α : Type} : Nat → List α → Bool
  | 0, _ => true
  | _ + 1, [] => false
  | n + 1, _ :: t => lenGe n t

theorem lenGe_eq {α : Type} : ∀ (n : Nat) (i : List α), lenGe n i = decide (n ≤ i.length)
  | 0, _ => by simp [lenGe]
  | _ + 1, [] => by simp [lenGe]
  | n + 1, _ :: t => by simp [lenGe, lenGe_eq n t]

def takeNF (n : Nat) : P Bytes := fun i =>
  if lenGe n i then some (i.take n, i.drop n) else none

@[csimp] theorem takeN_eq : @takeN = @takeNF := by
  funext n i; simp [takeN, takeNF, lenGe_eq]

def beUF (w : Nat) : P Nat := fun i =>
  if lenGe w i then some (beNat (i.take w), i.drop w) else none

@[csimp] theorem beU_eq : @beU = @beUF := by
  funext n i; simp [beU, beUF, lenGe_eq]

theorem takeN_len {n : Nat} {i b r : Bytes} (h : takeN n i = some (b, r)) : i.length = r.length + n := by
  rw [← (takeN_consumes n).sized i b r h, Nat.add_comm]

theorem beU_len {w : Nat} {i r : Bytes} {v : Nat} (h : beU w i = some (v, r)) : i.length = r.length + w := by
  rw [← beU_sized w i v r h, Nat.add_comm]

/-- a successful `takeN n` made no progress exactly when `n = 0` -/
theorem takeN_noprogress {n : Nat} {i b r : Bytes} (h : takeN n i = some (b, r)) : (r.length = i.length) = (n = 0) := by
  have := takeN_len h
  exact propext ⟨fun _ => by omega, fun _ => by omega⟩

def countPC {α : Type} (p : P α) : Nat → P (List α)
  | 0, i => some ([], i)
  | n + 1, i =>
    match p i with
    | none => none
    | some (a, r) =>
      match countPC p n r with
      | none => none
      | some (as, r') => some (a :: as, r')

@[csimp] theorem countP_eq : @countP = @countPC := by
  funext α p n
  induction n with
  | zero => rfl
  | succ n ih => funext i; simp only [countP, countPC, ih]; rfl

/-- `many0F` without the no-progress test -/
def many0FNC {α : Type} (p : P α) : Nat → Bytes → Loop (List α × Bytes)
  | 0, _ => .outOfFuel
  | f + 1, i =>
    match p i with
    | none => .ok ([], i)
    | some (a, r) =>
      match many0FNC p f r with
      | .ok (as, r') => .ok (a :: as, r')
      | .err => .err
      | .outOfFuel => .outOfFuel

def many0NC {α : Type} (p : P α) : Bytes → Loop (List α × Bytes) := fun i => many0FNC p (i.length + 1) i

/-- for a parser that always consumes, nom's no-progress test never fires -/
theorem many0F_eq_NC {α : Type} {p : P α} (hp : ∀ i a r, p i = some (a, r) → r.length ≠ i.length) :
    ∀ (f : Nat) (i : Bytes), many0F p f i = many0FNC p f i := by
  intro f
  induction f with
  | zero => intro i; rfl
  | succ f ih =>
    intro i
    simp only [many0F, many0FNC]
    cases hpi : p i with
    | none => rfl
    | some ar =>
      simp only [hp i ar.1 ar.2 hpi, ↓reduceIte, ih ar.2]
      rfl

theorem many0_eq_NC {α : Type} {p : P α} (hp : ∀ i a r, p i = some (a, r) → r.length ≠ i.length) (i : Bytes) :
    many0 p i = many0NC p i := many0F_eq_NC hp _ i

def DataNumber.parseC (arms : DnArms) (len : Nat) (signed : Bool) : P DataNumber := fun i =>
  match arms.lookup (len, signed) with
  | none => none
  | some arm =>
    match takeN len i with
    | none => none
    | some (bs, r) => some (DataNumber.make arm signed bs, r)

@[csimp] theorem DataNumber.parse_eq : @DataNumber.parse = @DataNumber.parseC := rfl

def parseValueC (c : ValueCfg) (ty : FType) (len : Nat) : P FieldValue := fun i =>
  match ty with
  | .unsigned =>
    match DataNumber.parse c.dnArms len false i with
    | none => none | some (d, r) => some (.num d, r)
  | .signed =>
    match DataNumber.parse c.dnArms len true i with
    | none => none | some (d, r) => some (.num d, r)
  | .str =>
    match takeN len i with
    | none => none | some (b, r) => some (.str (utf8Lossy b), r)
  | .ip4 =>
    match beU 4 i with
    | none => none | some (n, r) => some (.ip4 n, r)
  | .ip6 =>
    match beU 16 i with
    | none => none | some (n, r) => some (.ip6 n, r)
  | .mac =>
    match takeN 6 i with
    | none => none | some (b, r) => some (.mac b, r)
  | .durS =>
    match DataNumber.parse c.dnArms len false i with
    | none => none | some (d, r) => some (durOf 1 d, r)
  | .durMs =>
    match DataNumber.parse c.dnArms len false i with
    | none => none | some (d, r) => some (durOf 1000 d, r)
  | .durUs =>
    match DataNumber.parse c.dnArms len false i with
    | none => none | some (d, r) => some (durOf 1000000 d, r)
  | .durNs =>
    match DataNumber.parse c.dnArms len false i with
    | none => none | some (d, r) => some (durOf 1000000000 d, r)
  | .proto =>
    match beU 1 i with
    | none => none
    | some (n, r) =>
      match c.protoParse n with
      | none => none | some p => some (.proto p, r)
  | .f64 =>
    match beU 8 i with
    | none => none | some (n, r) => some (.f64 n, r)
  | .vec =>
    match takeN len i with
    | none => none | some (b, r) => some (.vec b, r)
  | .unknown =>
    if c.unknownFields then
      match takeN len i with
      | none => none | some (b, r) => some (.vec b, r)
    else none

@[csimp] theorem parseValue_eq : @parseValue = @parseValueC := rfl

/-- number of bytes a successful `parseValue` consumes -/
def valWidth (ty : FType) (len : Nat) : Nat :=
  match ty with
  | .ip4 => 4 | .ip6 => 16 | .mac => 6 | .proto => 1 | .f64 => 8
  | _ => len

theorem dnParse_len {arms : DnArms} {len : Nat} {sg : Bool} {i r : Bytes} {d : DataNumber}
    (h : DataNumber.parse arms len sg i = some (d, r)) : i.length = r.length + len := by
  unfold DataNumber.parse at h
  split at h
  · cases h
  · split at h
    · cases h
    · next ht =>
      cases h
      exact takeN_len ht

theorem parseValue_len {c : ValueCfg} {ty : FType} {len : Nat} {i r : Bytes} {v : FieldValue}
    (h : parseValue c ty len i = some (v, r)) : i.length = r.length + valWidth ty len := by
  cases ty <;> simp only [parseValue, valWidth] at h ⊢
  case unsigned | signed | durS | durMs | durUs | durNs =>
    split at h
    · cases h
    · next hp =>
      cases h
      exact dnParse_len hp
  case str | mac | vec =>
    split at h
    · cases h
    · next hp =>
      cases h
      exact takeN_len hp
  case ip4 | ip6 | f64 =>
    split at h
    · cases h
    · next hp =>
      cases h
      exact beU_len hp
  case proto =>
    split at h
    · cases h
    · next hp =>
      split at h <;> cases h
      exact beU_len hp
  case unknown =>
    split at h
    · split at h
      · cases h
      · next hp =>
        cases h
        exact takeN_len hp
    · cases h

def parseFieldsC (proto : Nat → Nat) : Layout → List Nat → P (List Nat)
  | [], acc, i => some (acc, i)
  | f :: fs, acc, i =>
    match f.kind with
    | .wire w =>
      match beU w i with
      | none => none
      | some (v, r) => parseFieldsC proto fs (acc ++ [v]) r
    | .const v => parseFieldsC proto fs (acc ++ [v]) i
    | .protoOf src => parseFieldsC proto fs (acc ++ [proto (acc.getD src 0)]) i

@[csimp] theorem parseFields_eq : @parseFields = @parseFieldsC := by
  funext proto lay
  induction lay with
  | nil => rfl
  | cons f fs ih => funext acc i; simp only [parseFields, parseFieldsC, ih]; rfl

def parseLayoutC (proto : Nat → Nat) (lay : Layout) : P (List Nat) := parseFields proto lay []

@[csimp] theorem parseLayout_eq : @parseLayout = @parseLayoutC := rfl

def parseTFieldC : P TField := fun i =>
  match beU 2 i with
  | none => none
  | some (t, r) =>
    match beU 2 r with
    | none => none
    | some (l, r') => some ({ typ := t, len := l }, r')

@[csimp] theorem parseTField_eq : @parseTField = @parseTFieldC := rfl

def parseV9TemplateC : P V9Template := fun i =>
  match beU 2 i with
  | none => none
  | some (id, r) =>
    match beU 2 r with
    | none => none
    | some (fc, r1) =>
      match countP parseTField fc r1 with
      | none => none
      | some (fs, r2) => some ({ id := id, fieldCount := fc, fields := fs }, r2)

@[csimp] theorem parseV9Template_eq : @parseV9Template = @parseV9TemplateC := rfl

theorem parseV9Template_progress (i : Bytes) (a : V9Template) (r : Bytes)
    (h : parseV9Template i = some (a, r)) : r.length ≠ i.length := by
  have := parseV9Template_sized i a r h
  simp only at this
  omega

def parseV9OptTemplateC : P V9OptTemplate := fun i =>
  match beU 2 i with
  | none => none
  | some (id, r) =>
    match beU 2 r with
    | none => none
    | some (sl, r1) =>
      match beU 2 r1 with
      | none => none
      | some (ol, r2) =>
        match countP parseTField (sl / 4) r2 with
        | none => none
        | some (ss, r3) =>
          match countP parseTField (ol / 4) r3 with
          | none => none
          | some (os, r4) => some ({ id := id, scopeLen := sl, optLen := ol, scope := ss, opts := os }, r4)

@[csimp] theorem parseV9OptTemplate_eq : @parseV9OptTemplate = @parseV9OptTemplateC := rfl

theorem parseV9OptTemplate_progress (i : Bytes) (a : V9OptTemplate) (r : Bytes)
    (h : parseV9OptTemplate i = some (a, r)) : r.length ≠ i.length := by
  have := parseV9OptTemplate_sized i a r h
  simp only at this
  omega

def v9ParseRecC (c : Config) : List TField → Nat → P Rec
  | [], _, i => some ([], i)
  | f :: fs, idx, i =>
    match parseValue c.vc (c.t.v9Ty (c.t.v9Field f.typ)) f.len i with
    | none => none
    | some (v, r) =>
      match v9ParseRecC c fs (idx + 1) r with
      | none => none
      | some (es, r') => some ((idx, c.t.v9Field f.typ, v) :: es, r')

@[csimp] theorem v9ParseRec_eq : @v9ParseRec = @v9ParseRecC := by
  funext c fs
  induction fs with
  | nil => rfl
  | cons f fs ih => funext idx i; simp only [v9ParseRec, v9ParseRecC, ih]; rfl

/-- a record that does not decode leaves the input where it was: the `fold` of the model fails again on every remaining iteration -/
theorem v9RecLoop_fail_fast (c : Config) (fs : List TField) (n : Nat) (i : Bytes) (acc : List Rec)
    (h : v9ParseRec c fs 0 i = none) : v9RecLoop c fs n i acc = (acc, i) :=
  v9RecLoop_none h n acc

/-- `v9RecLoop` with the accumulator kept in reverse (cons instead of `acc ++ [r]`), STOPPING at the first record that does not
    decode (as the Rust loop does since fix 4588be7; same result as going on, `v9RecLoop_fail_fast`) -/
def v9RecLoopR (c : Config) (fs : List TField) : Nat → Bytes → List Rec → List Rec × Bytes
  | 0, i, acc => (acc.reverse, i)
  | n + 1, i, acc =>
    match v9ParseRec c fs 0 i with
    | none => (acc.reverse, i)
    | some (r, i') => v9RecLoopR c fs n i' (r :: acc)

def v9RecLoopF (c : Config) (fs : List TField) (n : Nat) (i : Bytes) (acc : List Rec) : List Rec × Bytes :=
  v9RecLoopR c fs n i acc.reverse

theorem v9RecLoopR_eq (c : Config) (fs : List TField) :
    ∀ (n : Nat) (i : Bytes) (acc : List Rec), v9RecLoopR c fs n i acc = v9RecLoop c fs n i acc.reverse := by
  intro n
  induction n with
  | zero => intro i acc; rfl
  | succ n ih =>
    intro i acc
    cases h : v9ParseRec c fs 0 i with
    | none => simp only [v9RecLoopR, h, v9RecLoop_fail_fast c fs (n + 1) i acc.reverse h]
    | some x => simp only [v9RecLoopR, v9RecLoop_succ_some h, h, ih x.2 (x.1 :: acc), List.reverse_cons]

@[csimp] theorem v9RecLoop_eq : @v9RecLoop = @v9RecLoopF := by
  funext c fs n i acc
  simp only [v9RecLoopF, v9RecLoopR_eq, List.reverse_reverse]

/-- `v9ScopeLoop` with the no-progress test `r.length = i.length` replaced by `f.len = 0` -/
def v9ScopeLoopF (c : Config) : List TField → Bytes → Option (List (Nat × Bytes) × Bytes)
  | [], i => some ([], i)
  | f :: fs, i =>
    match takeN f.len i with
    | none => some ([], i)
    | some (v, r) =>
      if c.t.scopeKnown f.typ then
        if f.len = 0 then none
        else
          match v9ScopeLoopF c fs r with
          | none => none
          | some (vs, r') => some ((c.t.scopeField f.typ, v) :: vs, r')
      else some ([], i)

@[csimp] theorem v9ScopeLoop_eq : @v9ScopeLoop = @v9ScopeLoopF := by
  funext c fs
  induction fs with
  | nil => rfl
  | cons f fs ih =>
    funext i
    simp only [v9ScopeLoop, v9ScopeLoopF]
    cases h : takeN f.len i with
    | none => rfl
    | some x =>
      simp only [takeN_noprogress h, ih]
      rfl

def v9OptLoopF (c : Config) : List TField → Bytes → Option (List (Nat × Bytes) × Bytes)
  | [], i => some ([], i)
  | f :: fs, i =>
    match takeN f.len i with
    | none => some ([], i)
    | some (v, r) =>
      if f.len = 0 then none
      else
        match v9OptLoopF c fs r with
        | none => none
        | some (vs, r') => some ((c.t.v9Field f.typ, v) :: vs, r')

@[csimp] theorem v9OptLoop_eq : @v9OptLoop = @v9OptLoopF := by
  funext c fs
  induction fs with
  | nil => rfl
  | cons f fs ih =>
    funext i
    simp only [v9OptLoop, v9OptLoopF]
    cases h : takeN f.len i with
    | none => rfl
    | some x =>
      simp only [takeN_noprogress h, ih]
      rfl

/-- `v9ParseBody` with `many0` replaced by `many0NC` for the two template parsers -/
def v9ParseBodyF (c : Config) (st : PState) (id : Nat) (body : Bytes) : PState × Res V9Body :=
  if id = c.t.v9TemplateId then
    match many0NC parseV9Template body with
    | .ok (ts, pad) => (insertV9Templates st ts, .ok (.templates ts pad))
    | .err => (st, .err)
    | .outOfFuel => (st, .overflow)
  else if id = c.t.v9OptTemplateId then
    match many0NC parseV9OptTemplate body with
    | .ok (ts, pad) => (insertV9OptTemplates st ts, .ok (.optTemplates ts pad))
    | .err => (st, .err)
    | .outOfFuel => (st, .overflow)
  else
    match amLookup id st.v9O with
    | some ot =>
      match v9ScopeLoop c ot.scope body with
      | none => (st, .err)
      | some (ss, r) =>
        match v9OptLoop c ot.opts r with
        | none => (st, .err)
        | some (os, pad) => (st, .ok (.optData ss os pad))
    | none =>
      match amLookup id st.v9T with
      | some t =>
        let total := v9TotalSize t.fields
        if total = 0 then (st, .err)
        else
          let (recs, pad) := v9RecLoop c t.fields (body.length / total) body []
          (st, .ok (.data recs pad))
      | none => (st, .err)

@[csimp] theorem v9ParseBody_eq : @v9ParseBody = @v9ParseBodyF := by
  funext c st id body
  simp only [v9ParseBody, v9ParseBodyF, many0_eq_NC parseV9Template_progress,
    many0_eq_NC parseV9OptTemplate_progress]
  rfl

def v9ParseSetC (c : Config) (st : PState) (i : Bytes) : PState × Res (V9Set × Bytes) :=
  match parseLayout c.t.protoFromU8 c.t.v9SetHdr i with
  | none => (st, .err)
  | some (h, r) =>
    let id := c.t.v9SetHdr.get "flowset_id" h
    let len := c.t.v9SetHdr.get "length" h
    match takeN (len - 4) r with
    | none => (st, .err)
    | some (body, r') =>
      match v9ParseBody c st id body with
      | (st', .ok b) => (st', .ok ({ id := id, len := len, body := b }, r'))
      | (st', .err) => (st', .err)
      | (st', .panic) => (st', .panic)
      | (st', .overflow) => (st', .overflow)

@[csimp] theorem v9ParseSet_eq : @v9ParseSet = @v9ParseSetC := rfl

def v9ParseSetsC (c : Config) : Nat → PState → Bytes → PState × Res (List V9Set × Bytes)
  | 0, st, i => (st, .ok ([], i))
  | n + 1, st, i =>
    if i.isEmpty then v9ParseSetsC c n st i
    else
      match v9ParseSet c st i with
      | (st', .ok (s, r)) =>
        match v9ParseSetsC c n st' r with
        | (st'', .ok (ss, r')) => (st'', .ok (s :: ss, r'))
        | (st'', .err) => (st'', .err)
        | (st'', .panic) => (st'', .panic)
        | (st'', .overflow) => (st'', .overflow)
      | (st', .err) => (st', .err)
      | (st', .panic) => (st', .panic)
      | (st', .overflow) => (st', .overflow)

@[csimp] theorem v9ParseSets_eq : @v9ParseSets = @v9ParseSetsC := by
  funext c n
  induction n with
  | zero => rfl
  | succ n ih => funext st i; simp only [v9ParseSets, v9ParseSetsC, ih]; rfl

def parseV9C (c : Config) (st : PState) (i : Bytes) : PState × Res (Packet × Bytes) :=
  match parseLayout c.t.protoFromU8 c.t.v9Hdr i with
  | none => (st, .err)
  | some (h, r) =>
    match v9ParseSets c (c.t.v9Hdr.get "count" h) st r with
    | (st', .ok (ss, r')) => (st', .ok (.v9 h ss, r'))
    | (st', .err) => (st', .err)
    | (st', .panic) => (st', .panic)
    | (st', .overflow) => (st', .overflow)

@[csimp] theorem parseV9_eq : @parseV9 = @parseV9C := rfl

def parseIpTFieldC : P IpTField := fun i =>
  match beU 2 i with
  | none => none
  | some (t, r) =>
    match beU 2 r with
    | none => none
    | some (l, r1) =>
      if t > 32767 then
        match beU 4 r1 with
        | none => none
        | some (e, r2) => some ({ typ := t - 32768, len := l, ent := some e }, r2)
      else some ({ typ := t, len := l, ent := none }, r1)

@[csimp] theorem parseIpTField_eq : @parseIpTField = @parseIpTFieldC := rfl

theorem parseIpTField_progress (i : Bytes) (a : IpTField) (r : Bytes)
    (h : parseIpTField i = some (a, r)) : r.length ≠ i.length := by
  have := parseIpTField_len h
  omega

/-- `parseIpTemplate` with `many0NC` -/
def parseIpTemplateF (body : Bytes) : Res IpTemplate :=
  match beU 2 body with
  | none => .err
  | some (id, r) =>
    match beU 2 r with
    | none => .err
    | some (fc, r1) =>
      match many0NC parseIpTField r1 with
      | .ok (fs, pad) => .ok { id := id, fieldCount := fc, fields := fs, pad := pad }
      | .err => .err
      | .outOfFuel => .overflow

@[csimp] theorem parseIpTemplate_eq : @parseIpTemplate = @parseIpTemplateF := by
  funext body
  simp only [parseIpTemplate, parseIpTemplateF, many0_eq_NC parseIpTField_progress]
  rfl

def parseIpOptTemplateC (body : Bytes) : Res IpOptTemplate :=
  match beU 2 body with
  | none => .err
  | some (id, r) =>
    match beU 2 r with
    | none => .err
    | some (fc, r1) =>
      match beU 2 r1 with
      | none => .err
      | some (sc, r2) =>
        let combined := if sc ≤ fc then fc else min (sc + fc) 65535
        match countP parseIpTField combined r2 with
        | none => .err
        | some (fs, pad) => .ok { id := id, fieldCount := fc, scopeCount := sc, fields := fs, pad := pad }

@[csimp] theorem parseIpOptTemplate_eq : @parseIpOptTemplate = @parseIpOptTemplateC := rfl

/-! #### measured record parser: also returns the number of bytes consumed -/

/-- forget the count -/
def unmeas {α : Type} (x : α × Bytes × Nat) : α × Bytes := (x.1, x.2.1)

def ipFieldLengthM (f : IpTField) (i : Bytes) : Option (Nat × Bytes × Nat) :=
  if f.len = 65535 then
    match beU 1 i with
    | none => none
    | some (l, r) =>
      if l = 255 then
        match beU 2 r with
        | none => none
        | some (l2, r2) => some (l2, r2, 3)
      else some (l, r, 1)
  else some (f.len, i, 0)

theorem ipFieldLengthM_unmeas (f : IpTField) (i : Bytes) : (ipFieldLengthM f i).map unmeas = ipFieldLength f i := by
  unfold ipFieldLength ipFieldLengthM
  split
  · cases beU 1 i with
    | none => rfl
    | some x =>
      dsimp only
      split
      · cases beU 2 x.2 <;> rfl
      · rfl
  · rfl

theorem ipFieldLengthM_len {f : IpTField} {i r : Bytes} {l k : Nat} (h : ipFieldLengthM f i = some (l, r, k)) :
    i.length = r.length + k := by
  unfold ipFieldLengthM at h
  split at h
  · split at h
    · cases h
    · next h1 =>
      have := beU_len h1
      split at h
      · split at h
        · cases h
        · next h2 =>
          have := beU_len h2
          cases h
          omega
      · cases h
        omega
  · cases h
    rfl

def ipParseValueM (c : Config) (f : IpTField) (i : Bytes) : Option (FieldValue × Bytes × Nat) :=
  match ipFieldLengthM f i with
  | none => none
  | some (len, r, k) =>
    match f.ent with
    | some _ =>
      match takeN len r with
      | none => none
      | some (b, r') => some (.vec b, r', k + len)
    | none =>
      match parseValue c.vc (c.t.ipTy (c.t.ipField f.typ)) len r with
      | none => none
      | some (v, r') => some (v, r', k + valWidth (c.t.ipTy (c.t.ipField f.typ)) len)

theorem ipParseValueM_unmeas (c : Config) (f : IpTField) (i : Bytes) :
    (ipParseValueM c f i).map unmeas = ipParseValue c f i := by
  unfold ipParseValue ipParseValueM
  rw [← ipFieldLengthM_unmeas]
  cases ipFieldLengthM f i with
  | none => rfl
  | some x =>
    dsimp only [Option.map, unmeas]
    generalize f.ent = e
    cases e with
    | some _ => cases takeN x.1 x.2.1 <;> rfl
    | none => cases parseValue c.vc (c.t.ipTy (c.t.ipField f.typ)) x.1 x.2.1 <;> rfl

theorem ipParseValueM_len {c : Config} {f : IpTField} {i r : Bytes} {v : FieldValue} {k : Nat}
    (h : ipParseValueM c f i = some (v, r, k)) : i.length = r.length + k := by
  unfold ipParseValueM at h
  split at h
  · cases h
  · next hl =>
    have := ipFieldLengthM_len hl
    split at h
    · split at h
      · cases h
      · next ht =>
        have := takeN_len ht
        cases h
        omega
    · split at h
      · cases h
      · next hp =>
        have := parseValue_len hp
        cases h
        omega

def ipParseRecM (c : Config) : List IpTField → Nat → Bytes → Option (List Rec × Bytes × Nat)
  | [], _, i => some ([], i, 0)
  | f :: fs, idx, i =>
    match ipParseValueM c f i with
    | none => none
    | some (v, r, k) =>
      match ipParseRecM c fs (idx + 1) r with
      | none => none
      | some (es, r', k') => some ([(idx, ipFieldDisc c f, v)] :: es, r', k + k')

theorem ipParseRecM_unmeas (c : Config) : ∀ (fs : List IpTField) (idx : Nat) (i : Bytes),
    (ipParseRecM c fs idx i).map unmeas = ipParseRec c fs idx i := by
  intro fs
  induction fs with
  | nil => intro idx i; rfl
  | cons f fs ih =>
    intro idx i
    simp only [ipParseRec, ipParseRecM, ← ipParseValueM_unmeas, ← ih]
    cases ipParseValueM c f i with
    | none => rfl
    | some x =>
      dsimp only [Option.map, unmeas]
      cases ipParseRecM c fs (idx + 1) x.2.1 <;> rfl

theorem ipParseRecM_len (c : Config) : ∀ (fs : List IpTField) (idx : Nat) (i r : Bytes) (es : List Rec) (k : Nat),
    ipParseRecM c fs idx i = some (es, r, k) → i.length = r.length + k := by
  intro fs
  induction fs with
  | nil => intro idx i r es k h; cases h; rfl
  | cons f fs ih =>
    intro idx i r es k h
    simp only [ipParseRecM] at h
    split at h
    · cases h
    · next hv =>
      have := ipParseValueM_len hv
      split at h
      · cases h
      · next hr =>
        have := ih _ _ _ _ _ hr
        cases h
        omega

/-- `ipRecLoop` with the length `n = i.length` of the remaining input threaded through and the
    per-record consumption taken from the measured record parser -/
def ipRecLoopM (c : Config) (fs : List IpTField) : Nat → Nat → Bytes → Res (List Rec × Bytes)
  | 0, _, _ => .overflow
  | fuel + 1, n, i =>
    match ipParseRecM c fs 0 i with
    | none => .err
    | some (es, r, taken) =>
      if taken = 0 then .ok (es, r)
      else if n - taken ≥ taken then
        match ipRecLoopM c fs fuel (n - taken) r with
        | .ok (more, r') => .ok (es ++ more, r')
        | .err => .err
        | .panic => .panic
        | .overflow => .overflow
      else .ok (es, r)

def ipRecLoopF (c : Config) (fs : List IpTField) (fuel : Nat) (i : Bytes) : Res (List Rec × Bytes) :=
  ipRecLoopM c fs fuel i.length i

theorem ipRecLoopM_eq (c : Config) (fs : List IpTField) :
    ∀ (fuel : Nat) (i : Bytes), ipRecLoopM c fs fuel i.length i = ipRecLoop c fs fuel i := by
  intro fuel
  induction fuel with
  | zero => intro i; rfl
  | succ fuel ih =>
    intro i
    simp only [ipRecLoopM, ipRecLoop, ← ipParseRecM_unmeas]
    cases h : ipParseRecM c fs 0 i with
    | none => rfl
    | some x =>
      obtain ⟨es, r, k⟩ := x
      have := ipParseRecM_len c fs 0 i r es k h
      have a1 : i.length - r.length = k := by omega
      have a2 : i.length - k = r.length := by omega
      simp only [Option.map, unmeas, a1, a2, ih]
      rfl

@[csimp] theorem ipRecLoop_eq : @ipRecLoop = @ipRecLoopF := by
  funext c fs fuel i
  exact (ipRecLoopM_eq c fs fuel i).symm

def ipParseBodyC (c : Config) (st : PState) (id : Nat) (body : Bytes) : PState × Res IpBody :=
  if id < c.t.ipSetMinRange ∧ id ≠ c.t.ipOptTemplateId then
    match parseIpTemplate body with
    | .ok t => if ipValid t.fields then ({ st with ipT := amInsert t.id t st.ipT, ipO := amErase t.id st.ipO }, .ok (.template t)) else (st, .err)
    | .err => (st, .err)
    | .panic => (st, .panic)
    | .overflow => (st, .overflow)
  else if id = c.t.ipOptTemplateId then
    match parseIpOptTemplate body with
    | .ok t => if ipValid t.fields then ({ st with ipO := amInsert t.id t st.ipO, ipT := amErase t.id st.ipT }, .ok (.optTemplate t)) else (st, .err)
    | .err => (st, .err)
    | .panic => (st, .panic)
    | .overflow => (st, .overflow)
  else
    match amLookup id st.ipT with
    | some t =>
      if t.fields.isEmpty then (st, .err)
      else
        match ipRecLoop c t.fields (body.length + 1) body with
        | .ok (recs, pad) => (st, .ok (.data recs pad))
        | .err => (st, .err)
        | .panic => (st, .panic)
        | .overflow => (st, .overflow)
    | none =>
      match amLookup id st.ipO with
      | some t =>
        if t.fields.isEmpty then (st, .err)
        else
          match ipRecLoop c t.fields (body.length + 1) body with
          | .ok (recs, pad) => (st, .ok (.optData recs pad))
          | .err => (st, .err)
          | .panic => (st, .panic)
          | .overflow => (st, .overflow)
      | none => (st, .err)

@[csimp] theorem ipParseBody_eq : @ipParseBody = @ipParseBodyC := rfl

def ipParseSetC (c : Config) (st : PState) (i : Bytes) : PState × Res (IpSet × Bytes) :=
  match parseLayout c.t.protoFromU8 c.t.ipSetHdr i with
  | none => (st, .err)
  | some (h, r) =>
    let id := c.t.ipSetHdr.get "header_id" h
    let len := c.t.ipSetHdr.get "length" h
    match takeN (len - 4) r with
    | none => (st, .err)
    | some (body, r') =>
      match ipParseBody c st id body with
      | (st', .ok b) => (st', .ok ({ id := id, len := len, body := b }, r'))
      | (st', .err) => (st', .err)
      | (st', .panic) => (st', .panic)
      | (st', .overflow) => (st', .overflow)

@[csimp] theorem ipParseSet_eq : @ipParseSet = @ipParseSetC := rfl

/-- a decoded set occupies its header plus `len - 4` bytes -/
theorem ipParseSet_len {c : Config} {st st' : PState} {i r : Bytes} {s : IpSet}
    (h : ipParseSet c st i = (st', .ok (s, r))) :
    i.length = r.length + (c.t.ipSetHdr.wireLen + (s.len - 4)) := by
  obtain ⟨hd, r1, body, b, hl, ht, _, rfl⟩ := ipParseSet_ok_inv h
  have h1 : c.t.ipSetHdr.wireLen + r1.length = i.length := parseLayout_sized _ _ _ _ _ hl
  have := takeN_len ht
  dsimp only
  omega

/-- `ipParseSets` with the no-progress test computed from the decoded set instead of two `length`s -/
def ipParseSetsF (c : Config) : Nat → PState → Bytes → PState × Res (List IpSet)
  | 0, st, _ => (st, .overflow)
  | fuel + 1, st, i =>
    match ipParseSet c st i with
    | (st', .ok (s, r)) =>
      if c.t.ipSetHdr.wireLen + (s.len - 4) = 0 then (st', .err)
      else
        match ipParseSetsF c fuel st' r with
        | (st'', .ok ss) => (st'', .ok (s :: ss))
        | (st'', .err) => (st'', .err)
        | (st'', .panic) => (st'', .panic)
        | (st'', .overflow) => (st'', .overflow)
    | (st', .err) => (st', .ok [])
    | (st', .panic) => (st', .panic)
    | (st', .overflow) => (st', .overflow)

@[csimp] theorem ipParseSets_eq : @ipParseSets = @ipParseSetsF := by
  funext c fuel
  induction fuel with
  | zero => rfl
  | succ fuel ih =>
    funext st i
    simp only [ipParseSets, ipParseSetsF, ih]
    cases h : ipParseSet c st i with
    | mk st' res =>
      cases res with
      | ok x =>
        obtain ⟨s, r⟩ := x
        have hl := ipParseSet_len h
        have e : (r.length = i.length) = (c.t.ipSetHdr.wireLen + (s.len - 4) = 0) :=
          propext ⟨fun _ => by omega, fun _ => by omega⟩
        simp only [e]
        rfl
      | err => rfl
      | panic => rfl
      | overflow => rfl

def parseIpfixC (c : Config) (st : PState) (i : Bytes) : PState × Res (Packet × Bytes) :=
  match parseLayout c.t.protoFromU8 c.t.ipHdr i with
  | none => (st, .err)
  | some (h, r) =>
    match takeN (c.t.ipHdr.get "length" h - 16) r with
    | none => (st, .err)
    | some (body, r') =>
      match ipParseSets c (body.length + 1) st body with
      | (st', .ok ss) => (st', .ok (.ipfix h ss, r'))
      | (st', .err) => (st', .err)
      | (st', .panic) => (st', .panic)
      | (st', .overflow) => (st', .overflow)

@[csimp] theorem parseIpfix_eq : @parseIpfix = @parseIpfixC := by
  funext c st i
  simp only [parseIpfix, parseIpfixC]
  cases parseLayout c.t.protoFromU8 c.t.ipHdr i with
  | none => rfl
  | some x =>
    obtain ⟨h, r⟩ := x
    simp only []
    cases takeN (c.t.ipHdr.get "length" h - 16) r with
    | none => rfl
    | some y =>
      obtain ⟨body, r'⟩ := y
      simp only []
      generalize ipParseSets c (body.length + 1) st body = z
      rfl

def parseFixedC (c : Config) (hdr rec : Layout) (i : Bytes) : Option ((List Nat × List (List Nat)) × Bytes) :=
  match parseLayout c.t.protoFromU8 hdr i with
  | none => none
  | some (h, r) =>
    match countP (parseLayout c.t.protoFromU8 rec) (hdr.get "count" h) r with
    | none => none
    | some (recs, r') => some ((h, recs), r')

@[csimp] theorem parseFixed_eq : @parseFixed = @parseFixedC := rfl

def parseVersionedC (c : Config) (st : PState) (kind : Nat) (body : Bytes) : PState × Step :=
  if kind = 5 then
    match parseFixed c c.t.v5Hdr c.t.v5Rec body with
    | some ((h, rs), r) => (st, .ok (.v5 h rs) r)
    | none => (st, .fail (.partialParse 5 body))
  else if kind = 7 then
    match parseFixed c c.t.v7Hdr c.t.v7Rec body with
    | some ((h, rs), r) => (st, .ok (.v7 h rs) r)
    | none => (st, .fail (.partialParse 7 body))
  else if kind = 9 then
    ((parseV9 c st body).1, liftRes 9 body (parseV9 c st body).2)
  else if kind = 10 then
    ((parseIpfix c st body).1, liftRes 10 body (parseIpfix c st body).2)
  else (st, .fail (.unknownVersion body))

@[csimp] theorem parseVersioned_eq : @parseVersioned = @parseVersionedC := rfl

def parsePacketC (c : Config) (st : PState) (buf : Bytes) : PState × Step :=
  match beU 2 buf with
  | none => (st, .fail .incomplete)
  | some (version, body) =>
    if c.allowed.contains version then
      match c.t.dispatch.lookup version with
      | some kind => parseVersioned c st kind body
      | none => (st, .fail (.unknownVersion body))
    else (st, .unallowed)

@[csimp] theorem parsePacket_eq : @parsePacket = @parsePacketC := rfl

def parseBytesFC (c : Config) : Nat → PState → Bytes → PState × Outcome
  | 0, st, _ => (st, .overflow [])
  | fuel + 1, st, buf =>
    if buf.isEmpty then (st, .done [])
    else
      match parsePacket c st buf with
      | (st', .ok pkt rest) =>
        if rest.isEmpty then (st', .done [pkt])
        else
          match parseBytesFC c fuel st' rest with
          | (st'', out) => (st'', out.cons pkt)
      | (st', .fail e) => (st', .done [.error e buf])
      | (st', .unallowed) => (st', .done [])
      | (st', .panic) => (st', .panic [])
      | (st', .overflow) => (st', .overflow [])

@[csimp] theorem parseBytesF_eq : @parseBytesF = @parseBytesFC := by
  funext c fuel
  induction fuel with
  | zero => rfl
  | succ fuel ih => funext st buf; simp only [parseBytesF, parseBytesFC, ih]; rfl

def parseBytesC (c : Config) (st : PState) (buf : Bytes) : PState × Outcome :=
  parseBytesF c (buf.length + 1) st buf

@[csimp] theorem parseBytes_eq : @parseBytes = @parseBytesC := rfl

/-! ### Findings.lean : `varlenTail` recomputed `rest.sum` for every record -/

/-- one pass from the right: (sum of the list, `varlenTail.go` of the list) -/
def vtGo (p : Nat) : List Nat → Nat × Bool
  | [] => (0, false)
  | s :: rest =>
    let x := vtGo p rest
    (s + x.1, (!rest.isEmpty && decide (s > x.1 + p)) || x.2)

theorem vtGo_eq (pad : Bytes) : ∀ l : List Nat, vtGo pad.length l = (l.sum, Findings.varlenTail.go pad l)
  | [] => by simp [vtGo, Findings.varlenTail.go]
  | [s] => by simp [vtGo, Findings.varlenTail.go]
  | s :: t :: rest => by
    rw [vtGo, vtGo_eq pad (t :: rest)]
    simp [Findings.varlenTail.go]

def varlenTailF (recs : List (List Spec.FieldBytes)) (pad : Bytes) : Bool :=
  (vtGo pad.length (recs.map fun r => (r.map Findings.fieldBytesSize).sum)).2

@[csimp] theorem varlenTail_eq : @Findings.varlenTail = @varlenTailF := by
  funext recs pad
  simp only [Findings.varlenTail, varlenTailF, vtGo_eq]

open Findings in
def inputClassesC (c : Config) (d : Spec.Defs) (msgs : List Spec.Msg) : List String :=
  let ipSets := msgs.flatMap fun m => match m with | .ipfix x => x.sets | _ => []
  let v9Sets := msgs.flatMap fun m => match m with | .v9 x => x.sets | _ => []
  (if ipSets.any (fun s => match s with | .templates ts _ => ts.length ≥ 2 | .optTemplates ts _ => ts.length ≥ 2 | _ => false)
    then ["ipfix-multi-template-set"] else []) ++
  (if ipSets.any (fun s => match s with | .data _ recs pad => varlenTail recs pad | _ => false) then ["ipfix-varlen-tail"] else []) ++
  (if ipSets.any (fun s => match s with | .data _ recs _ => recs.any (fun r => r.any fun f => f.form != .fixed) | _ => false)
    then ["ipfix-varlen-field"] else []) ++
  (if ipSets.any (fun s => match s with | .data _ recs _ => recs.any (fun r => r.any fun f => signedWide f.content) | _ => false) ||
      v9Sets.any (fun s => match s with | .data _ recs _ => recs.any (fun r => r.any signedWide) | _ => false)
    then ["signed-wide-candidate"] else []) ++
  (let optIds := (v9Sets.flatMap fun s => match s with | .optTemplates ts _ => ts.map (·.id) | _ => []) ++
      (d.v9.filterMap fun e => match e.2 with | .o _ => some e.1 | _ => none)
   if v9Sets.any (fun s => match s with
      | .data id recs _ => optIds.contains id && recs.length ≥ 2
      | _ => false) then ["v9-options-multi-record"] else []) ++
  (let hasProto (fs : List TField) : Bool := fs.any fun f => c.t.v9Ty (c.t.v9Field f.typ) == .proto
   let protoTemplates :=
     (v9Sets.any fun s => match s with | .templates ts _ => ts.any (fun t => hasProto t.fields) | _ => false) ||
     (d.v9.any fun e => match e.2 with | .t t => hasProto t.fields | _ => false)
   if protoTemplates && v9Sets.any (fun s => match s with
      | .data _ recs _ => recs.any fun r => r.any fun b => b.length == 1 && 146 ≤ beNat b && beNat b ≤ 254
      | _ => false) then ["v9-proto-146-254"] else [])

@[csimp] theorem inputClasses_eq : @Findings.inputClasses = @inputClassesC := rfl

/-! ### Preds.lean / Oracle.lean : the per-call oracles walk the buffer packet by packet and asked
    for `buf.length` (or called the old `beU`) at every packet -/

open Preds in
def versionOfC (buf : Bytes) : Option Nat :=
  match beU 2 buf with
  | some (v, _) => some v
  | none => none

@[csimp] theorem versionOf_eq : @Preds.versionOf = @versionOfC := rfl

open Preds in
def errConsistentF (buf : Bytes) : ErrKind → Bool
  | .incomplete => !lenGe 2 buf
  | .partialParse v body => decide (versionOf buf = some v) && body == buf.drop 2
  | .unknownVersion body => lenGe 2 buf && body == buf.drop 2

@[csimp] theorem errConsistent_eq : @Preds.errConsistent = @errConsistentF := by
  funext buf k
  cases k
  case incomplete =>
    simp only [Preds.errConsistent, errConsistentF, lenGe_eq]
    by_cases h : 2 ≤ buf.length
    · simp [h, Nat.not_lt.mpr h]
    · simp [h, Nat.lt_of_not_le h]
  case partialParse v body => rfl
  case unknownVersion body => simp [Preds.errConsistent, errConsistentF, lenGe_eq]

open Preds in
def decomposesF (c : Config) : Bytes → List Packet → Bool
  | buf, [] =>
    buf.isEmpty ||
    (match versionOf buf with
     | some v => !c.allowed.contains v
     | none => false)
  | buf, [.error k rem] => !buf.isEmpty && rem == buf && errConsistent buf k
  | buf, p :: ps =>
    match wireLen c p with
    | none => false
    | some n => decide (0 < n) && lenGe n buf && decomposesF c (buf.drop n) ps

@[csimp] theorem decomposes_eq : @Preds.decomposes = @decomposesF := by
  funext c buf pkts
  induction pkts generalizing buf with
  | nil => simp only [Preds.decomposes, decomposesF]; rfl
  | cons p ps ih =>
    cases ps with
    | nil =>
      cases p <;> simp only [Preds.decomposes, decomposesF, lenGe_eq] <;> rfl
    | cons q qs =>
      simp only [Preds.decomposes, decomposesF, lenGe_eq, ih]; rfl

open Preds in
def takeAllowedC (cAll : Config) (S : List Nat) : Nat → Bytes → List Packet → List Packet
  | 0, _, _ => []
  | _ + 1, _, [] => []
  | fuel + 1, buf, p :: ps =>
    match versionOf buf with
    | none => [p]
    | some v =>
      if !S.contains v then []
      else
        match wireLen cAll p with
        | none => [p]
        | some n => p :: takeAllowedC cAll S fuel (buf.drop n) ps

@[csimp] theorem takeAllowed_eq : @Preds.takeAllowed = @takeAllowedC := by
  funext cAll S fuel
  induction fuel with
  | zero => funext buf pkts; simp only [Preds.takeAllowed, takeAllowedC]
  | succ fuel ih =>
    funext buf pkts
    cases pkts with
    | nil => simp only [Preds.takeAllowed, takeAllowedC]
    | cons p ps => simp only [Preds.takeAllowed, takeAllowedC, ih]; rfl

open Preds in
/-- `c03ok` with `buf.length < a` computed as `!lenGe a buf` -/
def c03okF (c : Config) (names : List (Nat × String)) : Nat → Bytes → List Packet → Bool
  | 0, _, _ => true
  | fuel + 1, buf, pkts =>
    match versionOf buf with
    | none => true
    | some v =>
      if !c.allowed.contains v then true
      else
        let fixed (hdrLay recLay : Layout) (hdrSpec recSpec : List (String × Nat)) (isV : Packet → Option (List Nat × List (List Nat))) : Bool :=
          let need := Spec.totalLen hdrSpec + Spec.totalLen recSpec * beNat ((buf.drop 2).take 2)
          if lenGe (Spec.totalLen hdrSpec) buf = false ∨ lenGe need buf = false then
            (match pkts with
             | [.error _ _] => true
             | _ => false)
          else
            match pkts with
            | p :: ps =>
              (match isV p with
               | some (h, rs) => fixedDecodes names hdrLay recLay hdrSpec recSpec buf h rs && c03okF c names fuel (buf.drop need) ps
               | none => false)
            | [] => false
        if v = 5 then
          fixed c.t.v5Hdr c.t.v5Rec Spec.ciscoV5Hdr Spec.ciscoV5Rec (fun p => match p with | .v5 h rs => some (h, rs) | _ => none)
        else if v = 7 then
          fixed c.t.v7Hdr c.t.v7Rec Spec.ciscoV7Hdr Spec.ciscoV7Rec (fun p => match p with | .v7 h rs => some (h, rs) | _ => none)
        else
          match pkts with
          | p :: ps =>
            (match wireLen c p with
             | some n => if n = 0 then true else c03okF c names fuel (buf.drop n) ps
             | none => true)
          | [] => true

theorem lenGe_false {α : Type} (n : Nat) (i : List α) : (lenGe n i = false) = (i.length < n) := by
  rw [lenGe_eq]; simp

@[csimp] theorem c03ok_eq : @Preds.c03ok = @c03okF := by
  funext c names fuel
  induction fuel with
  | zero => rfl
  | succ fuel ih =>
    funext buf pkts
    simp only [Preds.c03ok, c03okF, ih, lenGe_false]
    rfl

open Preds in
def parseOraclesC (c : Config) (_st : PState) (buf : Bytes) (a : ParseAns) (sv : Option SpecView) (wExport wCommon : Bool) : List (String × Bool) :=
  let done := a.outcome == "done"
  [ ("C01", done && a.exports.all (fun e => e != some .panic)),
    ("C02", !done || decomposes c buf a.pkts),
    ("C03", !done || c03ok c names (buf.length + 1) buf a.pkts),
    ("C08", !done || !wExport || reexportOk c isFixedPkt buf a.pkts a.exports),
    ("C09", !done || !wExport || reexportOk c isV9Pkt buf a.pkts a.exports),
    ("C10", !done || !wExport || reexportOk c isIpfixPkt buf a.pkts a.exports),
    ("C13", !done || !wCommon || commonOkDup c names a.pkts a.common) ] ++
  (match sv with
   | some v =>
     if v.conformant then
       let agree (sel : Nat → Bool) : Bool :=
         done && a.pkts.length == v.pkts.length && (v.pkts.zip a.pkts).all fun p =>
           match p.1 with
           | .pkt e => !sel (expVersion e) || e == p.2
           | .inexpressible ver => !sel ver
       [("C03spec", agree (fun v => v == 5 || v == 7)), ("C04", agree (· == 9)), ("C05", agree (· == 10)),
        ("C06", agree (fun v => v == 9 || v == 10))]
     else []
   | none => [])

@[csimp] theorem parseOracles_eq : @Preds.parseOracles = @parseOraclesC := rfl

end Netflow.Fast
