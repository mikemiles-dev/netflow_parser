/-
  JsonRead.lean — an independent, NAME-KEYED reader of the JSON tree of a decoded packet (C16 read-back).

  `toJ` (Json.lean) is the model of `serde_json::to_value(&NetflowPacket)`.  This file defines, without
  referring to `toJ`, to a `Config` or to the enum name tables,
  * `NormPkt`   the NORMAL FORM of a decoded packet: exactly what a JSON consumer can see.  Header / record
                structs of V5, V7, V9, IPFIX are `(Rust field name, value)` lists; paddings are absent
                (`#[serde(skip_serializing)]`); a `DataNumber` is its integer value (the enum is
                `#[serde(untagged)]`, the width tag is not written); values whose JSON form is TEXT
                (`Ipv4Addr`, `Ipv6Addr`, MAC strings, enum variant names of `ProtocolTypes` / `V9Field` /
                `IPFixField` / `ScopeFieldType` / `ScopeDataField`) stay text; error elements keep their
                `remaining` bytes; error message strings (free text of nom) are dropped.
  * `readJ`     a reader `Schema → JVal → Option NormPkt` that finds every member of every struct BY NAME
                (`List.lookup` on the member list, never a position), recognises every externally tagged enum by
                its TAG, and reads a record (`BTreeMap<usize, (Field, FieldValue)>`) from the object whose member
                names are decimal indices: each name is parsed as a decimal number and the entries are
                inserted into an index-sorted map, so the result does not depend on the order of the members.
                The only positional reads are JSON arrays (Rust `Vec`s and the 2-tuple `(Field, FieldValue)`).
  The `Schema` is the list of Rust field names of the six derive(Nom) structs (V5/V7/V9/IPFIX header, V5/V7 record).
  Definitions only; the theorems are in Lemmas/ReadBack.lean and Props/C16c.lean.  Core only.
-/
import NetflowModel.Json
namespace Netflow

/-! ### the normal form -/

/-- a scalar member of a fixed-layout struct: a JSON number, or a JSON string (dotted `Ipv4Addr`, enum variant name) -/
inductive NVal where
  | nat (n : Nat)
  | text (utf8 : Bytes)
  deriving Repr, DecidableEq

/-- a fixed-layout struct: `(Rust field name, value)` in declaration order of the schema -/
abbrev NStruct := List (String × NVal)

/-- `FieldValue` as JSON shows it -/
inductive NFieldValue where
  | str (utf8 : Bytes)              -- `"String"`
  | num (z : Int)                   -- `"DataNumber"`: the value, whatever the width tag was
  | f64 (bits : Nat)                -- `"Float64"`
  | dur (secs nanos : Nat)          -- `"Duration"` → `secs`, `nanos`
  | ip4 (text : Bytes)              -- `"Ip4Addr"`: dotted text
  | ip6 (text : Bytes)              -- `"Ip6Addr"`: RFC 5952 text
  | mac (text : Bytes)              -- `"MacAddr"`: `AA:BB:…` text
  | vec (b : Bytes)                 -- `"Vec"`
  | proto (name : Bytes)            -- `"ProtocolType"`: variant name
  | unknown (b : Bytes)             -- `"Unknown"`
  deriving Repr, DecidableEq

/-- one record entry: (index in the template, name of the field enum variant, value) -/
abbrev NEntry := Nat × Bytes × NFieldValue
/-- a record: entries in ascending index order (the canonical form of a finite map) -/
abbrev NRec := List NEntry

/-- a template field: `field_type_number`, `field_type` (variant name), `field_length`, `enterprise_number` (IPFIX, optional) -/
structure NTField where
  typ : Nat
  name : Bytes
  len : Nat
  ent : Option Nat
  deriving Repr, DecidableEq

structure NV9Template where
  id : Nat
  fieldCount : Nat
  fields : List NTField
  deriving Repr, DecidableEq

structure NV9OptTemplate where
  id : Nat
  scopeLen : Nat
  optLen : Nat
  scope : List NTField
  opts : List NTField
  deriving Repr, DecidableEq

inductive NV9Body where
  | templates (ts : List NV9Template)
  | optTemplates (ts : List NV9OptTemplate)
  | data (recs : List NRec)
  | optData (scope : List (String × Bytes)) (opts : List (Bytes × Bytes))   -- (`ScopeDataField` variant, bytes), (`V9Field` variant name, bytes)
  deriving Repr, DecidableEq

structure NV9Set where
  id : Nat
  len : Nat
  body : NV9Body
  deriving Repr, DecidableEq

inductive NIpBody where
  | template (id fieldCount : Nat) (fields : List NTField)
  | optTemplate (id fieldCount scopeCount : Nat) (fields : List NTField)
  | data (recs : List NRec)
  | optData (recs : List NRec)
  deriving Repr, DecidableEq

structure NIpSet where
  id : Nat
  len : Nat
  body : NIpBody
  deriving Repr, DecidableEq

inductive NErr where
  | incomplete
  | partialParse (version : Nat) (remaining : Bytes)
  | unknownVersion (remaining : Bytes)
  deriving Repr, DecidableEq

inductive NormPkt where
  | v5 (hdr : NStruct) (recs : List NStruct)
  | v7 (hdr : NStruct) (recs : List NStruct)
  | v9 (hdr : NStruct) (sets : List NV9Set)
  | ipfix (hdr : NStruct) (sets : List NIpSet)
  | error (kind : NErr) (remaining : Bytes)
  deriving Repr, DecidableEq

/-- the Rust field names of the six fixed-layout structs, in declaration order -/
structure Schema where
  v5Hdr : List String
  v5Rec : List String
  v7Hdr : List String
  v7Rec : List String
  v9Hdr : List String
  ipHdr : List String
  deriving Repr, DecidableEq

namespace JRead

/-! ### generic getters -/

/-- all-or-nothing map -/
def optAll {α β : Type} (f : α → Option β) : List α → Option (List β)
  | [] => some []
  | a :: as =>
    match f a, optAll f as with
    | some b, some bs => some (b :: bs)
    | _, _ => none

/-- the member called `k` of an object -/
def field (k : String) : JVal → Option JVal
  | .obj kvs => kvs.lookup k
  | _ => none

def getNat : JVal → Option Nat
  | .num z => if 0 ≤ z then some z.toNat else none
  | _ => none

def getInt : JVal → Option Int
  | .num z => some z
  | _ => none

def getStr : JVal → Option Bytes
  | .str b => some b
  | _ => none

def getArr : JVal → Option (List JVal)
  | .arr xs => some xs
  | _ => none

def getByte : JVal → Option UInt8
  | .num z => if 0 ≤ z ∧ z < 256 then some (UInt8.ofNat z.toNat) else none
  | _ => none

/-- a `Vec<u8>` -/
def getBytes (j : JVal) : Option Bytes :=
  match getArr j with
  | some xs => optAll getByte xs
  | none => none

/-- an externally tagged enum value: an object with exactly one member, `(variant name, content)` -/
def getTagged : JVal → Option (String × JVal)
  | .obj [(t, v)] => some (t, v)
  | _ => none

/-- member `k`, read with `g` -/
def fieldWith {α : Type} (k : String) (g : JVal → Option α) (j : JVal) : Option α :=
  match field k j with
  | some v => g v
  | none => none

/-- member `k` if present -/
def fieldOpt {α : Type} (k : String) (g : JVal → Option α) (j : JVal) : Option (Option α) :=
  match field k j with
  | some v => (g v).map some
  | none => some none

/-- array member `k`, every element read with `g` -/
def fieldArr {α : Type} (k : String) (g : JVal → Option α) (j : JVal) : Option (List α) :=
  match fieldWith k getArr j with
  | some xs => optAll g xs
  | none => none

/-! ### fixed-layout structs: every schema name is looked up in the object -/

def readScalar : JVal → Option NVal
  | .num z => if 0 ≤ z then some (.nat z.toNat) else none
  | .str b => some (.text b)
  | _ => none

def readStruct (names : List String) (j : JVal) : Option NStruct :=
  optAll (fun n => (fieldWith n readScalar j).map fun v => (n, v)) names

/-! ### records -/

/-- a decimal index used as member name (`usize` map keys are written as decimal strings) -/
def keyNat (s : String) : Option Nat :=
  let cs := s.toList
  if cs ≠ [] ∧ cs.all Char.isDigit = true then some (Nat.ofDigitChars 10 cs 0) else none

def readFieldValue (j : JVal) : Option NFieldValue :=
  match getTagged j with
  | none => none
  | some (t, v) =>
    if t = "String" then (getStr v).map .str
    else if t = "DataNumber" then (getInt v).map .num
    else if t = "Float64" then (match v with | .f64 b => some (.f64 b) | _ => none)
    else if t = "Duration" then
      (match fieldWith "secs" getNat v, fieldWith "nanos" getNat v with
       | some s, some n => some (.dur s n)
       | _, _ => none)
    else if t = "Ip4Addr" then (getStr v).map .ip4
    else if t = "Ip6Addr" then (getStr v).map .ip6
    else if t = "MacAddr" then (getStr v).map .mac
    else if t = "Vec" then (getBytes v).map .vec
    else if t = "ProtocolType" then (getStr v).map .proto
    else if t = "Unknown" then (getBytes v).map .unknown
    else none

/-- the tuple `(Field, FieldValue)`: a two-element array -/
def readEntry : JVal → Option (Bytes × NFieldValue)
  | .arr [a, b] =>
    (match getStr a, readFieldValue b with
     | some n, some v => some (n, v)
     | _, _ => none)
  | _ => none

/-- the members of a record object, each keyed by its decimal name, collected into an index-sorted map -/
def readMembers : List (String × JVal) → Option NRec
  | [] => some []
  | (k, v) :: rest =>
    match keyNat k, readEntry v, readMembers rest with
    | some i, some e, some r => some (amInsert i e r)
    | _, _, _ => none

def readRec : JVal → Option NRec
  | .obj kvs => readMembers kvs
  | _ => none

/-! ### template definitions -/

def readTField (j : JVal) : Option NTField :=
  match fieldWith "field_type_number" getNat j, fieldWith "field_type" getStr j, fieldWith "field_length" getNat j,
        fieldOpt "enterprise_number" getNat j with
  | some t, some n, some l, some e => some { typ := t, name := n, len := l, ent := e }
  | _, _, _, _ => none

def readV9Template (j : JVal) : Option NV9Template :=
  match fieldWith "template_id" getNat j, fieldWith "field_count" getNat j, fieldArr "fields" readTField j with
  | some i, some n, some fs => some { id := i, fieldCount := n, fields := fs }
  | _, _, _ => none

def readV9OptTemplate (j : JVal) : Option NV9OptTemplate :=
  match fieldWith "template_id" getNat j, fieldWith "options_scope_length" getNat j, fieldWith "options_length" getNat j,
        fieldArr "scope_fields" readTField j, fieldArr "option_fields" readTField j with
  | some i, some sl, some ol, some ss, some os => some { id := i, scopeLen := sl, optLen := ol, scope := ss, opts := os }
  | _, _, _, _, _ => none

/-! ### V9 sets -/

/-- `ScopeDataField`: externally tagged, content = the bytes -/
def readScopeData (j : JVal) : Option (String × Bytes) :=
  match getTagged j with
  | some (t, v) => (getBytes v).map fun b => (t, b)
  | none => none

def readOptionData (j : JVal) : Option (Bytes × Bytes) :=
  match fieldWith "field_type" getStr j, fieldWith "field_value" getBytes j with
  | some n, some b => some (n, b)
  | _, _ => none

def readV9Body (j : JVal) : Option NV9Body :=
  match getTagged j with
  | none => none
  | some (t, v) =>
    if t = "Template" then (fieldArr "templates" readV9Template v).map .templates
    else if t = "OptionsTemplate" then (fieldArr "templates" readV9OptTemplate v).map .optTemplates
    else if t = "Data" then (fieldArr "fields" readRec v).map .data
    else if t = "OptionsData" then
      (match fieldArr "scope_fields" readScopeData v, fieldArr "options_fields" readOptionData v with
       | some ss, some os => some (.optData ss os)
       | _, _ => none)
    else none

def readV9Set (j : JVal) : Option NV9Set :=
  match field "header" j, fieldWith "body" readV9Body j with
  | some h, some b =>
    (match fieldWith "flowset_id" getNat h, fieldWith "length" getNat h with
     | some i, some l => some { id := i, len := l, body := b }
     | _, _ => none)
  | _, _ => none

/-! ### IPFIX sets -/

def readIpBody (j : JVal) : Option NIpBody :=
  match getTagged j with
  | none => none
  | some (t, v) =>
    if t = "Template" then
      (match fieldWith "template_id" getNat v, fieldWith "field_count" getNat v, fieldArr "fields" readTField v with
       | some i, some n, some fs => some (.template i n fs)
       | _, _, _ => none)
    else if t = "OptionsTemplate" then
      (match fieldWith "template_id" getNat v, fieldWith "field_count" getNat v, fieldWith "scope_field_count" getNat v,
             fieldArr "fields" readTField v with
       | some i, some n, some s, some fs => some (.optTemplate i n s fs)
       | _, _, _, _ => none)
    else if t = "Data" then (fieldArr "fields" readRec v).map .data
    else if t = "OptionsData" then (fieldArr "fields" readRec v).map .optData
    else none

def readIpSet (j : JVal) : Option NIpSet :=
  match field "header" j, fieldWith "body" readIpBody j with
  | some h, some b =>
    (match fieldWith "header_id" getNat h, fieldWith "length" getNat h with
     | some i, some l => some { id := i, len := l, body := b }
     | _, _ => none)
  | _, _ => none

/-! ### error elements -/

def readErrKind (j : JVal) : Option NErr :=
  match getTagged j with
  | none => none
  | some (t, v) =>
    if t = "Incomplete" then some .incomplete                     -- the message is free text: not read
    else if t = "Partial" then
      (match fieldWith "version" getNat v, fieldWith "remaining" getBytes v with
       | some n, some r => some (.partialParse n r)
       | _, _ => none)
    else if t = "UnknownVersion" then (getBytes v).map .unknownVersion
    else none

/-- a struct `{ header, flowsets }` -/
def readHdrSets {α β : Type} (rh : JVal → Option α) (rs : JVal → Option β) (v : JVal) : Option (α × List β) :=
  match fieldWith "header" rh v, fieldArr "flowsets" rs v with
  | some h, some ss => some (h, ss)
  | _, _ => none

end JRead

/-! ### the normal form OF a decoded packet (what `readJ` must return for its JSON) -/

/-- UTF-8 bytes of a string (what a JSON string carries) -/
def textOf (s : String) : Bytes := s.toUTF8.toList

/-- the variant name of discriminant `d` -/
def nameBytes (tbl : List (Nat × String)) (d : Nat) : Bytes := textOf ((tbl.lookup d).getD "?")

/-- one member of a derive(Nom) struct: the protocol enum by variant name, `Ipv4Addr` members as dotted text,
    every other member as its number -/
def normLField (nm : JNames) (f : LField) (v : Nat) : NVal :=
  match f.kind with
  | .protoOf _ => .text (nameBytes nm.proto v)
  | _ => if nm.ipv4Fields.contains f.name then .text (textOf (ip4Text v)) else .nat v

/-- a fixed-layout struct: the k-th Rust field name with the k-th decoded value -/
def normStruct (nm : JNames) (lay : Layout) (vals : List Nat) : NStruct :=
  (lay.zip vals).map fun p => (p.1.name, normLField nm p.1 p.2)

/-- the integer value of a `DataNumber` (its width tag forgotten) -/
def dnInt : DataNumber → Int
  | .u8 n | .u16 n | .u24 n | .u32 n | .u64 n | .u128 n => (n : Int)
  | .i24 z | .i32 z => z

def normFieldValue (nm : JNames) : FieldValue → NFieldValue
  | .str s => .str s
  | .num d => .num (dnInt d)
  | .f64 b => .f64 b
  | .dur s ns => .dur s ns
  | .ip4 n => .ip4 (textOf (ip4Text n))
  | .ip6 n => .ip6 (textOf (ip6Text n))
  | .mac raw => .mac (macText raw)
  | .vec b => .vec b
  | .proto d => .proto (nameBytes nm.proto d)
  | .unknown b => .unknown b

def normRecN (nm : JNames) (names : List (Nat × String)) (r : Rec) : NRec :=
  r.map fun e => (e.1, nameBytes names e.2.1, normFieldValue nm e.2.2)

def normTField (names : List (Nat × String)) (disc : Nat → Nat) (f : TField) : NTField :=
  { typ := f.typ, name := nameBytes names (disc f.typ), len := f.len, ent := none }

def normIpTField (c : Config) (nm : JNames) (f : IpTField) : NTField :=
  { typ := f.typ, name := nameBytes nm.ipField (ipFieldDisc c f), len := f.len, ent := f.ent }

/-- V9 set body; every `padding` is dropped -/
def normV9Body (c : Config) (nm : JNames) : V9Body → NV9Body
  | .templates ts _ => .templates (ts.map fun t =>
      { id := t.id, fieldCount := t.fieldCount, fields := t.fields.map (normTField nm.v9Field c.t.v9Field) })
  | .optTemplates ts _ => .optTemplates (ts.map fun t =>
      { id := t.id, scopeLen := t.scopeLen, optLen := t.optLen,
        scope := t.scope.map (normTField nm.scope c.t.scopeField),
        opts := t.opts.map (normTField nm.v9Field c.t.v9Field) })
  | .data recs _ => .data (recs.map (normRecN nm nm.v9Field))
  | .optData ss os _ => .optData (ss.map fun s => (scopeDataName s.1, s.2)) (os.map fun o => (nameBytes nm.v9Field o.1, o.2))

/-- IPFIX set body; every `padding` is dropped -/
def normIpBody (c : Config) (nm : JNames) : IpBody → NIpBody
  | .template t => .template t.id t.fieldCount (t.fields.map (normIpTField c nm))
  | .optTemplate t => .optTemplate t.id t.fieldCount t.scopeCount (t.fields.map (normIpTField c nm))
  | .data recs _ => .data (recs.map (normRecN nm nm.ipField))
  | .optData recs _ => .optData (recs.map (normRecN nm nm.ipField))

def normErr : ErrKind → NErr
  | .incomplete => .incomplete
  | .partialParse v rem => .partialParse v rem
  | .unknownVersion rem => .unknownVersion rem

/-- THE NORMAL FORM of a decoded packet: paddings dropped, `DataNumber` width tags collapsed to the integer,
    structs as (Rust field name, value) lists, text-valued leaves as their text, errors with their bytes -/
def normPkt (c : Config) (nm : JNames) : Packet → NormPkt
  | .v5 h rs => .v5 (normStruct nm c.t.v5Hdr h) (rs.map (normStruct nm c.t.v5Rec))
  | .v7 h rs => .v7 (normStruct nm c.t.v7Hdr h) (rs.map (normStruct nm c.t.v7Rec))
  | .v9 h ss => .v9 (normStruct nm c.t.v9Hdr h) (ss.map fun s => { id := s.id, len := s.len, body := normV9Body c nm s.body })
  | .ipfix h ss => .ipfix (normStruct nm c.t.ipHdr h) (ss.map fun s => { id := s.id, len := s.len, body := normIpBody c nm s.body })
  | .error k rem => .error (normErr k) rem

/-- the schema of a configuration: the field names of its six struct layouts -/
def schemaOf (c : Config) : Schema :=
  { v5Hdr := c.t.v5Hdr.map (·.name), v5Rec := c.t.v5Rec.map (·.name), v7Hdr := c.t.v7Hdr.map (·.name),
    v7Rec := c.t.v7Rec.map (·.name), v9Hdr := c.t.v9Hdr.map (·.name), ipHdr := c.t.ipHdr.map (·.name) }

open JRead in
/-- the reader of `NetflowPacket`: the variant by its tag, every member by its name -/
def readJ (sc : Schema) (j : JVal) : Option NormPkt :=
  match getTagged j with
  | none => none
  | some (t, v) =>
    if t = "V5" then (readHdrSets (readStruct sc.v5Hdr) (readStruct sc.v5Rec) v).map fun p => .v5 p.1 p.2
    else if t = "V7" then (readHdrSets (readStruct sc.v7Hdr) (readStruct sc.v7Rec) v).map fun p => .v7 p.1 p.2
    else if t = "V9" then (readHdrSets (readStruct sc.v9Hdr) readV9Set v).map fun p => .v9 p.1 p.2
    else if t = "IPFix" then (readHdrSets (readStruct sc.ipHdr) readIpSet v).map fun p => .ipfix p.1 p.2
    else if t = "Error" then
      (match fieldWith "error" readErrKind v, fieldWith "remaining" getBytes v with
       | some k, some r => some (.error k r)
       | _, _ => none)
    else none

end Netflow
