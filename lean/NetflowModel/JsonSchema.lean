/-
  JsonSchema.lean — WHICH MEMBERS the hand-written serialiser `toJ` (Json.lean) writes for every result type, as a table, and the
  lemmas that `toJ` writes exactly these (names and order).  `Generated.serdeSchema` (GeneratedSerde.lean) is the same table read from
  the `derive(Serialize)` declarations of the Rust source on every run (member order, `skip_serializing`, `skip_serializing_if`,
  `untagged`); `Props/SerdeGen.lean` proves the two equal.  A renamed / reordered / newly skipped / no longer skipped member regenerates
  a different table and the C16 obligations stop checking.
-/
import NetflowModel.Json
import NetflowModel.Lemmas.Basic
namespace Netflow.JsonSchema
open Netflow

/-- the part of the schema `toJ` models: (type, container attribute, members with their serde attribute) -/
def modelSchema : List (String × String × List (String × String)) := [
  ("lib::NetflowPacket", "", [("V5", ""), ("V7", ""), ("V9", ""), ("IPFix", ""), ("Error", "")]),
  ("lib::NetflowPacketError", "", [("error", ""), ("remaining", "")]),
  ("lib::NetflowParseError", "", [("Incomplete", ""), ("Partial", ""), ("UnallowedVersion", ""), ("UnknownVersion", "")]),
  ("lib::PartialParse", "", [("version", ""), ("remaining", ""), ("error", "")]),
  ("v9::V9", "", [("header", ""), ("flowsets", "")]),
  ("v9::FlowSet", "", [("header", ""), ("body", "")]),
  ("v9::FlowSetHeader", "", [("flowset_id", ""), ("length", "")]),
  ("v9::FlowSetBody", "", [("Template", ""), ("OptionsTemplate", ""), ("Data", ""), ("OptionsData", "")]),
  ("v9::Templates", "", [("templates", ""), ("padding", "skip")]),
  ("v9::OptionsTemplates", "", [("templates", ""), ("padding", "skip")]),
  ("v9::Template", "", [("template_id", ""), ("field_count", ""), ("fields", "")]),
  ("v9::OptionsTemplate", "", [("template_id", ""), ("options_scope_length", ""), ("options_length", ""), ("scope_fields", ""), ("option_fields", "")]),
  ("v9::OptionsTemplateScopeField", "", [("field_type_number", ""), ("field_type", ""), ("field_length", "")]),
  ("v9::TemplateField", "", [("field_type_number", ""), ("field_type", ""), ("field_length", "")]),
  ("v9::OptionsData", "", [("scope_fields", ""), ("options_fields", ""), ("padding", "skip")]),
  ("v9::ScopeDataField", "", [("System", ""), ("Interface", ""), ("LineCard", ""), ("NetFlowCache", ""), ("Template", "")]),
  ("v9::Data", "", [("fields", ""), ("padding", "skip")]),
  ("v9::OptionDataField", "", [("field_type", ""), ("field_value", "")]),
  ("ipfix::IPFix", "", [("header", ""), ("flowsets", "")]),
  ("ipfix::FlowSetBody", "", [("Template", ""), ("OptionsTemplate", ""), ("Data", ""), ("OptionsData", "")]),
  ("ipfix::FlowSet", "", [("header", ""), ("body", "")]),
  ("ipfix::FlowSetHeader", "", [("header_id", ""), ("length", "")]),
  ("ipfix::Data", "", [("fields", ""), ("padding", "skip")]),
  ("ipfix::OptionsData", "", [("fields", ""), ("padding", "skip")]),
  ("ipfix::OptionsTemplate", "", [("template_id", ""), ("field_count", ""), ("scope_field_count", ""), ("fields", ""), ("padding", "skip")]),
  ("ipfix::Template", "", [("template_id", ""), ("field_count", ""), ("fields", ""), ("padding", "skip")]),
  ("ipfix::TemplateField", "", [("field_type_number", ""), ("field_type", ""), ("field_length", ""), ("enterprise_number", "skip_if_none")]),
  ("data_number::DataNumber", "untagged", [("U8", ""), ("U16", ""), ("U24", ""), ("I24", ""), ("U32", ""), ("U64", ""), ("U128", ""), ("I32", "")]),
  ("data_number::FieldValue", "", [("String", ""), ("DataNumber", ""), ("Float64", ""), ("Duration", ""), ("Ip4Addr", ""), ("Ip6Addr", ""), ("MacAddr", ""), ("Vec", ""), ("ProtocolType", ""), ("Unknown", "")])]

/-- the types of `modelSchema` (the others that derive `Serialize` — the parser state, the field-type enum — never occur in a result) -/
def modelled : List String := modelSchema.map (·.1)

/-- members of a type that are ALWAYS written (no `skip`, no `skip_if_none`), in order -/
def always (ty : String) : List String :=
  match modelSchema.lookup ty with
  | some (_, ms) => (ms.filter fun m => m.2 == "").map (·.1)
  | none => []

/-- all member / variant names of a type -/
def names (ty : String) : List String :=
  match modelSchema.lookup ty with
  | some (_, ms) => ms.map (·.1)
  | none => []

def objKeys : JVal → List String
  | .obj kvs => kvs.map (·.1)
  | _ => []

/-! ### the table by position

Looking a type up by its name makes the checker compare strings, which is slow; the keys are pairwise distinct (checked
once), so the entry at a known position IS what `lookup` finds. -/

theorem modelSchema_nodup : (modelSchema.map (·.1)).Nodup := by decide +kernel

theorem always_at {i : Nat} {ty cont : String} {ms : List (String × String)} (h : modelSchema[i]? = some (ty, cont, ms)) :
    always ty = (ms.filter fun m => m.2 == "").map (·.1) := by
  rw [always, lookup_of_mem modelSchema_nodup (List.mem_of_getElem? h)]

theorem names_at {i : Nat} {ty cont : String} {ms : List (String × String)} (h : modelSchema[i]? = some (ty, cont, ms)) :
    names ty = ms.map (·.1) := by
  rw [names, lookup_of_mem modelSchema_nodup (List.mem_of_getElem? h)]

theorem mem_modelled_at {i : Nat} {ty cont : String} {ms : List (String × String)} (h : modelSchema[i]? = some (ty, cont, ms)) :
    ty ∈ modelled :=
  List.mem_map_of_mem (f := (·.1)) (List.mem_of_getElem? h)

/-! ### `toJ` writes exactly the members of the table (every lemma is about SYMBOLIC values: it holds for every packet) -/

theorem packet_variants (c : Config) (nm : JNames) (p : Packet) : ∃ v inner, toJ c nm p = .obj [(v, inner)] ∧ v ∈ names "lib::NetflowPacket" := by
  rw [names_at (i := 0) rfl]
  cases p <;> exact ⟨_, _, rfl, by repeat (first | exact List.Mem.head _ | apply List.Mem.tail)⟩

theorem error_members (c : Config) (nm : JNames) (k : ErrKind) (rem : Bytes) :
    ∃ inner, toJ c nm (.error k rem) = .obj [("Error", inner)] ∧ objKeys inner = always "lib::NetflowPacketError" :=
  ⟨_, rfl, (always_at (i := 1) rfl).symm⟩

theorem parse_error_variants (k : ErrKind) : ∃ v inner, errKindJ k = .obj [(v, inner)] ∧ v ∈ names "lib::NetflowParseError" := by
  rw [names_at (i := 2) rfl]
  cases k <;> exact ⟨_, _, rfl, by repeat (first | exact List.Mem.head _ | apply List.Mem.tail)⟩

theorem partial_members (v : Nat) (rem : Bytes) :
    ∃ inner, errKindJ (.partialParse v rem) = .obj [("Partial", inner)] ∧ objKeys inner = always "lib::PartialParse" :=
  ⟨_, rfl, (always_at (i := 3) rfl).symm⟩

theorem v9_members (c : Config) (nm : JNames) (h : List Nat) (ss : List V9Set) :
    ∃ inner, toJ c nm (.v9 h ss) = .obj [("V9", inner)] ∧ objKeys inner = always "v9::V9" :=
  ⟨_, rfl, (always_at (i := 4) rfl).symm⟩

theorem ipfix_members (c : Config) (nm : JNames) (h : List Nat) (ss : List IpSet) :
    ∃ inner, toJ c nm (.ipfix h ss) = .obj [("IPFix", inner)] ∧ objKeys inner = always "ipfix::IPFix" :=
  ⟨_, rfl, (always_at (i := 18) rfl).symm⟩

/-- every V9 flowset object: `header {flowset_id, length}`, `body` -/
theorem v9_set_members (c : Config) (nm : JNames) (h : List Nat) (ss : List V9Set) :
    ∃ f : V9Set → JVal, toJ c nm (.v9 h ss) = .obj [("V9", .obj [("header", layoutJ nm c.t.v9Hdr h), ("flowsets", .arr (ss.map f))])] ∧
      ∀ s, objKeys (f s) = always "v9::FlowSet" ∧
        ∃ hd, f s = .obj [("header", hd), ("body", v9BodyJ c nm s.body)] ∧ objKeys hd = always "v9::FlowSetHeader" :=
  ⟨_, rfl, fun _ => ⟨(always_at (i := 5) rfl).symm, _, rfl, (always_at (i := 6) rfl).symm⟩⟩

theorem ipfix_set_members (c : Config) (nm : JNames) (h : List Nat) (ss : List IpSet) :
    ∃ f : IpSet → JVal, toJ c nm (.ipfix h ss) = .obj [("IPFix", .obj [("header", layoutJ nm c.t.ipHdr h), ("flowsets", .arr (ss.map f))])] ∧
      ∀ s, objKeys (f s) = always "ipfix::FlowSet" ∧
        ∃ hd, f s = .obj [("header", hd), ("body", ipBodyJ c nm s.body)] ∧ objKeys hd = always "ipfix::FlowSetHeader" :=
  ⟨_, rfl, fun _ => ⟨(always_at (i := 20) rfl).symm, _, rfl, (always_at (i := 21) rfl).symm⟩⟩

theorem v9_body_variants (c : Config) (nm : JNames) (b : V9Body) : ∃ v inner, v9BodyJ c nm b = .obj [(v, inner)] ∧ v ∈ names "v9::FlowSetBody" := by
  rw [names_at (i := 7) rfl]
  cases b <;> exact ⟨_, _, rfl, by repeat (first | exact List.Mem.head _ | apply List.Mem.tail)⟩

theorem ipfix_body_variants (c : Config) (nm : JNames) (b : IpBody) : ∃ v inner, ipBodyJ c nm b = .obj [(v, inner)] ∧ v ∈ names "ipfix::FlowSetBody" := by
  rw [names_at (i := 19) rfl]
  cases b <;> exact ⟨_, _, rfl, by repeat (first | exact List.Mem.head _ | apply List.Mem.tail)⟩

/-- V9 template flowset: `templates` only (the padding is skipped); each template `template_id, field_count, fields`;
    each field `field_type_number, field_type, field_length` -/
theorem v9_templates_members (c : Config) (nm : JNames) (ts : List V9Template) (pad : Bytes) :
    ∃ f : V9Template → JVal, v9BodyJ c nm (.templates ts pad) = .obj [("Template", .obj [("templates", .arr (ts.map f))])] ∧
      ["templates"] = always "v9::Templates" ∧
      ∀ t, objKeys (f t) = always "v9::Template" ∧
        ∃ g : TField → JVal, f t = .obj [("template_id", .num t.id), ("field_count", .num t.fieldCount), ("fields", .arr (t.fields.map g))] ∧
          ∀ x, objKeys (g x) = always "v9::TemplateField" :=
  ⟨_, rfl, (always_at (i := 8) rfl).symm, fun _ =>
    ⟨(always_at (i := 10) rfl).symm, _, rfl, fun _ => (always_at (i := 13) rfl).symm⟩⟩

theorem v9_opt_templates_members (c : Config) (nm : JNames) (ts : List V9OptTemplate) (pad : Bytes) :
    ∃ f : V9OptTemplate → JVal, v9BodyJ c nm (.optTemplates ts pad) = .obj [("OptionsTemplate", .obj [("templates", .arr (ts.map f))])] ∧
      ["templates"] = always "v9::OptionsTemplates" ∧
      ∀ t, objKeys (f t) = always "v9::OptionsTemplate" ∧
        ∃ g1 g2 : TField → JVal,
          f t = .obj [("template_id", .num t.id), ("options_scope_length", .num t.scopeLen), ("options_length", .num t.optLen),
                      ("scope_fields", .arr (t.scope.map g1)), ("option_fields", .arr (t.opts.map g2))] ∧
          (∀ x, objKeys (g1 x) = always "v9::OptionsTemplateScopeField") ∧ ∀ x, objKeys (g2 x) = always "v9::TemplateField" :=
  ⟨_, rfl, (always_at (i := 9) rfl).symm, fun _ =>
    ⟨(always_at (i := 11) rfl).symm, _, _, rfl, fun _ => (always_at (i := 12) rfl).symm, fun _ => (always_at (i := 13) rfl).symm⟩⟩

theorem v9_data_members (c : Config) (nm : JNames) (recs : List Rec) (pad : Bytes) :
    ∃ inner, v9BodyJ c nm (.data recs pad) = .obj [("Data", inner)] ∧ objKeys inner = always "v9::Data" :=
  ⟨_, rfl, (always_at (i := 16) rfl).symm⟩

theorem v9_opt_data_members (c : Config) (nm : JNames) (ss os : List (Nat × Bytes)) (pad : Bytes) :
    ∃ f g : Nat × Bytes → JVal,
      v9BodyJ c nm (.optData ss os pad) = .obj [("OptionsData", .obj [("scope_fields", .arr (ss.map f)), ("options_fields", .arr (os.map g))])] ∧
      ["scope_fields", "options_fields"] = always "v9::OptionsData" ∧
      (∀ s, 1 ≤ s.1 → s.1 ≤ 5 → ∃ v inner, f s = .obj [(v, inner)] ∧ v ∈ names "v9::ScopeDataField") ∧
      ∀ o, objKeys (g o) = always "v9::OptionDataField" := by
  refine ⟨_, _, rfl, (always_at (i := 14) rfl).symm, ?_, fun _ => (always_at (i := 17) rfl).symm⟩
  intro s h1 h5
  refine ⟨scopeDataName s.1, _, rfl, ?_⟩
  rw [names_at (i := 15) rfl]
  have : s.1 = 1 ∨ s.1 = 2 ∨ s.1 = 3 ∨ s.1 = 4 ∨ s.1 = 5 := by omega
  rcases this with h | h | h | h | h <;> rw [h] <;> repeat (first | exact List.Mem.head _ | apply List.Mem.tail)

/-- IPFIX template field: the three always-written members, then `enterprise_number` exactly when it is `Some` (`skip_serializing_if`) -/
theorem ipfix_field_members (c : Config) (nm : JNames) (f : IpTField) :
    objKeys (ipTFieldJ c nm f) = always "ipfix::TemplateField" ++ (if f.ent.isSome then ["enterprise_number"] else []) ∧
    names "ipfix::TemplateField" = always "ipfix::TemplateField" ++ ["enterprise_number"] := by
  rw [always_at (i := 26) rfl, names_at (i := 26) rfl]
  refine ⟨?_, rfl⟩
  cases h : f.ent <;> simp only [ipTFieldJ, objKeys, h, List.map_append, List.map] <;> rfl

theorem ipfix_template_members (c : Config) (nm : JNames) (t : IpTemplate) :
    ∃ inner, ipBodyJ c nm (.template t) = .obj [("Template", inner)] ∧ objKeys inner = always "ipfix::Template" :=
  ⟨_, rfl, (always_at (i := 25) rfl).symm⟩

theorem ipfix_opt_template_members (c : Config) (nm : JNames) (t : IpOptTemplate) :
    ∃ inner, ipBodyJ c nm (.optTemplate t) = .obj [("OptionsTemplate", inner)] ∧ objKeys inner = always "ipfix::OptionsTemplate" :=
  ⟨_, rfl, (always_at (i := 24) rfl).symm⟩

theorem ipfix_data_members (c : Config) (nm : JNames) (recs : List Rec) (pad : Bytes) :
    (∃ inner, ipBodyJ c nm (.data recs pad) = .obj [("Data", inner)] ∧ objKeys inner = always "ipfix::Data") ∧
    (∃ inner, ipBodyJ c nm (.optData recs pad) = .obj [("OptionsData", inner)] ∧ objKeys inner = always "ipfix::OptionsData") :=
  ⟨⟨_, rfl, (always_at (i := 22) rfl).symm⟩, ⟨_, rfl, (always_at (i := 23) rfl).symm⟩⟩

/-- a decoded value is externally tagged with its variant name; `DataNumber` is untagged (the bare number) -/
theorem field_value_variants (nm : JNames) (v : FieldValue) : ∃ tag inner, fieldValueJ nm v = .obj [(tag, inner)] ∧ tag ∈ names "data_number::FieldValue" := by
  rw [names_at (i := 28) rfl]
  cases v <;> exact ⟨_, _, rfl, by repeat (first | exact List.Mem.head _ | apply List.Mem.tail)⟩

theorem data_number_untagged (d : DataNumber) : (∃ n, dataNumberJ d = .num n) ∧ (modelSchema.lookup "data_number::DataNumber").map (·.1) = some "untagged" := by
  constructor
  · cases d <;> exact ⟨_, rfl⟩
  · rw [lookup_of_mem modelSchema_nodup (List.mem_of_getElem? (i := 27) rfl)]; rfl

end Netflow.JsonSchema
