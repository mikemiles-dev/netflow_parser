/-
  JsonText.lean — JSON at the TEXT level (C16: "produces well-formed JSON … records' fields in template order").
  * `JTree`      an ORDER-PRESERVING syntax tree (object members are a list, numbers keep their literal)
  * `parseJ`     a total RFC 8259 reader (fuel-structural, rejects everything that is not one JSON value:
                 raw control characters in strings, lone surrogates, leading zeros, trailing garbage)
  * `printTree`  the compact writer of `serde_json::to_string` (its escapes: \" \\ \b \f \n \r \t, \u00XX below 0x20)
  * (`J1.treeOf`, in Lemmas/TextRoundTrip.lean: the tree that the writer produces for a `JVal` — number → decimal literal, string → its characters)
  * `jmatchT`    ORDERED comparison of a `JVal` (the model's `toJ` of a decoded packet) with a tree read from text:
                 same members in the same order, same elements, same literals.
  Core only.  Theorems (`Lemmas/J1*.lean`, `Props/C16b.lean`): `parseJ (printTree t) = some t` for well-formed trees and
  `jmatchT v (treeOf v)`; so the text that the model of the serialiser prints for ANY parse result is accepted by the
  reader and matches, member for member and in order.
-/
import NetflowModel.Json
namespace Netflow

inductive JTree where
  | null
  | bool (b : Bool)
  | num (lit : List Char)                 -- the number literal as written
  | str (s : List Char)                   -- decoded characters
  | arr (xs : List JTree)
  | obj (kvs : List (List Char × JTree))  -- members in textual order, duplicates kept
  deriving Repr, Inhabited

namespace JText

def isWs (c : Char) : Bool := c == ' ' || c == '\n' || c == '\r' || c == '\t'

def skipWs : List Char → List Char
  | c :: r => if isWs c then skipWs r else c :: r
  | [] => []

def hexVal (c : Char) : Option Nat :=
  let n := c.toNat
  if 48 ≤ n ∧ n ≤ 57 then some (n - 48)
  else if 97 ≤ n ∧ n ≤ 102 then some (n - 87)
  else if 65 ≤ n ∧ n ≤ 70 then some (n - 55)
  else none

def hex4 (a b c d : Char) : Option Nat :=
  match hexVal a, hexVal b, hexVal c, hexVal d with
  | some w, some x, some y, some z => some (w * 4096 + x * 256 + y * 16 + z)
  | _, _, _, _ => none

/-- the characters of a string literal after its opening quote, up to and including the closing quote;
    `acc` is reversed.  Structural in the text. -/
def parseStrBody : List Char → List Char → Option (List Char × List Char)
  | [], _ => none
  | '"' :: r, acc => some (acc.reverse, r)
  | '\\' :: '"' :: r, acc => parseStrBody r ('"' :: acc)
  | '\\' :: '\\' :: r, acc => parseStrBody r ('\\' :: acc)
  | '\\' :: '/' :: r, acc => parseStrBody r ('/' :: acc)
  | '\\' :: 'b' :: r, acc => parseStrBody r (Char.ofNat 8 :: acc)
  | '\\' :: 'f' :: r, acc => parseStrBody r (Char.ofNat 12 :: acc)
  | '\\' :: 'n' :: r, acc => parseStrBody r ('\n' :: acc)
  | '\\' :: 'r' :: r, acc => parseStrBody r ('\r' :: acc)
  | '\\' :: 't' :: r, acc => parseStrBody r ('\t' :: acc)
  | '\\' :: 'u' :: a :: b :: c :: d :: r, acc =>
    match hex4 a b c d with
    | none => none
    | some hi =>
      if 0xD800 ≤ hi ∧ hi ≤ 0xDBFF then
        -- a high surrogate must be followed by an escaped low surrogate
        match r with
        | '\\' :: 'u' :: e :: f :: g :: h :: r' =>
          match hex4 e f g h with
          | some lo =>
            if 0xDC00 ≤ lo ∧ lo ≤ 0xDFFF then
              parseStrBody r' (Char.ofNat (0x10000 + (hi - 0xD800) * 1024 + (lo - 0xDC00)) :: acc)
            else none
          | none => none
        | _ => none
      else if 0xDC00 ≤ hi ∧ hi ≤ 0xDFFF then none
      else parseStrBody r (Char.ofNat hi :: acc)
  | '\\' :: _, _ => none
  | c :: r, acc => if c.toNat < 0x20 then none else parseStrBody r (c :: acc)

def isDigit (c : Char) : Bool := 48 ≤ c.toNat && c.toNat ≤ 57

def spanDigits : List Char → List Char × List Char
  | c :: r => if isDigit c then let (d, r') := spanDigits r; (c :: d, r') else ([], c :: r)
  | [] => ([], [])

/-- `-? (0 | [1-9][0-9]*) (\.[0-9]+)? ([eE][+-]?[0-9]+)?` ; returns the literal and the rest -/
def parseNum (cs : List Char) : Option (List Char × List Char) :=
  let (sign, r0) := match cs with
    | '-' :: r => (['-'], r)
    | r => ([], r)
  let (ds, r1) := spanDigits r0
  if ds.isEmpty then none
  else if ds.length > 1 ∧ ds.head? = some '0' then none
  else
    let fracPart : Option (List Char × List Char) :=
      match r1 with
      | '.' :: r =>
        let (fs, r') := spanDigits r
        if fs.isEmpty then none else some ('.' :: fs, r')
      | r => some ([], r)
    match fracPart with
    | none => none
    | some (fr, r2) =>
      let expPart : Option (List Char × List Char) :=
        match r2 with
        | e :: r =>
          if e == 'e' || e == 'E' then
            let (sg, r') := match r with
              | '+' :: r' => (['+'], r')
              | '-' :: r' => (['-'], r')
              | r' => ([], r')
            let (es, r'') := spanDigits r'
            if es.isEmpty then none else some (e :: sg ++ es, r'')
          else some ([], e :: r)
        | [] => some ([], [])
      match expPart with
      | none => none
      | some (ex, r3) => some (sign ++ ds ++ fr ++ ex, r3)

mutual
/-- one value (leading white space allowed) -/
def parseVal : Nat → List Char → Option (JTree × List Char)
  | 0, _ => none
  | fuel + 1, cs =>
    match skipWs cs with
    | 'n' :: 'u' :: 'l' :: 'l' :: r => some (.null, r)
    | 't' :: 'r' :: 'u' :: 'e' :: r => some (.bool true, r)
    | 'f' :: 'a' :: 'l' :: 's' :: 'e' :: r => some (.bool false, r)
    | '"' :: r =>
      match parseStrBody r [] with
      | some (s, r') => some (.str s, r')
      | none => none
    | '[' :: r =>
      match skipWs r with
      | ']' :: r' => some (.arr [], r')
      | r' => parseElems fuel r' []
    | '{' :: r =>
      match skipWs r with
      | '}' :: r' => some (.obj [], r')
      | r' => parseMembers fuel r' []
    | c :: r =>
      if c == '-' || isDigit c then
        match parseNum (c :: r) with
        | some (lit, r') => some (.num lit, r')
        | none => none
      else none
    | [] => none
/-- `value (, value)* ]` ; `acc` reversed -/
def parseElems : Nat → List Char → List JTree → Option (JTree × List Char)
  | 0, _, _ => none
  | fuel + 1, cs, acc =>
    match parseVal fuel cs with
    | none => none
    | some (v, r) =>
      match skipWs r with
      | ',' :: r' => parseElems fuel r' (v :: acc)
      | ']' :: r' => some (.arr (v :: acc).reverse, r')
      | _ => none
/-- `string : value (, string : value)* }` ; `acc` reversed -/
def parseMembers : Nat → List Char → List (List Char × JTree) → Option (JTree × List Char)
  | 0, _, _ => none
  | fuel + 1, cs, acc =>
    match skipWs cs with
    | '"' :: r =>
      match parseStrBody r [] with
      | none => none
      | some (k, r1) =>
        match skipWs r1 with
        | ':' :: r2 =>
          match parseVal fuel r2 with
          | none => none
          | some (v, r3) =>
            match skipWs r3 with
            | ',' :: r4 => parseMembers fuel r4 ((k, v) :: acc)
            | '}' :: r4 => some (.obj ((k, v) :: acc).reverse, r4)
            | _ => none
        | _ => none
    | _ => none
end

/-- a whole text is exactly one JSON value (white space around it allowed) -/
def parseJ (text : List Char) : Option JTree :=
  match parseVal (2 * text.length + 2) text with
  | some (t, r) => if (skipWs r).isEmpty then some t else none
  | none => none

/-! ### the compact writer of serde_json -/

def hexDigitLower (n : Nat) : Char := if n < 10 then Char.ofNat (48 + n) else Char.ofNat (87 + n)

def escChar (c : Char) : List Char :=
  if c = '"' then ['\\', '"']
  else if c = '\\' then ['\\', '\\']
  else if c = '\n' then ['\\', 'n']
  else if c = '\r' then ['\\', 'r']
  else if c = '\t' then ['\\', 't']
  else if c.toNat = 8 then ['\\', 'b']
  else if c.toNat = 12 then ['\\', 'f']
  else if c.toNat < 0x20 then ['\\', 'u', '0', '0', hexDigitLower (c.toNat / 16), hexDigitLower (c.toNat % 16)]
  else [c]

def printStr (s : List Char) : List Char := '"' :: (s.flatMap escChar ++ ['"'])

mutual
def printTree : JTree → List Char
  | .null => ['n', 'u', 'l', 'l']
  | .bool true => ['t', 'r', 'u', 'e']
  | .bool false => ['f', 'a', 'l', 's', 'e']
  | .num lit => lit
  | .str s => printStr s
  | .arr xs => '[' :: (printElems xs ++ [']'])
  | .obj kvs => '{' :: (printMembers kvs ++ ['}'])
def printElems : List JTree → List Char
  | [] => []
  | [x] => printTree x
  | x :: y :: r => printTree x ++ ',' :: printElems (y :: r)
def printMembers : List (List Char × JTree) → List Char
  | [] => []
  | [kv] => printStr kv.1 ++ ':' :: printTree kv.2
  | kv :: kv' :: r => printStr kv.1 ++ ':' :: printTree kv.2 ++ ',' :: printMembers (kv' :: r)
end

/-! ### from the model's JSON value to the tree its text denotes -/

/-- decimal literal of an integer, as `itoa` writes it -/
def intLit (z : Int) : List Char :=
  match z with
  | .ofNat n => (toString n).toList
  | .negSucc n => '-' :: (toString (n + 1)).toList

/-- UTF-8 bytes of a list of characters -/
def utf8Of (s : List Char) : Bytes := s.flatMap String.utf8EncodeChar

/-- ORDERED comparison of the expected value with a tree read from text.  `fmatch bits lit` decides whether a number
    literal denotes the given finite float (the shortest-round-trip printer of serde_json is not modelled: the driver
    supplies the machine's float reader); non-finite floats are `null`. `isFinite bits` says which is which. -/
def jmatchT (isFinite : Nat → Bool) (fmatch : Nat → List Char → Bool) : JVal → JTree → Bool
  | .null, .null => true
  | .num n, .num lit => lit == intLit n
  | .f64 bits, .num lit => isFinite bits && fmatch bits lit
  | .f64 bits, .null => !isFinite bits
  | .str b, .str s => utf8Of s == b
  | .anyStr, .str _ => true
  | .arr xs, .arr ys => goArr xs ys
  | .obj kvs, .obj ms => goObj kvs ms
  | _, _ => false
where
  goArr : List JVal → List JTree → Bool
    | [], [] => true
    | x :: xs, y :: ys => jmatchT isFinite fmatch x y && goArr xs ys
    | _, _ => false
  goObj : List (String × JVal) → List (List Char × JTree) → Bool
    | [], [] => true
    | kv :: kvs, m :: ms => kv.1.toList == m.1 && jmatchT isFinite fmatch kv.2 m.2 && goObj kvs ms
    | _, _ => false

end JText
end Netflow
