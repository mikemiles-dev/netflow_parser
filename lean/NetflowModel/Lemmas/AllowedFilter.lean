/-
  Lemmas/AllowedFilter.lean — `Config.allowed` is read only at the version gate: `withAllowed` and the
  `_allowed` lemmas (nothing below the gate depends on it), the gate (`AllowsAll`, `AllowsMore`),
  `stateAfter` (cache state after the first `k` packet steps) and `takeAllowed` is a prefix.
-/
import NetflowModel.Lemmas.Consume
import NetflowModel.Common
namespace Netflow
open Preds

abbrev Config.withAllowed (c : Config) (a : List Nat) : Config := { c with allowed := a }

theorem vc_allowed (c : Config) (a : List Nat) : (c.withAllowed a).vc = c.vc := rfl

theorem v9ParseRec_allowed (c : Config) (a : List Nat) :
    ∀ (fs : List TField) (idx : Nat) (i : Bytes), v9ParseRec (c.withAllowed a) fs idx i = v9ParseRec c fs idx i := by
  intro fs
  induction fs with
  | nil => intro idx i; rfl
  | cons f fs ih => intro idx i; simp only [v9ParseRec, vc_allowed, ih]

theorem v9RecLoop_allowed (c : Config) (a : List Nat) (fs : List TField) :
    ∀ (n : Nat) (i : Bytes) (acc : List Rec), v9RecLoop (c.withAllowed a) fs n i acc = v9RecLoop c fs n i acc := by
  intro n
  induction n with
  | zero => intro i acc; rfl
  | succ n ih => intro i acc; simp only [v9RecLoop, v9ParseRec_allowed, ih]

theorem v9ScopeLoop_allowed (c : Config) (a : List Nat) :
    ∀ (fs : List TField) (i : Bytes), v9ScopeLoop (c.withAllowed a) fs i = v9ScopeLoop c fs i := by
  intro fs
  induction fs with
  | nil => intro i; rfl
  | cons f fs ih => intro i; simp only [v9ScopeLoop, ih]

theorem v9OptLoop_allowed (c : Config) (a : List Nat) :
    ∀ (fs : List TField) (i : Bytes), v9OptLoop (c.withAllowed a) fs i = v9OptLoop c fs i := by
  intro fs
  induction fs with
  | nil => intro i; rfl
  | cons f fs ih => intro i; simp only [v9OptLoop, ih]

theorem v9ParseBody_allowed (c : Config) (a : List Nat) (st : PState) (id : Nat) (body : Bytes) :
    v9ParseBody (c.withAllowed a) st id body = v9ParseBody c st id body := by
  simp only [v9ParseBody, v9ScopeLoop_allowed, v9OptLoop_allowed, v9RecLoop_allowed]

theorem v9ParseSet_allowed (c : Config) (a : List Nat) (st : PState) (i : Bytes) :
    v9ParseSet (c.withAllowed a) st i = v9ParseSet c st i := by
  simp only [v9ParseSet, v9ParseBody_allowed]

theorem v9ParseSets_allowed (c : Config) (a : List Nat) :
    ∀ (n : Nat) (st : PState) (i : Bytes), v9ParseSets (c.withAllowed a) n st i = v9ParseSets c n st i := by
  intro n
  induction n with
  | zero => intro st i; rfl
  | succ n ih => intro st i; simp only [v9ParseSets, v9ParseSet_allowed, ih]

theorem parseV9_allowed (c : Config) (a : List Nat) (st : PState) (i : Bytes) :
    parseV9 (c.withAllowed a) st i = parseV9 c st i := by
  simp only [parseV9, v9ParseSets_allowed]

theorem ipParseValue_allowed (c : Config) (a : List Nat) (f : IpTField) (i : Bytes) :
    ipParseValue (c.withAllowed a) f i = ipParseValue c f i := by
  simp only [ipParseValue, vc_allowed]

theorem ipParseRec_allowed (c : Config) (a : List Nat) :
    ∀ (fs : List IpTField) (idx : Nat) (i : Bytes), ipParseRec (c.withAllowed a) fs idx i = ipParseRec c fs idx i := by
  intro fs
  induction fs with
  | nil => intro idx i; rfl
  | cons f fs ih => intro idx i; simp only [ipParseRec, ipParseValue_allowed, ih, ipFieldDisc]

theorem ipRecLoop_allowed (c : Config) (a : List Nat) (fs : List IpTField) :
    ∀ (n : Nat) (i : Bytes), ipRecLoop (c.withAllowed a) fs n i = ipRecLoop c fs n i := by
  intro n
  induction n with
  | zero => intro i; rfl
  | succ n ih => intro i; simp only [ipRecLoop, ipParseRec_allowed, ih]

theorem ipParseBody_allowed (c : Config) (a : List Nat) (st : PState) (id : Nat) (body : Bytes) :
    ipParseBody (c.withAllowed a) st id body = ipParseBody c st id body := by
  simp only [ipParseBody, ipRecLoop_allowed]

theorem ipParseSet_allowed (c : Config) (a : List Nat) (st : PState) (i : Bytes) :
    ipParseSet (c.withAllowed a) st i = ipParseSet c st i := by
  simp only [ipParseSet, ipParseBody_allowed]

theorem ipParseSets_allowed (c : Config) (a : List Nat) :
    ∀ (n : Nat) (st : PState) (i : Bytes), ipParseSets (c.withAllowed a) n st i = ipParseSets c n st i := by
  intro n
  induction n with
  | zero => intro st i; rfl
  | succ n ih => intro st i; simp only [ipParseSets, ipParseSet_allowed, ih]

theorem parseIpfix_allowed (c : Config) (a : List Nat) (st : PState) (i : Bytes) :
    parseIpfix (c.withAllowed a) st i = parseIpfix c st i := by
  simp only [parseIpfix, ipParseSets_allowed]

theorem parseFixed_allowed (c : Config) (a : List Nat) (hdr rec : Layout) (i : Bytes) :
    parseFixed (c.withAllowed a) hdr rec i = parseFixed c hdr rec i := rfl

theorem parseVersioned_allowed (c : Config) (a : List Nat) (st : PState) (kind : Nat) (body : Bytes) :
    parseVersioned (c.withAllowed a) st kind body = parseVersioned c st kind body := by
  simp only [parseVersioned, parseFixed_allowed, parseV9_allowed, parseIpfix_allowed]

/-- `A` allows every version word a buffer can carry (16 bits) -/
def AllowsAll (A : List Nat) : Prop := ∀ v, v < 65536 → A.contains v = true

theorem allowsAll_range : AllowsAll (List.range 65536) := by
  intro v hv; simp [hv]

/-- `A` allows every version word that `S` allows -/
def AllowsMore (S A : List Nat) : Prop := ∀ v, v < 65536 → S.contains v = true → A.contains v = true

theorem AllowsAll.more {A : List Nat} (hA : AllowsAll A) (S : List Nat) : AllowsMore S A := fun v hv _ => hA v hv

/-- the version word is allowed by both sets (or there is none): the gate is passed, the allowed set is irrelevant -/
theorem parsePacket_allowed_in (c : Config) (S A : List Nat) (hA : AllowsMore S A) (st : PState) (buf : Bytes)
    (h : ∀ v, versionOf buf = some v → S.contains v = true) :
    parsePacket (c.withAllowed S) st buf = parsePacket (c.withAllowed A) st buf := by
  unfold parsePacket
  cases hv : beU 2 buf with
  | none => rfl
  | some vb =>
    obtain ⟨v, body⟩ := vb
    have hS : S.contains v = true := h v (by simp [versionOf, hv])
    simp only [hS, hA v (beU_lt hv) hS, ↓reduceIte, parseVersioned_allowed]

theorem parsePacket_allowed_out (c : Config) (S : List Nat) (st : PState) (buf : Bytes) (v : Nat)
    (hv : versionOf buf = some v) (hS : S.contains v = false) :
    parsePacket (c.withAllowed S) st buf = (st, .unallowed) :=
  parsePacket_unallowed (versionOf_eq_some.1 hv) hS

/-- cache state of a `parse_bytes` run after its first `k` packet steps (a step that fails counts:
    it is the step that produced the final error element) -/
def stateAfter (c : Config) : Nat → Nat → PState → Bytes → PState
  | _, 0, st, _ => st
  | 0, _ + 1, st, _ => st
  | fuel + 1, k + 1, st, buf =>
    if buf.isEmpty then st
    else
      match parsePacket c st buf with
      | (st', .ok _ rest) => if rest.isEmpty then st' else stateAfter c fuel k st' rest
      | (st', _) => st'

theorem stateAfter_zero (c : Config) (fuel : Nat) (st : PState) (buf : Bytes) : stateAfter c fuel 0 st buf = st := by
  cases fuel <;> rfl

theorem takeAllowed_nil (cAll : Config) (S : List Nat) (fuel : Nat) (buf : Bytes) : takeAllowed cAll S fuel buf [] = [] := by
  cases fuel <;> rfl

theorem stateAfter_length (c : Config) :
    ∀ (fuel : Nat) (st stA : PState) (buf : Bytes) (pkts : List Packet),
      parseBytesF c fuel st buf = (stA, .done pkts) → stateAfter c fuel pkts.length st buf = stA := by
  intro fuel
  induction fuel with
  | zero => intro st stA buf pkts h; cases h
  | succ fuel ih =>
    intro st stA buf pkts h
    have he : ∀ {b : Bytes}, b ≠ [] → b.isEmpty = false := List.isEmpty_eq_false_iff.2
    rcases parseBytesF_succ_done h with ⟨rfl, rfl, rfl⟩ | ⟨pkt, hne, hp, rfl⟩ |
      ⟨st1, pkt, rest, ps', hne, hr, hp, hrec, rfl⟩ | ⟨e, hne, hp, rfl⟩ | ⟨hne, hp, rfl⟩
    · rfl
    · simp [stateAfter, he hne, hp]
    · simp [stateAfter, he hne, hp, he hr, ih _ _ _ _ hrec]
    · simp [stateAfter, he hne, hp]
    · exact (parsePacket_unallowed_inv hp).1.symm

theorem takeAllowed_prefix (cAll : Config) (S : List Nat) :
    ∀ (fuel : Nat) (buf : Bytes) (pkts : List Packet), takeAllowed cAll S fuel buf pkts <+: pkts := by
  intro fuel
  induction fuel with
  | zero => intro buf pkts; simp [takeAllowed]
  | succ fuel ih =>
    intro buf pkts
    cases pkts with
    | nil => simp [takeAllowed]
    | cons p ps =>
      unfold takeAllowed
      cases versionOf buf with
      | none => exact ⟨ps, rfl⟩
      | some v =>
        simp only
        split
        · exact List.nil_prefix
        · cases wireLen cAll p with
          | none => exact ⟨ps, rfl⟩
          | some n => exact (List.cons_prefix_cons).2 ⟨rfl, ih _ _⟩

end Netflow
