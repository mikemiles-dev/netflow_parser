/-
  Lemmas/AnnouncedShort.lean — for Props/C14b.lean: a packet that is SHORTER THAN ITS OWN HEADER ANNOUNCES is rejected by
  `parse_packet_by_version`, without assuming that some longer buffer is accepted (Props/C14.lean cuts an accepted
  packet; here only the packet's header is looked at).  The announced lengths are read off the raw bytes through
  `Layout.wireAt` ("field `name` is the `w`-byte big-endian number at byte offset `off`", a decidable fact about a
  generated layout).
-/
import NetflowModel.Lemmas.Locality
import NetflowModel.Lemmas.FixedLayout
namespace Netflow
open Preds

/-- field `name` of `lay` is a `.wire w` field, the wire widths in front of it add up to `off`, and
    names are distinct (decidable) -/
def Layout.wireAt (lay : Layout) (name : String) (off w : Nat) : Bool :=
  lay.namesNodup &&
  match lay[lay.indexOf name]? with
  | some f => f.name == name && f.kind == .wire w && Layout.wireLen (lay.take (lay.indexOf name)) == off
  | none => false

theorem wireAt_get (proto : Nat → Nat) {lay : Layout} {name : String} {off w : Nat}
    (hw : lay.wireAt name off w = true) {i : Bytes} {vals : List Nat} {r : Bytes}
    (h : parseLayout proto lay i = some (vals, r)) :
    lay.get name vals = beNat ((i.drop off).take w) := by
  unfold Layout.wireAt at hw
  simp only [Bool.and_eq_true] at hw
  obtain ⟨hnd, hm⟩ := hw
  cases hf : lay[lay.indexOf name]? with
  | none => simp [hf] at hm
  | some f =>
    simp only [hf, Bool.and_eq_true, beq_iff_eq] at hm
    obtain ⟨⟨hn, hk⟩, ho⟩ := hm
    obtain ⟨hj, hfe⟩ := List.getElem?_eq_some_iff.mp hf
    have := parseLayout_get_wire proto lay hnd i vals r h (lay.indexOf name) w hj (by rw [hfe]; exact hk)
    rw [hfe, hn, ho] at this
    exact this

/-- the header facts used by the announced-length theorems: the V9 header is 18 bytes after the
    version word and `count` is its first word; the flowset header is 4 bytes and `length` its
    second word; the IPFIX header is 14 bytes after the version word and `length` is its first word -/
def Tables.announceOk (t : Tables) : Bool :=
  t.v9Hdr.wireLen == 18 && t.v9Hdr.wireAt "count" 0 2 &&
  t.v9SetHdr.wireLen == 4 && t.v9SetHdr.wireAt "length" 2 2 &&
  t.ipHdr.wireLen == 14 && t.ipHdr.wireAt "length" 0 2

theorem Tables.announceOk_inv {t : Tables} (h : t.announceOk = true) :
    t.v9Hdr.wireLen = 18 ∧ t.v9Hdr.wireAt "count" 0 2 = true ∧
    t.v9SetHdr.wireLen = 4 ∧ t.v9SetHdr.wireAt "length" 2 2 = true ∧
    t.ipHdr.wireLen = 14 ∧ t.ipHdr.wireAt "length" 0 2 = true := by
  simp only [Tables.announceOk, Bool.and_eq_true, beq_iff_eq] at h
  obtain ⟨⟨⟨⟨⟨a, b⟩, c⟩, d⟩, e⟩, f⟩ := h
  exact ⟨a, b, c, d, e, f⟩

/-- A framed unit (a header `lay`, then `get name - k` bytes) cannot be read from an input shorter than the header or
    shorter than the header announces: the header is rejected, or it is read and the `take` after it fails. -/
theorem framed_short (proto : Nat → Nat) {lay : Layout} {name : String} {off w : Nat} (hw : lay.wireAt name off w = true)
    (k : Nat) (i : Bytes)
    (hs : i.length < lay.wireLen ∨ i.length - lay.wireLen < beNat ((i.drop off).take w) - k) :
    parseLayout proto lay i = none ∨ ∃ hd, parseLayout proto lay i = some (hd, i.drop lay.wireLen) ∧
      takeN (lay.get name hd - k) (i.drop lay.wireLen) = none := by
  by_cases hl : i.length < lay.wireLen
  · exact Or.inl ((parseLayout_none_iff proto lay i).2 hl)
  · obtain ⟨hd, hp⟩ := parseLayout_of_le proto lay i (by omega)
    refine Or.inr ⟨hd, hp, takeN_short ?_⟩
    rw [List.length_drop, wireAt_get proto hw hp]
    omega

theorem parseIpfix_short_raw (c : Config) (ha : c.t.announceOk = true) (st : PState) (i : Bytes)
    (hs : i.length < 14 ∨ i.length - 14 < beNat (i.take 2) - 16) :
    parseIpfix c st i = (st, .err) := by
  obtain ⟨_, _, _, _, hw, hl⟩ := Tables.announceOk_inv ha
  unfold parseIpfix
  rcases framed_short c.t.protoFromU8 hl 16 i (by rw [hw]; exact hs) with h | ⟨hd, h1, h2⟩
  · simp [h]
  · simp [h1, h2]

theorem v9ParseSet_short_raw (c : Config) (ha : c.t.announceOk = true) (st : PState) (i : Bytes)
    (hs : i.length < 4 ∨ i.length - 4 < beNat ((i.drop 2).take 2) - 4) :
    v9ParseSet c st i = (st, .err) := by
  obtain ⟨_, _, hw, hl, _, _⟩ := Tables.announceOk_inv ha
  unfold v9ParseSet
  rcases framed_short c.t.protoFromU8 hl 4 i (by rw [hw]; exact hs) with h | ⟨hd, h1, h2⟩
  · simp [h]
  · simp [h1, h2]

/-- if the first `k` iterations decode the `k` flowsets of `i1` (every iteration got one) and leave
    `r`, then a loop of `k + n` iterations on `i1 ++ b` behaves, from iteration `k` on, like a loop
    of `n` iterations on `r ++ b` in the state reached — here for the case where that loop fails -/
theorem v9ParseSets_after (c : Config) :
    ∀ (k : Nat) (st st1 : PState) (i1 : Bytes) (ss : List V9Set) (r : Bytes),
      v9ParseSets c k st i1 = (st1, .ok (ss, r)) → ss.length = k →
      ∀ (n : Nat) (b : Bytes) (st2 : PState), v9ParseSets c n st1 (r ++ b) = (st2, .err) →
        v9ParseSets c (k + n) st (i1 ++ b) = (st2, .err) := by
  intro k
  induction k with
  | zero =>
    intro st st1 i1 ss r h _ n b st2 hn
    simp only [v9ParseSets, Prod.mk.injEq, Res.ok.injEq] at h
    obtain ⟨e1, _, e3⟩ := h
    subst e1 e3
    rw [Nat.zero_add]
    exact hn
  | succ k ih =>
    intro st st1 i1 ss r h hl n b st2 hn
    by_cases hne : i1 = []
    · subst hne
      rw [v9ParseSets_nil] at h
      simp only [Prod.mk.injEq, Res.ok.injEq] at h
      rw [← h.2.1] at hl
      simp at hl
    · obtain ⟨sa, s, r1, ss', h1, h2, e⟩ := v9ParseSets_succ_ok_inv hne h
      subst e
      have hne' : i1 ++ b ≠ [] := by simp [hne]
      have h3 := ih _ _ _ _ _ h2 (by simpa using hl) n b st2 hn
      rw [show k + 1 + n = (k + n) + 1 by omega]
      exact v9ParseSets_succ_err_intro hne' (v9ParseSet_ext c _ _ _ _ _ h1 b) h3

theorem v9ParseSets_short_here (c : Config) (ha : c.t.announceOk = true) (n : Nat) (st : PState) (i : Bytes)
    (hne : i ≠ []) (hs : i.length < 4 ∨ i.length - 4 < beNat ((i.drop 2).take 2) - 4) :
    v9ParseSets c (n + 1) st i = (st, .err) :=
  v9ParseSets_succ_err_here hne (v9ParseSet_short_raw c ha st i hs)

theorem v9ParseSets_short_after (c : Config) (ha : c.t.announceOk = true) (k cnt : Nat) (st st1 : PState)
    (i1 i2 : Bytes) (ss : List V9Set)
    (h1 : v9ParseSets c k st i1 = (st1, .ok (ss, []))) (hl : ss.length = k) (hk : k < cnt)
    (hne : i2 ≠ []) (hs : i2.length < 4 ∨ i2.length - 4 < beNat ((i2.drop 2).take 2) - 4) :
    v9ParseSets c cnt st (i1 ++ i2) = (st1, .err) := by
  obtain ⟨n, rfl⟩ : ∃ n, cnt = k + (n + 1) := ⟨cnt - k - 1, by omega⟩
  exact v9ParseSets_after c k st st1 i1 ss [] h1 hl (n + 1) i2 st1
    (by rw [List.nil_append]; exact v9ParseSets_short_here c ha n st1 i2 hne hs)

theorem parseV9_hdr_short (c : Config) (st : PState) (i : Bytes) (hs : i.length < c.t.v9Hdr.wireLen) :
    parseV9 c st i = (st, .err) := by
  have := (parseLayout_none_iff c.t.protoFromU8 c.t.v9Hdr i).2 hs
  unfold parseV9
  simp [this]

theorem parseV9_short_after (c : Config) (ha : c.t.announceOk = true) (k : Nat) (st st1 : PState)
    (hb i1 i2 : Bytes) (ss : List V9Set) (hhb : hb.length = 18)
    (h1 : v9ParseSets c k st i1 = (st1, .ok (ss, []))) (hl : ss.length = k) (hk : k < beNat (hb.take 2))
    (hne : i2 ≠ []) (hs : i2.length < 4 ∨ i2.length - 4 < beNat ((i2.drop 2).take 2) - 4) :
    parseV9 c st (hb ++ (i1 ++ i2)) = (st1, .err) := by
  obtain ⟨hw, hc, _, _, _, _⟩ := Tables.announceOk_inv ha
  obtain ⟨hd, hp⟩ := parseLayout_of_le c.t.protoFromU8 c.t.v9Hdr (hb ++ (i1 ++ i2))
    (by rw [List.length_append]; omega)
  have hg := wireAt_get c.t.protoFromU8 hc hp
  have ht : (hb ++ (i1 ++ i2)).take 2 = hb.take 2 := by
    rw [List.take_append_of_le_length (by omega)]
  have hdrop : (hb ++ (i1 ++ i2)).drop c.t.v9Hdr.wireLen = i1 ++ i2 := by
    rw [hw, ← hhb, List.drop_left]
  simp only [List.drop_zero, ht] at hg
  rw [hdrop] at hp
  have h2 := v9ParseSets_short_after c ha k (c.t.v9Hdr.get "count" hd) st st1 i1 i2 ss h1 hl (by rw [hg]; exact hk) hne hs
  unfold parseV9
  simp only [hp, h2]

theorem parsePacket_ipfix_short (c : Config) (hao : c.t.announceOk = true) (st : PState) (buf body : Bytes)
    (hv : beU 2 buf = some (10, body)) (ha : c.allowed.contains 10 = true) (hd : c.t.dispatch.lookup 10 = some 10)
    (hs : body.length < 14 ∨ body.length - 14 < beNat (body.take 2) - 16) :
    parsePacket c st buf = (st, .fail (.partialParse 10 body)) := by
  rw [parsePacket_versioned c st hv ha hd, parseVersioned_10, parseIpfix_short_raw c hao st body hs]
  rfl

theorem parsePacket_v9_hdr_short (c : Config) (hao : c.t.announceOk = true) (st : PState) (buf body : Bytes)
    (hv : beU 2 buf = some (9, body)) (ha : c.allowed.contains 9 = true) (hd : c.t.dispatch.lookup 9 = some 9)
    (hs : body.length < 18) :
    parsePacket c st buf = (st, .fail (.partialParse 9 body)) := by
  obtain ⟨hw, _⟩ := Tables.announceOk_inv hao
  rw [parsePacket_versioned c st hv ha hd, parseVersioned_9, parseV9_hdr_short c st body (by omega)]
  rfl

theorem parsePacket_v9_short_after (c : Config) (hao : c.t.announceOk = true) (k : Nat) (st st1 : PState)
    (buf hb i1 i2 : Bytes) (ss : List V9Set)
    (hv : beU 2 buf = some (9, hb ++ (i1 ++ i2))) (ha : c.allowed.contains 9 = true)
    (hd : c.t.dispatch.lookup 9 = some 9) (hhb : hb.length = 18)
    (h1 : v9ParseSets c k st i1 = (st1, .ok (ss, []))) (hl : ss.length = k) (hk : k < beNat (hb.take 2))
    (hne : i2 ≠ []) (hs : i2.length < 4 ∨ i2.length - 4 < beNat ((i2.drop 2).take 2) - 4) :
    parsePacket c st buf = (st1, .fail (.partialParse 9 (hb ++ (i1 ++ i2)))) := by
  rw [parsePacket_versioned c st hv ha hd, parseVersioned_9,
    parseV9_short_after c hao k st st1 hb i1 i2 ss hhb h1 hl hk hne hs]
  rfl

theorem ne_nil_of_beU {w v : Nat} {buf body : Bytes} (hw : 0 < w) (hv : beU w buf = some (v, body)) : buf ≠ [] := by
  have := (beU_some hv).1
  intro e
  subst e
  simp at this
  omega

theorem parseBytes_short_after_chain (c : Config) (st : PState) (qs : List Bytes)
    (hq : chainOk c st qs = true) {p : Bytes} {st2 : PState} {e : ErrKind} (hne : p ≠ [])
    (hp : parsePacket c (foldCalls c st qs).1 p = (st2, .fail e)) :
    parseBytes c st (qs.flatten ++ p) = (st2, .done ((foldCalls c st qs).2 ++ [.error e p])) := by
  rw [parseBytes_chain_append c qs st hq p, parseBytes_fail c hne hp]
  rfl

/-- **"the buffer ends before the end announced by the packet's own header"**, for a packet of
    version `v` whose bytes after the version word are `body`:
    * V5 / V7: the 22 header bytes are incomplete, or fewer than `22 + 48 * count` (V7: `52`) bytes,
      `count` = the first word of `body`;
    * IPFIX: the 14 header bytes are incomplete, or the whole buffer (`|body| + 2`) is shorter than
      the message length = the first word of `body`;
    * V9: the 18 header bytes are incomplete, or `count ≥ 1`, something follows the header, and the
      first flowset's 4-byte header is incomplete or its `length - 4` (the word at offset 20 of
      `body`) exceeds the bytes that follow it.
    (A V9 buffer that ends exactly after the header or between flowsets is NOT covered: the crate
    accepts it as a shorter packet, see `C14_anyCut_fails`, `C11_noCountHyp_fails`.) -/
def announcedShort (v : Nat) (body : Bytes) : Bool :=
  (v == 5 && (decide (body.length < 22) || decide (body.length < 22 + 48 * beNat (body.take 2)))) ||
  (v == 7 && (decide (body.length < 22) || decide (body.length < 22 + 52 * beNat (body.take 2)))) ||
  (v == 10 && (decide (body.length < 14) || decide (body.length + 2 < beNat (body.take 2)))) ||
  (v == 9 && (decide (body.length < 18) ||
    (decide (1 ≤ beNat (body.take 2)) && decide (18 < body.length) &&
      (decide (body.length < 22) || decide (body.length - 22 < beNat ((body.drop 20).take 2) - 4)))))

theorem announcedShort_cases {v : Nat} {body : Bytes} (h : announcedShort v body = true) :
    (v = 5 ∧ (body.length < 22 ∨ body.length < 22 + 48 * beNat (body.take 2))) ∨
    (v = 7 ∧ (body.length < 22 ∨ body.length < 22 + 52 * beNat (body.take 2))) ∨
    (v = 10 ∧ (body.length < 14 ∨ body.length + 2 < beNat (body.take 2))) ∨
    (v = 9 ∧ (body.length < 18 ∨ (1 ≤ beNat (body.take 2) ∧ 18 < body.length ∧
      (body.length < 22 ∨ body.length - 22 < beNat ((body.drop 20).take 2) - 4)))) := by
  simpa only [announcedShort, Bool.or_eq_true, Bool.and_eq_true, beq_iff_eq, decide_eq_true_eq, or_assoc, and_assoc] using h

end Netflow
