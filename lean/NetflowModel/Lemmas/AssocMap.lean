/-
  Lemmas/AssocMap.lean — the template caches as association lists: what `amLookup` finds after
  `amInsert` / `amErase`, membership, and the sortedness invariant the two updates maintain
  (`amErase` removes only the first entry with the key, so erasing is exact on sorted maps only).
-/
import NetflowModel.Types
namespace Netflow

theorem amLookup_amInsert {β : Type} (k j : Nat) (v : β) (l : List (Nat × β)) :
    amLookup j (amInsert k v l) = if j = k then some v else amLookup j l := by
  induction l with
  | nil => simp [amInsert, amLookup]
  | cons x xs ih => simp only [amInsert]; split <;> grind [amLookup]

theorem amLookup_mem {β : Type} {k : Nat} {v : β} {l : List (Nat × β)} (h : amLookup k l = some v) : (k, v) ∈ l := by
  induction l with
  | nil => simp [amLookup] at h
  | cons x xs ih => grind [amLookup]

theorem mem_amInsert {β : Type} {k : Nat} {v : β} {l : List (Nat × β)} {p : Nat × β} (h : p ∈ amInsert k v l) :
    p = (k, v) ∨ p ∈ l := by
  induction l with
  | nil => simpa [amInsert] using h
  | cons x xs ih => simp only [amInsert] at h; grind

theorem mem_amErase {β : Type} {k : Nat} {l : List (Nat × β)} {p : Nat × β} (h : p ∈ amErase k l) : p ∈ l := by
  induction l with
  | nil => simp [amErase] at h
  | cons x xs ih => simp only [amErase] at h; grind

theorem amLookup_amErase_ne {β : Type} {k j : Nat} (h : j ≠ k) (l : List (Nat × β)) :
    amLookup j (amErase k l) = amLookup j l := by
  induction l with
  | nil => rfl
  | cons x xs ih => simp only [amErase]; grind [amLookup]

theorem amErase_of_lookup_none {β : Type} {k : Nat} {l : List (Nat × β)} (h : amLookup k l = none) : amErase k l = l := by
  induction l with
  | nil => rfl
  | cons x xs ih => simp only [amLookup] at h; simp only [amErase]; grind

theorem amLookup_none_of_lt {β : Type} {j : Nat} {l : List (Nat × β)} (h : ∀ p ∈ l, j < p.1) : amLookup j l = none := by
  induction l with
  | nil => rfl
  | cons x xs ih =>
    have := h x List.mem_cons_self
    grind [amLookup]

/-- keys strictly increasing (the invariant `amInsert`/`amErase` maintain) -/
def AmSorted {β : Type} (l : List (Nat × β)) : Prop := (l.map (·.1)).Pairwise (· < ·)

theorem AmSorted.nil {β : Type} : AmSorted ([] : List (Nat × β)) := List.Pairwise.nil

theorem AmSorted.cons_iff {β : Type} {x : Nat × β} {xs : List (Nat × β)} :
    AmSorted (x :: xs) ↔ (∀ p ∈ xs, x.1 < p.1) ∧ AmSorted xs := by
  simp [AmSorted]

theorem amLookup_amErase_self {β : Type} (k : Nat) {l : List (Nat × β)} (hs : AmSorted l) :
    amLookup k (amErase k l) = none := by
  induction l with
  | nil => rfl
  | cons x xs ih =>
    obtain ⟨hlt, hs'⟩ := AmSorted.cons_iff.mp hs
    simp only [amErase]
    split
    · exact amLookup_none_of_lt (by grind)
    · grind [amLookup]

theorem amLookup_amErase {β : Type} (k j : Nat) (l : List (Nat × β)) (hs : AmSorted l) :
    amLookup j (amErase k l) = if j = k then none else amLookup j l := by
  split
  · next h => exact h ▸ amLookup_amErase_self k hs
  · next h => exact amLookup_amErase_ne h l

theorem AmSorted.insert {β : Type} (k : Nat) (v : β) (l : List (Nat × β)) (hs : AmSorted l) : AmSorted (amInsert k v l) := by
  induction l with
  | nil => simp [amInsert, AmSorted]
  | cons x xs ih =>
    obtain ⟨hlt, hs'⟩ := AmSorted.cons_iff.mp hs
    simp only [amInsert]
    split
    · exact AmSorted.cons_iff.mpr ⟨by grind, hs⟩
    · split
      · exact AmSorted.cons_iff.mpr ⟨by grind, hs'⟩
      · refine AmSorted.cons_iff.mpr ⟨fun p hp => ?_, ih hs'⟩
        rcases mem_amInsert hp with rfl | hp
        · grind
        · exact hlt p hp

theorem AmSorted.erase {β : Type} (k : Nat) (l : List (Nat × β)) (hs : AmSorted l) : AmSorted (amErase k l) := by
  induction l with
  | nil => exact hs
  | cons x xs ih =>
    obtain ⟨hlt, hs'⟩ := AmSorted.cons_iff.mp hs
    simp only [amErase]
    split
    · exact hs'
    · exact AmSorted.cons_iff.mpr ⟨fun p hp => hlt p (mem_amErase hp), ih hs'⟩

theorem forall_mem_amInsert {β : Type} {P : Nat × β → Prop} {k : Nat} {v : β} {l : List (Nat × β)}
    (h : ∀ e ∈ l, P e) (hv : P (k, v)) : ∀ e ∈ amInsert k v l, P e :=
  fun e he => (mem_amInsert he).elim (fun e' => e' ▸ hv) (h e)

theorem forall_mem_amErase {β : Type} {P : Nat × β → Prop} {k : Nat} {l : List (Nat × β)}
    (h : ∀ e ∈ l, P e) : ∀ e ∈ amErase k l, P e :=
  fun e he => h e (mem_amErase he)

/-- insertions under different keys commute: the map is kept sorted, so the order of arrival leaves no trace -/
theorem amInsert_comm {β : Type} {i j : Nat} (hij : i ≠ j) (e f : β) :
    ∀ r : List (Nat × β), amInsert i e (amInsert j f r) = amInsert j f (amInsert i e r) := by
  intro r
  induction r with
  | nil => grind [amInsert]
  | cons kv r ih => grind [amInsert]

theorem amInsert_all {β : Type} (p : β → Bool) (k : Nat) (v : β) (hv : p v = true) (l : List (Nat × β))
    (h : l.all (fun e => p e.2) = true) : (amInsert k v l).all (fun e => p e.2) = true :=
  List.all_eq_true.2 (forall_mem_amInsert (List.all_eq_true.1 h) hv)

theorem amErase_all {β : Type} (p : β → Bool) (k : Nat) (l : List (Nat × β))
    (h : l.all (fun e => p e.2) = true) : (amErase k l).all (fun e => p e.2) = true :=
  List.all_eq_true.2 (forall_mem_amErase (List.all_eq_true.1 h))

theorem amLookup_all {β : Type} (p : β → Bool) (k : Nat) (v : β) (l : List (Nat × β))
    (h : l.all (fun e => p e.2) = true) (hl : amLookup k l = some v) : p v = true :=
  List.all_eq_true.1 h _ (amLookup_mem hl)

end Netflow
