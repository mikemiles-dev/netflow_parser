/-
  Lemmas/Basic.lean — the primitive parsers `takeN` / `beU`, `Consumes` and `countP` (inversion, induction
  principle), the closed form of the generic layout parser (`parseFields_eq`: it succeeds exactly on
  `wireLen` bytes and returns `decodeFields`), and generic list lemmas (`foldl_inv`, `foldl_rel`,
  `lookup_mem`, `lookup_of_mem`, `take_ne_nil`).
-/
import NetflowModel.Parser
import NetflowModel.Lemmas.Bytes
import NetflowModel.Lemmas.AssocMap
namespace Netflow

theorem takeN_some {n : Nat} {i b r : Bytes} (h : takeN n i = some (b, r)) :
    n ≤ i.length ∧ b = i.take n ∧ r = i.drop n := by
  unfold takeN at h
  split at h
  · simp at h; exact ⟨by assumption, h.1.symm, h.2.symm⟩
  · simp at h

theorem takeN_of_le {n : Nat} {i : Bytes} (h : n ≤ i.length) : takeN n i = some (i.take n, i.drop n) := by
  simp [takeN, h]

theorem takeN_none {n : Nat} {i : Bytes} (h : takeN n i = none) : i.length < n := by
  unfold takeN at h
  split at h
  · simp at h
  · omega

theorem beU_some {w : Nat} {i r : Bytes} {v : Nat} (h : beU w i = some (v, r)) :
    w ≤ i.length ∧ v = beNat (i.take w) ∧ r = i.drop w := by
  unfold beU at h
  split at h
  · simp at h; exact ⟨by assumption, h.1.symm, h.2.symm⟩
  · simp at h

theorem beU_of_le {w : Nat} {i : Bytes} (h : w ≤ i.length) : beU w i = some (beNat (i.take w), i.drop w) := by
  simp [beU, h]

theorem beU_none {w : Nat} {i : Bytes} (h : beU w i = none) : i.length < w := by
  unfold beU at h
  split at h
  · simp at h
  · omega

/-- a parser that, whenever it succeeds, returns the input with exactly `n` bytes dropped -/
def Consumes {α : Type} (p : P α) (n : Nat) : Prop :=
  ∀ i a r, p i = some (a, r) → n ≤ i.length ∧ r = i.drop n

theorem takeN_consumes (n : Nat) : Consumes (takeN n) n :=
  fun _ _ _ h => ⟨(takeN_some h).1, (takeN_some h).2.2⟩

theorem beU_consumes (w : Nat) : Consumes (beU w) w :=
  fun _ _ _ h => ⟨(beU_some h).1, (beU_some h).2.2⟩

theorem countP_succ_eq_some_iff {α : Type} {p : P α} {k : Nat} {i : Bytes} {as : List α} {r : Bytes} :
    countP p (k + 1) i = some (as, r) ↔
      ∃ a r1 as', p i = some (a, r1) ∧ countP p k r1 = some (as', r) ∧ as = a :: as' := by
  constructor
  · intro h
    simp only [countP] at h
    cases hp : p i with
    | none => simp [hp] at h
    | some ar =>
      cases hc : countP p k ar.2 with
      | none => simp [hp, hc] at h
      | some asr =>
        simp only [hp, hc, Option.some.injEq, Prod.mk.injEq] at h
        exact ⟨ar.1, ar.2, asr.1, rfl, by rw [hc, ← h.2], h.1.symm⟩
  · rintro ⟨a, r1, as', hp, hc, rfl⟩
    simp [countP, hp, hc]

/-- induction principle: a relation between input, decoded list and remaining input that holds for
    `[]` and is preserved by one more element in front holds for every result of `countP` -/
theorem countP_rec {α : Type} {p : P α} (R : Bytes → List α → Bytes → Prop) (h0 : ∀ b, R b [] b)
    (hstep : ∀ b a r1 as r, p b = some (a, r1) → R r1 as r → R b (a :: as) r) :
    ∀ (k : Nat) (i : Bytes) (as : List α) (r : Bytes), countP p k i = some (as, r) → R i as r
  | 0, i, as, r, h => by
    simp only [countP, Option.some.injEq, Prod.mk.injEq] at h
    rw [← h.1, ← h.2]; exact h0 i
  | k + 1, i, as, r, h => by
    obtain ⟨a, r1, as', hp, hc, rfl⟩ := countP_succ_eq_some_iff.mp h
    exact hstep i a r1 as' r hp (countP_rec R h0 hstep k r1 as' r hc)

theorem countP_consumes {α : Type} {p : P α} {n : Nat} (hp : Consumes p n) :
    ∀ (k : Nat) (i : Bytes) (as : List α) (r : Bytes), countP p k i = some (as, r) →
      n * k ≤ i.length ∧ r = i.drop (n * k) ∧ as.length = k
  | 0, i, as, r, h => by
    simp only [countP, Option.some.injEq, Prod.mk.injEq] at h
    simp [h.1.symm, h.2.symm]
  | k + 1, i, as, r, h => by
    obtain ⟨a, r1, as', hpi, hc, rfl⟩ := countP_succ_eq_some_iff.mp h
    obtain ⟨h1, rfl⟩ := hp i a r1 hpi
    obtain ⟨h3, h4, h5⟩ := countP_consumes hp k _ as' r hc
    rw [List.length_drop] at h3
    refine ⟨?_, ?_, ?_⟩
    · rw [Nat.mul_succ]; omega
    · rw [h4, List.drop_drop, Nat.mul_succ]; congr 1; omega
    · simp [h5]

/-! ### closed form of the generic layout parser -/

theorem Layout.wireLen_nil : Layout.wireLen [] = 0 := rfl

theorem Layout.wireLen_cons (f : LField) (fs : Layout) :
    Layout.wireLen (f :: fs) = f.kind.width + Layout.wireLen fs := by
  simp [Layout.wireLen]

/-- the value decoded for field `f`, `acc` being the values decoded before it and `i` the input at `f` -/
def fieldVal (proto : Nat → Nat) (f : LField) (acc : List Nat) (i : Bytes) : Nat :=
  match f.kind with
  | .wire w => beNat (i.take w)
  | .const v => v
  | .protoOf s => proto (acc.getD s 0)

theorem fieldVal_wire {proto : Nat → Nat} {f : LField} {w : Nat} (hk : f.kind = .wire w) (acc : List Nat) (i : Bytes) :
    fieldVal proto f acc i = beNat (i.take w) := by rw [fieldVal, hk]

theorem fieldVal_const {proto : Nat → Nat} {f : LField} {v : Nat} (hk : f.kind = .const v) (acc : List Nat) (i : Bytes) :
    fieldVal proto f acc i = v := by rw [fieldVal, hk]

theorem fieldVal_protoOf {proto : Nat → Nat} {f : LField} {s : Nat} (hk : f.kind = .protoOf s) (acc : List Nat)
    (i : Bytes) : fieldVal proto f acc i = proto (acc.getD s 0) := by rw [fieldVal, hk]

theorem parseFields_cons (proto : Nat → Nat) (f : LField) (fs : Layout) (acc : List Nat) (i : Bytes) :
    parseFields proto (f :: fs) acc i =
      if f.kind.width ≤ i.length then
        parseFields proto fs (acc ++ [fieldVal proto f acc i]) (i.drop f.kind.width)
      else none := by
  cases hk : f.kind with
  | wire w => by_cases h : w ≤ i.length <;> simp [parseFields, fieldVal, hk, FKind.width, beU, h]
  | const v => simp [parseFields, fieldVal, hk, FKind.width]
  | protoOf s => simp [parseFields, fieldVal, hk, FKind.width]

/-- the values the layout parser appends to `acc` on an input that holds `lay.wireLen` bytes -/
def decodeFields (proto : Nat → Nat) : Layout → List Nat → Bytes → List Nat
  | [], _, _ => []
  | f :: fs, acc, i =>
    fieldVal proto f acc i :: decodeFields proto fs (acc ++ [fieldVal proto f acc i]) (i.drop f.kind.width)

theorem parseFields_eq (proto : Nat → Nat) : ∀ (lay : Layout) (acc : List Nat) (i : Bytes),
    parseFields proto lay acc i =
      if lay.wireLen ≤ i.length then some (acc ++ decodeFields proto lay acc i, i.drop lay.wireLen) else none
  | [], acc, i => by simp [parseFields, decodeFields, Layout.wireLen_nil]
  | f :: fs, acc, i => by
    rw [parseFields_cons, parseFields_eq proto fs, Layout.wireLen_cons, List.length_drop, List.drop_drop, decodeFields,
      List.append_assoc, List.singleton_append]
    by_cases h : f.kind.width ≤ i.length
    · have : Layout.wireLen fs ≤ i.length - f.kind.width ↔ f.kind.width + Layout.wireLen fs ≤ i.length := by omega
      simp only [if_pos h, this]
    · rw [if_neg h, if_neg (by omega)]

theorem parseLayout_eq (proto : Nat → Nat) (lay : Layout) (i : Bytes) :
    parseLayout proto lay i =
      if lay.wireLen ≤ i.length then some (decodeFields proto lay [] i, i.drop lay.wireLen) else none := by
  rw [parseLayout, parseFields_eq, List.nil_append]

theorem parseLayout_eq_some_iff {proto : Nat → Nat} {lay : Layout} {i : Bytes} {vals : List Nat} {r : Bytes} :
    parseLayout proto lay i = some (vals, r) ↔
      lay.wireLen ≤ i.length ∧ vals = decodeFields proto lay [] i ∧ r = i.drop lay.wireLen := by
  rw [parseLayout_eq]
  by_cases h : lay.wireLen ≤ i.length
  · rw [if_pos h]; simp only [Option.some.injEq, Prod.mk.injEq, h, true_and]
    exact ⟨fun ⟨a, b⟩ => ⟨a.symm, b.symm⟩, fun ⟨a, b⟩ => ⟨a.symm, b.symm⟩⟩
  · rw [if_neg h]; simp [h]

theorem decodeFields_length (proto : Nat → Nat) : ∀ (lay : Layout) (acc : List Nat) (i : Bytes),
    (decodeFields proto lay acc i).length = lay.length
  | [], _, _ => rfl
  | _ :: fs, _, _ => by rw [decodeFields, List.length_cons, decodeFields_length proto fs, List.length_cons]

theorem parseLayout_consumes (proto : Nat → Nat) (lay : Layout) : Consumes (parseLayout proto lay) lay.wireLen :=
  fun _ _ _ h => ⟨(parseLayout_eq_some_iff.1 h).1, (parseLayout_eq_some_iff.1 h).2.2⟩

/-- the layout parser succeeds when enough bytes are present (and only then: `parseLayout_none_iff`) -/
theorem parseFields_isSome (proto : Nat → Nat) (lay : Layout) (acc : List Nat) (i : Bytes)
    (h : lay.wireLen ≤ i.length) : ∃ vals, parseFields proto lay acc i = some (vals, i.drop lay.wireLen) :=
  ⟨_, by rw [parseFields_eq, if_pos h]⟩

theorem parseLayout_none_iff (proto : Nat → Nat) (lay : Layout) (i : Bytes) :
    parseLayout proto lay i = none ↔ i.length < lay.wireLen := by
  rw [parseLayout_eq]
  by_cases h : lay.wireLen ≤ i.length
  · rw [if_pos h]; simp; omega
  · rw [if_neg h]; simp; omega

/-! ### lists -/

theorem foldl_inv {σ α : Type} {P : σ → Prop} {f : σ → α → σ} :
    ∀ (l : List α) (s : σ), (∀ s, ∀ a ∈ l, P s → P (f s a)) → P s → P (l.foldl f s) := by
  intro l
  induction l with
  | nil => intro s _ hs; exact hs
  | cons a l ih =>
    intro s h hs
    exact ih _ (fun s' b hb => h s' b (List.mem_cons_of_mem _ hb)) (h s a List.mem_cons_self hs)

theorem foldl_rel {σ α : Type} {R : σ → σ → Prop} {f g : σ → α → σ} :
    ∀ (l : List α) (s t : σ), (∀ s t, ∀ a ∈ l, R s t → R (f s a) (g t a)) → R s t → R (l.foldl f s) (l.foldl g t) := by
  intro l
  induction l with
  | nil => intro s t _ hs; exact hs
  | cons a l ih =>
    intro s t h hs
    exact ih _ _ (fun s' t' b hb => h s' t' b (List.mem_cons_of_mem _ hb)) (h s t a List.mem_cons_self hs)

theorem lookup_of_mem {α β : Type} [BEq α] [LawfulBEq α] : ∀ {l : List (α × β)}, (l.map (·.1)).Nodup →
    ∀ {n : α} {v : β}, (n, v) ∈ l → l.lookup n = some v
  | [], _, _, _, h => by cases h
  | (k, w) :: l, hn, n, v, h => by
    simp only [List.map_cons, List.nodup_cons] at hn
    rcases List.mem_cons.mp h with h1 | h2
    · cases h1
      simp [List.lookup]
    · have : (n == k) = false := by
        rw [beq_eq_false_iff_ne]
        rintro rfl
        exact hn.1 (List.mem_map.mpr ⟨(n, v), h2, rfl⟩)
      simp only [List.lookup, this]
      exact lookup_of_mem hn.2 h2

theorem lookup_mem {α β : Type} [BEq α] [LawfulBEq α] {a : α} {b : β} :
    ∀ {l : List (α × β)}, l.lookup a = some b → (a, b) ∈ l := by
  intro l
  induction l with
  | nil => intro h; simp [List.lookup] at h
  | cons x xs ih =>
    intro h
    obtain ⟨k, v⟩ := x
    simp only [List.lookup] at h
    by_cases hk : a == k
    · simp only [hk] at h
      have : a = k := by simpa using hk
      simp at h
      subst this h
      exact List.mem_cons_self
    · simp only [hk] at h
      exact List.mem_cons_of_mem _ (ih h)

theorem take_ne_nil {i : Bytes} {m : Nat} (hne : i ≠ []) (hm : 0 < m) : i.take m ≠ [] := by
  cases i with
  | nil => exact absurd rfl hne
  | cons x xs => cases m with
    | zero => omega
    | succ m => simp

end Netflow
