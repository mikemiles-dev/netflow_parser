/-
  Lemmas/Bytes.lean — the big-endian codecs `toBE` / `beNat` are mutually inverse, and the two
  primitive parsers `takeN` / `beU` on a concatenation.
-/
import NetflowModel.Nom
namespace Netflow

theorem toBE_length : ∀ (w n : Nat), (toBE w n).length = w
  | 0, _ => rfl
  | w + 1, n => by simp [toBE, toBE_length w]

theorem beNat_nil : beNat [] = 0 := rfl

theorem beNat_foldl (bs : Bytes) (acc : Nat) :
    bs.foldl (fun acc b => acc * 256 + b.toNat) acc = acc * 256 ^ bs.length + beNat bs := by
  induction bs generalizing acc with
  | nil => simp [beNat]
  | cons b bs ih =>
    simp only [List.foldl_cons, List.length_cons, beNat]
    rw [ih, ih (0 * 256 + b.toNat), Nat.pow_succ]
    generalize 256 ^ bs.length = P
    generalize beNat bs = x
    grind

theorem beNat_append (a b : Bytes) : beNat (a ++ b) = beNat a * 256 ^ b.length + beNat b := by
  unfold beNat
  rw [List.foldl_append, beNat_foldl]
  rfl

theorem beNat_singleton (b : UInt8) : beNat [b] = b.toNat := by simp [beNat]

theorem beNat_cons (b : UInt8) (bs : Bytes) : beNat (b :: bs) = b.toNat * 256 ^ bs.length + beNat bs := by
  rw [← List.singleton_append, beNat_append, beNat_singleton]

theorem beNat_concat (a : Bytes) (b : UInt8) : beNat (a ++ [b]) = beNat a * 256 + b.toNat := by
  rw [beNat_append, beNat_singleton]; simp

theorem beNat_lt (bs : Bytes) : beNat bs < 256 ^ bs.length := by
  induction bs with
  | nil => simp [beNat]
  | cons b bs ih =>
    rw [beNat_cons, List.length_cons, Nat.pow_succ]
    have hb := b.toNat_lt
    generalize 256 ^ bs.length = P at *
    have : (b.toNat + 1) * P ≤ 256 * P := Nat.mul_le_mul_right P (by omega)
    rw [Nat.add_mul] at this
    omega

theorem beNat_toBE : ∀ (w n : Nat), beNat (toBE w n) = n % 256 ^ w
  | 0, n => by simp [toBE, beNat, Nat.mod_one]
  | w + 1, n => by
    have h : (UInt8.ofNat (n % 256)).toNat = n % 256 := by rw [UInt8.toNat_ofNat']; omega
    rw [toBE, beNat_concat, beNat_toBE w, h, Nat.pow_succ, Nat.mul_comm (256 ^ w) 256, Nat.mod_mul]
    omega

theorem beNat_toBE_of_lt {w n : Nat} (h : n < 256 ^ w) : beNat (toBE w n) = n := by
  rw [beNat_toBE, Nat.mod_eq_of_lt h]

theorem toBE_beNat_concat (bs : Bytes) (b : UInt8) (w : Nat) :
    toBE (w + 1) (beNat (bs ++ [b])) = toBE w (beNat bs) ++ [b] := by
  have hb := b.toNat_lt
  rw [beNat_concat, toBE, show (beNat bs * 256 + b.toNat) / 256 = beNat bs by omega,
    show (beNat bs * 256 + b.toNat) % 256 = b.toNat by omega, UInt8.ofNat_toNat]

theorem toBE_beNat (bs : Bytes) : toBE bs.length (beNat bs) = bs := by
  rw [← bs.reverse_reverse]
  induction bs.reverse with
  | nil => rfl
  | cons a t ih => rw [List.reverse_cons, List.length_append, List.length_singleton, toBE_beNat_concat, ih]

theorem toBE_beNat_of_length {w : Nat} {bs : Bytes} (h : bs.length = w) : toBE w (beNat bs) = bs :=
  h ▸ toBE_beNat bs

/-! ### `takeN` / `beU` -/

theorem takeN_append {n : Nat} (a r : Bytes) (h : a.length = n) : takeN n (a ++ r) = some (a, r) := by
  subst h
  simp [takeN]

theorem beU_append {w : Nat} (a r : Bytes) (h : a.length = w) : beU w (a ++ r) = some (beNat a, r) := by
  subst h
  simp [beU]

theorem beU_toBE (w n : Nat) (r : Bytes) : beU w (toBE w n ++ r) = some (n % 256 ^ w, r) := by
  rw [beU_append _ _ (toBE_length w n), beNat_toBE]

theorem beU_toBE_append {w n : Nat} (r : Bytes) (h : n < 256 ^ w) : beU w (toBE w n ++ r) = some (n, r) := by
  rw [beU_toBE, Nat.mod_eq_of_lt h]

example : beU 2 (toBE 2 515 ++ [7]) = some (515, [7]) := beU_toBE_append [7] (by decide)
example : takeN 2 ([1, 2] ++ [3]) = some ([1, 2], [3]) := takeN_append _ _ rfl

theorem takeN_short {n : Nat} {i : Bytes} (h : i.length < n) : takeN n i = none := by
  simp [takeN, Nat.not_le.mpr h]

theorem beU_short {w : Nat} {i : Bytes} (h : i.length < w) : beU w i = none := by
  simp [beU, Nat.not_le.mpr h]

/-- the two's complement reading of `bs` lies in the signed range of its width -/
theorem beInt_bounds (bs : Bytes) :
    -((256 ^ bs.length : Nat) : Int) ≤ 2 * beInt bs ∧ 2 * beInt bs < ((256 ^ bs.length : Nat) : Int) := by
  have := beNat_lt bs
  simp only [beInt]
  split <;> omega

end Netflow
