/-
  Lemmas/CommonView.lean — what the common (flow) view rests on: `FieldOk` / `Layout.kindOf` (the value the
  layout parser puts at a named field), `PacketOrigin` (where a returned packet comes from), `recGet` vs
  `firstField`, and the decidable side conditions `fixedRecOk`, `commonLayoutOk`, `kindsAccepted`, `protoGood`.
-/
import NetflowModel.Lemmas.Inversion
import NetflowModel.Common
import NetflowModel.Preds
namespace Netflow
open Preds

/-- what the layout parser guarantees about the value at position `n` of a field of kind `k` -/
def FieldOk (proto : Nat → Nat) (k : FKind) (vals : List Nat) (n : Nat) : Prop :=
  match k with
  | .wire w => ∃ x, vals[n]? = some x ∧ x < 256 ^ w
  | .const v => vals[n]? = some v
  | .protoOf src => vals[n]? = some (proto ((vals.take n).getD src 0))

/-- value number `j` among those the layout parser appends: decoded from the bytes behind the
    preceding fields, with everything decoded before it as context -/
theorem decodeFields_getElem? (proto : Nat → Nat) : ∀ (lay : Layout) (acc : List Nat) (i : Bytes) (j : Nat) (hj : j < lay.length),
    (decodeFields proto lay acc i)[j]? =
      some (fieldVal proto lay[j] (acc ++ (decodeFields proto lay acc i).take j) (i.drop (Layout.wireLen (lay.take j))))
  | f :: fs, acc, i, 0, _ => by simp [decodeFields, Layout.wireLen_nil]
  | f :: fs, acc, i, j + 1, hj => by
    rw [decodeFields, List.getElem?_cons_succ, decodeFields_getElem? proto fs _ _ j (Nat.lt_of_succ_lt_succ hj)]
    simp only [List.getElem_cons_succ, List.take_succ_cons, Layout.wireLen_cons, List.drop_drop, List.append_assoc,
      List.singleton_append]

theorem parseFields_spec (proto : Nat → Nat) (lay : Layout) (acc : List Nat) (i : Bytes) (vals : List Nat) (r : Bytes)
    (h : parseFields proto lay acc i = some (vals, r)) :
    vals.take acc.length = acc ∧
    ∀ (j : Nat) (hj : j < lay.length), FieldOk proto lay[j].kind vals (acc.length + j) := by
  rw [parseFields_eq] at h
  split at h
  · cases h
    refine ⟨List.take_left' rfl, fun j hj => ?_⟩
    have hd := decodeFields_getElem? proto lay acc i j hj
    have ht : (acc ++ decodeFields proto lay acc i).take (acc.length + j) = acc ++ (decodeFields proto lay acc i).take j := by
      rw [List.take_append, List.take_of_length_le (Nat.le_add_right _ _), Nat.add_sub_cancel_left]
    have hg : (acc ++ decodeFields proto lay acc i)[acc.length + j]? = (decodeFields proto lay acc i)[j]? := by
      rw [List.getElem?_append_right (Nat.le_add_right _ _), Nat.add_sub_cancel_left]
    rw [← hg] at hd
    unfold FieldOk
    cases hk : lay[j].kind with
    | wire w =>
      rw [fieldVal_wire hk] at hd
      refine ⟨_, hd, Nat.lt_of_lt_of_le (beNat_lt _) (Nat.pow_le_pow_right (by omega) ?_)⟩
      rw [List.length_take]; omega
    | const v => rwa [fieldVal_const hk] at hd
    | protoOf s => rwa [fieldVal_protoOf hk, ← ht] at hd
  · cases h

/-- kind of the field called `name` -/
def Layout.kindOf (lay : Layout) (name : String) : Option FKind := (lay[lay.indexOf name]?).map (·.kind)

theorem parseLayout_fieldOk {proto : Nat → Nat} {lay : Layout} {i r : Bytes} {vals : List Nat} {name : String} {k : FKind}
    (h : parseLayout proto lay i = some (vals, r)) (hk : lay.kindOf name = some k) :
    FieldOk proto k vals (lay.indexOf name) := by
  obtain ⟨_, h2⟩ := parseFields_spec proto lay [] i vals r h
  unfold Layout.kindOf at hk
  cases hg : lay[lay.indexOf name]? with
  | none => simp [hg] at hk
  | some f =>
    simp only [hg, Option.map_some, Option.some.injEq] at hk
    obtain ⟨hj, hf⟩ := List.getElem?_eq_some_iff.1 hg
    have := h2 _ hj
    rw [hf, hk] at this
    simpa using this

theorem parseLayout_const {proto : Nat → Nat} {lay : Layout} {i r : Bytes} {vals : List Nat} {name : String} {v : Nat}
    (h : parseLayout proto lay i = some (vals, r)) (hk : lay.kindOf name = some (.const v)) :
    lay.get name vals = v := by
  have := parseLayout_fieldOk h hk
  simp only [FieldOk] at this
  simp [Layout.get, List.getD, this]

theorem parseLayout_wire_lt {proto : Nat → Nat} {lay : Layout} {i r : Bytes} {vals : List Nat} {name : String} {w : Nat}
    (h : parseLayout proto lay i = some (vals, r)) (hk : lay.kindOf name = some (.wire w)) :
    lay.get name vals < 256 ^ w := by
  obtain ⟨x, hx, hlt⟩ := parseLayout_fieldOk h hk
  simp [Layout.get, List.getD, hx, hlt]

theorem parseLayout_protoOf {proto : Nat → Nat} {lay : Layout} {i r : Bytes} {vals : List Nat} {pname nname : String}
    (h : parseLayout proto lay i = some (vals, r)) (hk : lay.kindOf pname = some (.protoOf (lay.indexOf nname)))
    (hlt : lay.indexOf nname < lay.indexOf pname) :
    lay.get pname vals = proto (lay.get nname vals) := by
  have := parseLayout_fieldOk h hk
  simp only [FieldOk] at this
  have e : (vals.take (lay.indexOf pname)).getD (lay.indexOf nname) 0 = vals.getD (lay.indexOf nname) 0 := by
    simp [List.getD, hlt]
  rw [e] at this
  simp [Layout.get, List.getD, this]

theorem countP_mem {α : Type} {p : P α} :
    ∀ (k : Nat) (i : Bytes) (as : List α) (r : Bytes), countP p k i = some (as, r) →
      ∀ a ∈ as, ∃ i' r', p i' = some (a, r') :=
  countP_rec (fun _ as _ => ∀ a ∈ as, ∃ i' r', p i' = some (a, r')) (fun _ a ha => by cases ha)
    fun b a r1 as _ hp ih x hx => by
      rcases List.mem_cons.1 hx with rfl | hx
      · exact ⟨b, r1, hp⟩
      · exact ih x hx

/-- header and records of a fixed-format packet each come from the layout parser -/
theorem parseFixed_parts (c : Config) (hdr rec : Layout) (i : Bytes) (h : List Nat) (rs : List (List Nat)) (r : Bytes)
    (hp : parseFixed c hdr rec i = some ((h, rs), r)) :
    (∃ r1, parseLayout c.t.protoFromU8 hdr i = some (h, r1)) ∧
    ∀ x ∈ rs, ∃ i' r', parseLayout c.t.protoFromU8 rec i' = some (x, r') := by
  obtain ⟨r1, hh, hc⟩ := parseFixed_some hp
  exact ⟨⟨r1, hh⟩, countP_mem _ _ _ _ hc⟩

/-- where a packet returned by `parse_packet_by_version` comes from, by variant -/
inductive PacketOrigin (c : Config) : Packet → Prop where
  | v5 (h : List Nat) (rs : List (List Nat)) (i r : Bytes) :
      parseFixed c c.t.v5Hdr c.t.v5Rec i = some ((h, rs), r) → PacketOrigin c (.v5 h rs)
  | v7 (h : List Nat) (rs : List (List Nat)) (i r : Bytes) :
      parseFixed c c.t.v7Hdr c.t.v7Rec i = some ((h, rs), r) → PacketOrigin c (.v7 h rs)
  | v9 (h : List Nat) (ss : List V9Set) (i r : Bytes) :
      parseLayout c.t.protoFromU8 c.t.v9Hdr i = some (h, r) → PacketOrigin c (.v9 h ss)
  | ipfix (h : List Nat) (ss : List IpSet) (i r : Bytes) :
      parseLayout c.t.protoFromU8 c.t.ipHdr i = some (h, r) → PacketOrigin c (.ipfix h ss)

theorem parsePacket_origin (c : Config) (st st' : PState) (buf : Bytes) (pkt : Packet) (rest : Bytes)
    (h : parsePacket c st buf = (st', .ok pkt rest)) : PacketOrigin c pkt := by
  obtain ⟨_, _, _, _, _, hv⟩ := parsePacket_ok_versioned h
  rcases parseVersioned_ok_inv hv with ⟨_, _, hd, rs, hp, rfl⟩ | ⟨_, _, hd, rs, hp, rfl⟩ | ⟨_, hp⟩ | ⟨_, hp⟩
  · exact .v5 _ _ _ _ hp
  · exact .v7 _ _ _ _ hp
  · obtain ⟨_, _, _, hh, _, rfl⟩ := parseV9_ok_inv hp
    exact .v9 _ _ _ _ hh
  · obtain ⟨_, _, _, _, hh, _, _, rfl⟩ := parseIpfix_ok_inv hp
    exact .ipfix _ _ _ _ hh

/-- every non-error element of a `parse_bytes` result was returned by `parse_packet_by_version` -/
theorem parseBytesF_origin (c : Config) :
    ∀ (fuel : Nat) (st st' : PState) (buf : Bytes) (pkts : List Packet),
      parseBytesF c fuel st buf = (st', .done pkts) →
      ∀ p ∈ pkts, (∃ k r, p = .error k r) ∨ PacketOrigin c p :=
  parseBytesF_forall (fun _ _ _ _ _ h => Or.inr (parsePacket_origin c _ _ _ _ _ h)) (fun e b => Or.inl ⟨e, b, rfl⟩)

theorem find?_reverse_of_filter_le_one {α : Type} (p : α → Bool) :
    ∀ (l : List α), (l.filter p).length ≤ 1 → l.reverse.find? p = l.find? p := by
  intro l
  induction l with
  | nil => intro _; rfl
  | cons e l ih =>
    intro h
    rw [List.reverse_cons, List.find?_append]
    by_cases hp : p e = true
    · rw [List.filter_cons_of_pos hp, List.length_cons] at h
      have hnil : l.filter p = [] := List.eq_nil_of_length_eq_zero (by omega)
      have hnone : ∀ x ∈ l, ¬ p x = true := by
        intro x hx hpx
        have : x ∈ l.filter p := List.mem_filter.2 ⟨hx, hpx⟩
        rw [hnil] at this; simp at this
      have h1 : l.reverse.find? p = none := by
        rw [List.find?_eq_none]; intro x hx; exact hnone x (List.mem_reverse.1 hx)
      rw [h1]
      simp [List.find?, hp]
    · have hp' : p e = false := by simpa using hp
      rw [List.filter_cons_of_neg hp] at h
      rw [ih h]
      simp [List.find?, hp']

theorem recGet_eq_firstField (r : Rec) (disc : Nat) (h : (r.filter fun e => e.2.1 == disc).length ≤ 1) :
    recGet r disc = firstField r disc := by
  unfold recGet firstField
  rw [find?_reverse_of_filter_le_one _ r h]
  rfl

/-- a V5/V7 record layout carries a one-byte `protocol_number` and, after it, a `protocol_type`
    derived from it by `ProtocolTypes::from` -/
def fixedRecOk (lay : Layout) : Bool :=
  lay.kindOf "protocol_number" == some (.wire 1) &&
  lay.kindOf "protocol_type" == some (.protoOf (lay.indexOf "protocol_number")) &&
  decide (lay.indexOf "protocol_number" < lay.indexOf "protocol_type")

/-- the `version` header fields are the constants 5/7/9/10, the record layouts are as above, and
    the converters take `sys_up_time` (V9) resp. `export_time` (IPFIX) as timestamp -/
def Tables.commonLayoutOk (t : Tables) : Bool :=
  t.v5Hdr.kindOf "version" == some (.const 5) && t.v7Hdr.kindOf "version" == some (.const 7) &&
  t.v9Hdr.kindOf "version" == some (.const 9) && t.ipHdr.kindOf "version" == some (.const 10) &&
  fixedRecOk t.v5Rec && fixedRecOk t.v7Rec &&
  t.commonV9.ts == "sys_up_time" && t.commonIp.ts == "export_time"

/-- protocol numbers on which `From<u8> for ProtocolTypes` deviates from the IANA registry -/
def badProtos : List Nat := [0, 1, 144, 255]

/-- off `badProtos`, `From<u8>` yields the variant carrying the IANA name -/
def ProtoTableOk (t : Tables) (names : List (Nat × String)) : Prop :=
  ∀ n, n < 256 → n ∉ badProtos → t.protoFromU8 n = Spec.protoSpecDisc names n

/-- a record produced by the layout parser: the common flow is the specified one except that the
    protocol name is `From<u8>` of the number (which is a byte) -/
theorem commonOfFixed_eq (proto : Nat → Nat) (names : List (Nat × String)) (lay : Layout) (hl : fixedRecOk lay = true)
    (r : List Nat) (i r' : Bytes) (hp : parseLayout proto lay i = some (r, r')) :
    commonOfFixed lay r = { specFixedFlow names lay r with protoType := some (proto (lay.get "protocol_number" r)) } ∧
    lay.get "protocol_number" r < 256 := by
  simp only [fixedRecOk, Bool.and_eq_true, beq_iff_eq, decide_eq_true_eq] at hl
  obtain ⟨⟨h1, h2⟩, h3⟩ := hl
  have e := parseLayout_protoOf hp h2 h3
  have l := parseLayout_wire_lt hp h1
  refine ⟨?_, by simpa using l⟩
  simp only [commonOfFixed, specFixedFlow, e]

def isU8 : FieldValue → Bool | .num (.u8 _) => true | _ => false
def isU16 : FieldValue → Bool | .num (.u16 _) => true | _ => false
def isU32 : FieldValue → Bool | .num (.u32 _) => true | _ => false

theorem asU8_eq_of_isU8 {t : Tables} {v : FieldValue} (h : isU8 v = true) : asU8 v = protoNumOf t v := by
  cases v with
  | num d => cases d <;> simp_all [isU8, asU8, protoNumOf, numOf]
  | _ => simp [isU8] at h
theorem asU16_eq_of_isU16 {v : FieldValue} (h : isU16 v = true) : asU16 v = numOf v := by
  cases v with
  | num d => cases d <;> simp_all [isU16, asU16, numOf]
  | _ => simp [isU16] at h
theorem asU32_eq_of_isU32 {v : FieldValue} (h : isU32 v = true) : asU32 v = timeOf v := by
  cases v with
  | num d => cases d <;> simp_all [isU32, asU32, timeOf, numOf]
  | _ => simp [isU32] at h

theorem bind_congr_of_all {α β : Type} {p : α → Bool} {f g : α → Option β} (hfg : ∀ a, p a = true → f a = g a)
    {o : Option α} (h : o.all p = true) : o.bind f = o.bind g := by
  cases o with
  | none => rfl
  | some a => simp only [Option.all_some] at h; simp [hfg a h]

/-- every projected scalar field present in the record was decoded as the kind its converter accepts
    (ports `U16`, protocol `U8`, first/last seen `U32`) -/
def kindsAccepted (k : CommonKeys) (r : Rec) : Bool :=
  (firstField r k.sport).all isU16 && (firstField r k.dport).all isU16 && (firstField r k.proto).all isU8 &&
  (firstField r k.first).all isU32 && (firstField r k.last).all isU32

/-- the record's protocol number (if decoded as a plain `U8`) is a byte off `badProtos` -/
def protoGood (k : CommonKeys) (r : Rec) : Bool :=
  (firstField r k.proto).all fun v =>
    match v with
    | .num (.u8 n) => decide (n < 256) && !badProtos.contains n
    | _ => true

theorem dupKeys_false {k : CommonKeys} {r : Rec} (h : dupKeys k r = false) :
    ∀ key ∈ [k.src4, k.src6, k.dst4, k.dst6, k.sport, k.dport, k.proto, k.first, k.last, k.smac, k.dmac],
      (r.filter fun e => e.2.1 == key).length ≤ 1 := by
  intro key hk
  unfold dupKeys at h
  rw [List.any_eq_false] at h
  have := h key hk
  simp only [decide_eq_true_eq] at this
  omega

theorem ip_orElse_eq (a b : Option FieldValue) :
    (a.orElse fun _ => b).bind asIp = (match a with | some v => asIp v | none => b.bind asIp) := by
  cases a <;> rfl

end Netflow
