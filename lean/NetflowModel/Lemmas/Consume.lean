/-
  Lemmas/Consume.lean — the V9 and IPFIX packet parsers, when they succeed, return the input minus exactly
  the wire length implied by what they decoded: header plus `max len 4` per flowset for V9, the message
  length field for IPFIX (V5 / V7: `parseFixed_consumes` in Inversion).  Also what `Tables.framingOk` says, and every
  lemma about `versionOf`.
-/
import NetflowModel.Lemmas.Inversion
import NetflowModel.Preds
namespace Netflow
open Preds

/-- facts about the generated tables that the framing theorems need (decidable; for `Generated.tables`:
    `C02_generated_framing` in Props/C02.lean).  The IPFIX header is 14 bytes here because `parsePacket` has
    already taken the 2-byte version word of the 16-byte message header. -/
def Tables.framingOk (t : Tables) : Bool :=
  t.v9SetHdr.wireLen == 4 && t.ipHdr.wireLen == 14 && t.ipSetHdr.wireLen == 4 &&
  t.dispatch.all (fun p => p.1 == p.2)

theorem Tables.framingOk_inv {t : Tables} (h : t.framingOk = true) :
    t.v9SetHdr.wireLen = 4 ∧ t.ipHdr.wireLen = 14 ∧ t.ipSetHdr.wireLen = 4 ∧ ∀ x ∈ t.dispatch, x.1 = x.2 := by
  simp only [Tables.framingOk, Bool.and_eq_true, beq_iff_eq, List.all_eq_true] at h
  exact ⟨h.1.1.1, h.1.1.2, h.1.2, h.2⟩

theorem versionOf_eq_some {buf : Bytes} {v : Nat} :
    versionOf buf = some v ↔ beU 2 buf = some (v, buf.drop 2) := by
  unfold versionOf
  cases hb : beU 2 buf with
  | none => simp
  | some x =>
    obtain ⟨v', r⟩ := x
    rw [(beU_some hb).2.2]
    simp

theorem versionOf_ne_nil {buf : Bytes} {v : Nat} (h : versionOf buf = some v) : buf ≠ [] := by
  have := (beU_some (versionOf_eq_some.1 h)).1
  intro e; subst e; simp at this

theorem versionOf_eq_none {buf : Bytes} : versionOf buf = none ↔ buf.length < 2 := by
  unfold versionOf
  cases hb : beU 2 buf with
  | none => simpa using beU_none hb
  | some x => have := (beU_some hb).1; simp; omega

theorem versionOf_lt {buf : Bytes} {v : Nat} (h : versionOf buf = some v) : v < 65536 :=
  beU_lt (versionOf_eq_some.1 h)

theorem v9ParseSet_consumes (c : Config) (hw : c.t.v9SetHdr.wireLen = 4) (st st' : PState) (i : Bytes) (s : V9Set) (r : Bytes)
    (hp : v9ParseSet c st i = (st', .ok (s, r))) :
    max s.len 4 ≤ i.length ∧ r = i.drop (max s.len 4) := by
  obtain ⟨h, r1, body, b, hh, ht, _, rfl⟩ := v9ParseSet_ok_inv hp
  obtain ⟨a1, a2⟩ := parseLayout_consumes _ _ _ _ _ hh
  obtain ⟨b1, _, b3⟩ := takeN_some ht
  rw [hw] at a1 a2
  subst a2
  rw [List.length_drop] at b1
  refine ⟨by simp only; omega, ?_⟩
  rw [b3, List.drop_drop]; congr 1; simp only; omega

theorem v9ParseSets_consumes (c : Config) (hw : c.t.v9SetHdr.wireLen = 4) :
    ∀ (n : Nat) (st st' : PState) (i : Bytes) (ss : List V9Set) (r : Bytes),
      v9ParseSets c n st i = (st', .ok (ss, r)) → v9SetsLen ss ≤ i.length ∧ r = i.drop (v9SetsLen ss) := by
  intro n
  induction n with
  | zero => intro st st' i ss r h; cases h; simp [v9SetsLen]
  | succ n ih =>
    intro st st' i ss r h
    by_cases hne : i = []
    · subst hne; rw [v9ParseSets_nil] at h; cases h; simp [v9SetsLen]
    · obtain ⟨st1, s, r1, ss', h1, h2, rfl⟩ := v9ParseSets_succ_ok_inv hne h
      obtain ⟨a1, a2⟩ := v9ParseSet_consumes c hw _ _ _ _ _ h1
      obtain ⟨b1, b2⟩ := ih _ _ _ _ _ h2
      subst a2
      rw [List.length_drop] at b1
      simp only [v9SetsLen]
      exact ⟨by omega, by rw [b2, List.drop_drop]⟩

theorem parseV9_consumes (c : Config) (hw : c.t.v9SetHdr.wireLen = 4) (st st' : PState) (i : Bytes) (p : Packet) (r : Bytes)
    (hp : parseV9 c st i = (st', .ok (p, r))) :
    ∃ h ss, p = .v9 h ss ∧ c.t.v9Hdr.wireLen + v9SetsLen ss ≤ i.length ∧ r = i.drop (c.t.v9Hdr.wireLen + v9SetsLen ss) := by
  obtain ⟨h, r1, ss, hh, hs, rfl⟩ := parseV9_ok_inv hp
  obtain ⟨a1, a2⟩ := parseLayout_consumes _ _ _ _ _ hh
  obtain ⟨b1, b2⟩ := v9ParseSets_consumes c hw _ _ _ _ _ _ hs
  subst a2
  rw [List.length_drop] at b1
  exact ⟨h, ss, rfl, by omega, by rw [b2, List.drop_drop]⟩

theorem parseIpfix_consumes (c : Config) (st st' : PState) (i : Bytes) (p : Packet) (r : Bytes)
    (hp : parseIpfix c st i = (st', .ok (p, r))) :
    ∃ h ss, p = .ipfix h ss ∧ c.t.ipHdr.wireLen + (c.t.ipHdr.get "length" h - 16) ≤ i.length ∧
      r = i.drop (c.t.ipHdr.wireLen + (c.t.ipHdr.get "length" h - 16)) := by
  obtain ⟨h, r1, body, ss, hh, ht, _, rfl⟩ := parseIpfix_ok_inv hp
  obtain ⟨a1, a2⟩ := parseLayout_consumes _ _ _ _ _ hh
  obtain ⟨b1, _, b3⟩ := takeN_some ht
  subst a2
  rw [List.length_drop] at b1
  exact ⟨h, ss, rfl, by omega, by rw [b3, List.drop_drop]⟩

end Netflow
