/-
  Lemmas/Copies.lean — the bytes copied by the packet loop of `parse_bytes` (`Cost.copyCost`).
    * upper bound: every element of the result accounts for at most one copy of the buffer;
    * the extremal family `Cost.packed n` (header-only IPFIX messages): closed form of the cost.
-/
import NetflowModel.CostCopy
import NetflowModel.Lemmas.State
import NetflowModel.Lemmas.Locality
import NetflowModel.Lemmas.Inversion
namespace Netflow.P5
open Netflow Cost

theorem outPkts_cons (p : Packet) (o : Outcome) : outPkts (o.cons p) = p :: outPkts o := by
  cases o <;> rfl

theorem errCopy_le (c : Config) (st st' : PState) (buf : Bytes) (e : ErrKind)
    (h : parsePacket c st buf = (st', .fail e)) : errCopy e + 2 ≤ buf.length ∨ errCopy e = 0 := by
  rcases parsePacket_inv c st st' buf _ h with ⟨_, _, e1⟩ | ⟨_, _, _, _, e1⟩ | ⟨v, hv, _, _, _, e1⟩ | ⟨v, kind, hv, _, _, hp⟩
  · simp only [Step.fail.injEq] at e1; subst e1; exact Or.inr rfl
  · cases e1
  · simp only [Step.fail.injEq] at e1; subst e1
    have := (beU_some hv).1
    left; simp only [errCopy, List.length_drop]; omega
  · have := (beU_some hv).1
    have : errCopy e = (buf.drop 2).length := by
      rcases parseVersioned_fail_inv hp with
        ⟨_, _, _, rfl⟩ | ⟨_, _, _, rfl⟩ | ⟨_, _, rfl⟩ | ⟨_, _, rfl⟩ | ⟨_, _, _, _, _, rfl⟩ <;> rfl
    rw [List.length_drop] at this
    omega

/-- every element of the result accounts for at most one copy of the buffer (any fuel, any way the
    call ends) -/
theorem copyLoop_le (c : Config) : ∀ (fuel : Nat) (st : PState) (buf : Bytes),
    copyLoop c fuel st buf ≤ buf.length * (outPkts (parseBytesF c fuel st buf).2).length := by
  intro fuel
  induction fuel with
  | zero => intro st buf; simp [copyLoop]
  | succ fuel ih =>
    intro st buf
    unfold copyLoop parseBytesF
    by_cases he : buf.isEmpty = true
    · simp [he]
    · simp only [he, Bool.false_eq_true, ↓reduceIte]
      cases hp : parsePacket c st buf with
      | mk st1 step =>
        cases step with
        | ok pkt rest =>
          simp only
          have hl := parsePacket_progress c _ _ _ _ _ hp
          by_cases hr : rest.isEmpty = true
          · simp only [hr, ↓reduceIte, outPkts, List.length_cons, List.length_nil]
            omega
          · simp only [hr, Bool.false_eq_true, ↓reduceIte, outPkts_cons, List.length_cons]
            have h1 := ih st1 rest
            have h2 : rest.length * (outPkts (parseBytesF c fuel st1 rest).2).length ≤
                buf.length * (outPkts (parseBytesF c fuel st1 rest).2).length :=
              Nat.mul_le_mul_right _ (by omega)
            rw [Nat.mul_succ]
            omega
        | fail e =>
          simp only [outPkts, List.length_cons, List.length_nil]
          rcases errCopy_le c _ _ _ _ hp with h | h <;> omega
        | unallowed => simp
        | panic => simp
        | overflow => simp

theorem packed_length (n : Nat) : (packed n).length = 16 * n := by
  induction n with
  | zero => rfl
  | succ n ih => simp only [packed, List.length_append, ih, hdrOnlyIpfix, List.length_cons, List.length_nil]; omega

theorem packed_isEmpty (n : Nat) : (packed n).isEmpty = decide (n = 0) := by
  cases n with
  | zero => rfl
  | succ n => simp [packed, hdrOnlyIpfix]

/-- `Σ_{i<n} 16·(n-1-i) = 8·n·(n-1)`, without subtraction -/
theorem packedCopies_closed (n : Nat) : packedCopies n + 8 * n = 8 * (n * n) := by
  induction n with
  | zero => rfl
  | succ n ih =>
    simp only [packedCopies]
    rw [Nat.add_one_mul_add_one n n]
    omega

theorem packOk_iff (c : Config) : packOk c = true ↔
    c.allowed.contains 10 = true ∧ c.t.dispatch.lookup 10 = some 10 ∧
    (∃ h, parseLayout c.t.protoFromU8 c.t.ipHdr (hdrOnlyIpfix.drop 2) = some (h, []) ∧ c.t.ipHdr.get "length" h = 16) ∧
    1 ≤ c.t.ipSetHdr.wireLen := by
  unfold packOk
  simp only [Bool.and_eq_true, beq_iff_eq, decide_eq_true_eq, and_assoc]
  constructor
  · rintro ⟨h1, h2, h3, h4⟩
    refine ⟨h1, h2, ?_, h4⟩
    split at h3
    · next h r heq =>
      simp only [Bool.and_eq_true, List.isEmpty_iff, beq_iff_eq] at h3
      obtain ⟨e1, e2⟩ := h3
      subst e1
      exact ⟨h, heq, e2⟩
    · simp at h3
  · rintro ⟨h1, h2, ⟨h, h3, h3'⟩, h4⟩
    refine ⟨h1, h2, ?_, h4⟩
    rw [h3]
    simp [h3']

/-- a header-only IPFIX message in front of ANY tail parses to a message without sets, leaves the
    caches alone, and returns the tail -/
theorem parsePacket_hdrOnly (c : Config) (hk : packOk c = true) (st : PState) (tail : Bytes) :
    ∃ h, parsePacket c st (hdrOnlyIpfix ++ tail) = (st, .ok (.ipfix h []) tail) := by
  obtain ⟨ha, hd, ⟨h, hl, hg⟩, hw⟩ := (packOk_iff c).1 hk
  refine ⟨h, ?_⟩
  have hv : beU 2 (hdrOnlyIpfix ++ tail) = some (10, hdrOnlyIpfix.drop 2 ++ tail) :=
    beU_ext 2 _ _ _ (by decide) tail
  have hlay : parseLayout c.t.protoFromU8 c.t.ipHdr (hdrOnlyIpfix.drop 2 ++ tail) = some (h, tail) :=
    parseLayout_ext _ _ _ _ _ hl tail
  have hset : parseLayout c.t.protoFromU8 c.t.ipSetHdr [] = none := by
    rw [parseLayout_none_iff]; simp only [List.length_nil]; omega
  have hip : parseIpfix c st (hdrOnlyIpfix.drop 2 ++ tail) = (st, .ok (.ipfix h [], tail)) := by
    unfold parseIpfix
    simp only [hlay, hg, Nat.sub_self]
    have ht : takeN 0 tail = some ([], tail) := by simp [takeN]
    simp only [ht, List.length_nil, Nat.zero_add]
    simp only [ipParseSets, ipParseSet, hset]
  unfold parsePacket
  simp only [hv, ha, ↓reduceIte, hd]
  unfold parseVersioned
  simp only [hip, liftRes]
  simp

/-- the loop's copies on `n` header-only messages: `16·(n-1) + 16·(n-2) + … + 0` -/
theorem copyLoop_packed (c : Config) (hk : packOk c = true) :
    ∀ (n fuel : Nat) (st : PState), n ≤ fuel → copyLoop c fuel st (packed n) = packedCopies n := by
  intro n
  induction n with
  | zero =>
    intro fuel st _
    cases fuel with
    | zero => rfl
    | succ f => simp [copyLoop, packed, packedCopies]
  | succ n ih =>
    intro fuel st hf
    cases fuel with
    | zero => omega
    | succ f =>
      obtain ⟨h, hp⟩ := parsePacket_hdrOnly c hk st (packed n)
      have hne : (packed (n + 1)).isEmpty = false := by rw [packed_isEmpty]; simp
      unfold copyLoop
      rw [hne]
      simp only [Bool.false_eq_true, ↓reduceIte]
      have : packed (n + 1) = hdrOnlyIpfix ++ packed n := rfl
      rw [this, hp]
      simp only [packedCopies, packed_length]
      rw [ih f st (by omega)]
      by_cases h0 : n = 0
      · subst h0; simp [packed, packedCopies]
      · have : (packed n).isEmpty = false := by rw [packed_isEmpty]; simp [h0]
        simp [this]

/-- … and the call returns `n` elements, the caches untouched -/
theorem run_packed (c : Config) (hk : packOk c = true) (st : PState) :
    ∀ n, ∃ pkts, Run c st (packed n) st pkts ∧ pkts.length = n
  | 0 => ⟨[], .nil st, rfl⟩
  | n + 1 => by
    obtain ⟨h, hp⟩ := parsePacket_hdrOnly c hk st (packed n)
    obtain ⟨pkts, hr, hl⟩ := run_packed c hk st n
    exact ⟨_ :: pkts, .ok hp hr, by simp [hl]⟩

end Netflow.P5
