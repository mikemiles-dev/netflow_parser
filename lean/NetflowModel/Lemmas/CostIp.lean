/-
  Lemmas/CostIp.lean — size of what the IPFIX parser returns versus the bytes it consumed.
-/
import NetflowModel.Lemmas.CostV9
namespace Netflow.B3
open Netflow Cost

theorem sum_map_const {α : Type} (k : Nat) (l : List α) : (l.map fun _ => k).sum = k * l.length := by
  induction l with
  | nil => simp
  | cons x xs ih => simp only [List.map_cons, List.sum_cons, List.length_cons, ih, Nat.mul_succ]; omega

/-- an IPFIX template of `n` fields costs `32 + 16n + |pad|` and consumed `≥ 4 + 4n + |pad|` bytes -/
theorem parseIpTemplate_cost (body : Bytes) (t : IpTemplate) (h : parseIpTemplate body = .ok t) :
    32 + 16 * t.fields.length + t.pad.length ≤ 8 * body.length := by
  unfold parseIpTemplate at h
  split at h
  · cases h
  · next h1 =>
    split at h
    · cases h
    · next h2 =>
      split at h
      · next fs pad hm =>
        cases h
        have := Fast.beU_len h1
        have := Fast.beU_len h2
        have hc := many0F_cost (fun _ : IpTField => 16) 4
          (fun i a r h => by have := parseIpTField_len h; omega) _ _ _ _ hm
        rw [sum_map_const] at hc
        dsimp only
        omega
      · cases h
      · cases h

theorem parseIpOptTemplate_cost (body : Bytes) (t : IpOptTemplate) (h : parseIpOptTemplate body = .ok t) :
    32 + 16 * t.fields.length + t.pad.length ≤ 8 * body.length := by
  unfold parseIpOptTemplate at h
  split at h
  · cases h
  · next h1 =>
    split at h
    · cases h
    · next h2 =>
      split at h
      · cases h
      · next sc _ h3 =>
        generalize (if sc ≤ _ then _ else min _ 65535) = n at h
        dsimp only at h
        split at h
        · cases h
        · next hm =>
          cases h
          have := Fast.beU_len h1
          have := Fast.beU_len h2
          have := Fast.beU_len h3
          obtain ⟨a1, a2⟩ := countP_len (fun i a r h => parseIpTField_len h) _ _ _ _ hm
          dsimp only
          omega

/-- `p` = bytes of the length prefix: at least one for a variable-length field; a fixed field has its declared length -/
theorem ipFieldLength_len {f : IpTField} {i r : Bytes} {len : Nat} (h : ipFieldLength f i = some (len, r)) :
    ∃ p, r.length + p = i.length ∧ (1 ≤ f.len → 1 ≤ p ∨ 1 ≤ len) := by
  unfold ipFieldLength at h
  split at h
  · split at h
    · cases h
    · next l r1 h1 =>
      have := Fast.beU_len h1
      split at h
      · have := Fast.beU_len h; exact ⟨3, by omega, fun _ => Or.inl (by omega)⟩
      · cases h; exact ⟨1, by omega, fun _ => Or.inl (by omega)⟩
  · cases h; exact ⟨0, rfl, Or.inr⟩

/-- an IPFIX field value: `n` = bytes consumed (length prefix included) -/
theorem ipParseValue_cost {c : Config} {f : IpTField} {i r : Bytes} {v : FieldValue}
    (h : ipParseValue c f i = some (v, r)) :
    ∃ n, r.length + n = i.length ∧ valueSize v ≤ 32 + 3 * n ∧ (1 ≤ f.len → 1 ≤ n) := by
  unfold ipParseValue at h
  split at h
  · cases h
  · next len r1 hl =>
    obtain ⟨p, a1, a2⟩ := ipFieldLength_len hl
    split at h
    · split at h
      · cases h
      · next b r2 ht =>
        cases h
        obtain ⟨t1, t2⟩ := takeN_len ht
        refine ⟨p + len, ?_⟩
        simp only [valueSize]
        omega
    · obtain ⟨n, b1, b2, b3⟩ := parseValue_cost h
      exact ⟨p + n, by omega⟩
/-- One pass over the field list: a record of `k` fields yields `k` single-entry maps whatever it consumed; a map costs
    64 + 16 + 32 plus three times its bytes; and with every declared length ≥ 1 each field consumed a byte. -/
theorem ipParseRec_bounds (c : Config) :
    ∀ (fs : List IpTField) (idx : Nat) (i : Bytes) (es : List Rec) (r : Bytes), ipParseRec c fs idx i = some (es, r) →
      es.length = fs.length ∧ r.length ≤ i.length ∧
        (es.map recSize).sum + 3 * r.length ≤ 112 * fs.length + 3 * i.length ∧
        ((∀ f ∈ fs, 1 ≤ f.len) → r.length + fs.length ≤ i.length) := by
  intro fs
  induction fs with
  | nil => intro idx i es r h; cases h; simp
  | cons f fs ih =>
    intro idx i es r h
    obtain ⟨v, r1, es', hv, hr, rfl⟩ := ipParseRec_cons.1 h
    obtain ⟨n, a1, a2, a3⟩ := ipParseValue_cost hv
    obtain ⟨b1, b2, b3, b4⟩ := ih _ _ _ _ hr
    simp only [List.map_cons, List.sum_cons, List.length_cons, recSize, List.map_nil, List.sum_nil] at b3 ⊢
    refine ⟨by omega, by omega, by omega, fun hp => ?_⟩
    have := a3 (hp f List.mem_cons_self)
    have := b4 fun g hg => hp g (List.mem_cons_of_mem _ hg)
    omega

theorem ipParseRec_length (c : Config) :
    ∀ (fs : List IpTField) (idx : Nat) (i : Bytes) (es : List Rec) (r : Bytes),
      ipParseRec c fs idx i = some (es, r) → es.length = fs.length ∧ r.length ≤ i.length :=
  fun fs idx i es r h => have b := ipParseRec_bounds c fs idx i es r h; ⟨b.1, b.2.1⟩

/-- with honest fields every map consumed at least one byte: 64 + 16 + 32 + 3·consumed ≤ 115·consumed -/
theorem ipParseRec_cost (c : Config) (fs : List IpTField) (hf : honestIpFs fs = true) (idx : Nat) (i : Bytes)
    (es : List Rec) (r : Bytes) (h : ipParseRec c fs idx i = some (es, r)) :
    (es.map recSize).sum + 115 * r.length ≤ 115 * i.length ∧ r.length + fs.length ≤ i.length := by
  obtain ⟨_, _, b3, b4⟩ := ipParseRec_bounds c fs idx i es r h
  have := b4 (honestIpFs_iff.1 hf)
  exact ⟨by omega, this⟩

theorem pay_per_byte {X k w : Nat} (hw : w = X + k) {t : Nat} (ht : t ≠ 0) : X + k * t ≤ w * t := by
  rw [hw, Nat.add_mul]
  have : X ≤ X * t := Nat.le_mul_of_pos_right _ (by omega)
  omega

/-- The record loop for any additive measure `m` of the maps.  If a record measures at most `X` plus `k` per byte it consumed,
    the records measure at most `w = X + k` per byte of the body, plus `X`: every iteration that goes on consumed a byte, which
    pays for its `X`; the last one may have consumed none.  (`w` is a variable so that `omega` sees `w * _` as an atom.) -/
theorem ipRecLoop_size (c : Config) (fs : List IpTField) (m : Rec → Nat) (k X w : Nat) (hw : w = X + k)
    (hrec : ∀ i es r, ipParseRec c fs 0 i = some (es, r) → (es.map m).sum + k * r.length ≤ X + k * i.length) :
    ∀ (fuel : Nat) (i : Bytes) (recs : List Rec) (pad : Bytes), ipRecLoop c fs fuel i = .ok (recs, pad) →
      (recs.map m).sum + w * pad.length ≤ w * i.length + X := by
  intro fuel
  induction fuel with
  | zero => intro i recs pad h; simp [ipRecLoop] at h
  | succ fuel ih =>
    intro i recs pad h
    obtain ⟨es, r, hr, hcase⟩ := ipRecLoop_ok_inv h
    have a1 := hrec _ _ _ hr
    have a2 := (ipParseRec_length c _ _ _ _ _ hr).2
    generalize ht : i.length - r.length = t at hcase
    have e : i.length = r.length + t := by omega
    rw [e, Nat.mul_add] at a1 ⊢
    rcases hcase with ⟨_, rfl, rfl⟩ | ⟨h0, _, more, hl, rfl⟩
    · by_cases h0 : t = 0
      · subst h0; simp only [Nat.mul_zero] at a1 ⊢; omega
      · have := pay_per_byte hw h0; omega
    · have := pay_per_byte hw h0
      have := ih _ _ _ hl
      rw [List.map_append, List.sum_append]
      omega

theorem ipRecLoop_cost (c : Config) (fs : List IpTField) (hf : honestIpFs fs = true) (fuel : Nat) (i : Bytes)
    (recs : List Rec) (pad : Bytes) (h : ipRecLoop c fs fuel i = .ok (recs, pad)) :
    (recs.map recSize).sum + 115 * pad.length ≤ 115 * i.length ∧ recs.length + pad.length ≤ i.length := by
  have s := ipRecLoop_size c fs recSize 115 0 115 rfl
    (fun i es r h => by have := (ipParseRec_cost c fs hf 0 i es r h).1; omega) fuel i recs pad h
  have n := ipRecLoop_size c fs (fun _ => 1) 1 0 1 rfl (fun i es r h => by
    have := (ipParseRec_cost c fs hf 0 i es r h).2
    rw [sum_map_const, (ipParseRec_length c _ _ _ _ _ h).1]
    omega) fuel i recs pad h
  rw [sum_map_const] at n
  exact ⟨by omega, by omega⟩

def ipBodySize : IpBody → Nat
  | .template t => 32 + 16 * t.fields.length + t.pad.length
  | .optTemplate t => 32 + 16 * t.fields.length + t.pad.length
  | .data recs pad => (recs.map recSize).sum + pad.length
  | .optData recs pad => (recs.map recSize).sum + pad.length

theorem ipSetSize_eq (s : IpSet) : ipSetSize s = 48 + ipBodySize s.body := by
  obtain ⟨id, len, body⟩ := s
  cases body <;> rfl

theorem ipParseBody_cost (c : Config) (st st' : PState) (id : Nat) (body : Bytes) (b : IpBody)
    (hH : Honest st = true) (h : ipParseBody c st id body = (st', .ok b)) (hb : honestIpBody b = true) :
    Honest st' = true ∧ ipBodySize b ≤ 115 * body.length := by
  obtain ⟨hH1, hH2, hH3, hH4⟩ := (Honest_iff st).1 hH
  rcases ipParseBody_ok_inv h with ⟨_, _, t, hp, _, rfl, rfl⟩ | ⟨_, t, hp, _, rfl, rfl⟩ |
    ⟨_, _, rfl, fs, recs, pad, _, hl, hlk⟩
  · have := parseIpTemplate_cost _ _ hp
    refine ⟨?_, by simp only [ipBodySize]; omega⟩
    rw [Honest_iff]
    exact ⟨hH1, hH2, amInsert_all honestIpT _ _ hb _ hH3, amErase_all honestIpO _ _ hH4⟩
  · have := parseIpOptTemplate_cost _ _ hp
    refine ⟨?_, by simp only [ipBodySize]; omega⟩
    rw [Honest_iff]
    exact ⟨hH1, hH2, amErase_all honestIpT _ _ hH3, amInsert_all honestIpO _ _ hb _ hH4⟩
  · have hft : honestIpFs fs = true := by
      rcases hlk with ⟨t, ht, rfl, _⟩ | ⟨_, t, ht, rfl, _⟩
      · exact amLookup_all honestIpT _ _ _ hH3 ht
      · exact amLookup_all honestIpO _ _ _ hH4 ht
    obtain ⟨a1, _⟩ := ipRecLoop_cost c _ hft _ _ _ _ hl
    refine ⟨hH, ?_⟩
    rcases hlk with ⟨_, _, _, rfl⟩ | ⟨_, _, _, _, rfl⟩ <;> simp only [ipBodySize] <;> omega

end Netflow.B3
