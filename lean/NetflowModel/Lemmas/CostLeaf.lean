/-
  Lemmas/CostLeaf.lean — size-of-result versus bytes-consumed lemmas for C15 (second half:
  the size of the value returned by `parse_bytes` is linear in the bytes received).

  Every stage lemma has the shape
      size (what the stage returns) + K * |rest| ≤ K * |input| (+ K₀)
  so that the stages compose by `omega`.  K = 115 is the worst cost per byte: a V9 / IPFIX data
  record consisting of ONE one-byte string field (64 map + 16 entry + 32 value + 3 lossy bytes).
-/
import NetflowModel.Lemmas.Inversion
import NetflowModel.Cost
import NetflowModel.Fast   -- for `Fast.valWidth` / `Fast.parseValue_len`, the size fact of `parseValue`
import NetflowModel.Lemmas.ExportValue
namespace Netflow.B3
open Netflow Cost

/-- each step either copies the bytes it consumes or emits the 3-byte U+FFFD for at least one byte -/
theorem utf8LossyF_length : ∀ (f : Nat) (bs : Bytes), (utf8LossyF f bs).length ≤ 3 * bs.length := by
  intro f
  induction f with
  | zero => intro bs; exact Nat.zero_le _
  | succ f ih =>
    intro bs
    cases bs with
    | nil => exact Nat.zero_le _
    | cons b rest =>
      rcases A7.utf8LossyF_step f b rest with ⟨rest', hle, e⟩ | ⟨chunk, rest', hc, hle, e, _⟩
      · have := ih rest'
        rw [e, List.length_append, List.length_cons]
        show 3 + _ ≤ _
        omega
      · have := ih rest'
        have := congrArg List.length hc
        rw [List.length_append, List.length_cons] at this
        rw [e, List.length_append, List.length_cons]
        omega

theorem utf8Lossy_length (bs : Bytes) : (utf8Lossy bs).length ≤ 3 * bs.length :=
  utf8LossyF_length _ _

theorem takeN_len {n : Nat} {i b r : Bytes} (h : takeN n i = some (b, r)) :
    b.length = n ∧ r.length + n = i.length := by
  have h1 : b.length + r.length = i.length := takeN_sized n i b r h
  have h2 : n + r.length = i.length := (takeN_consumes n).sized i b r h
  exact ⟨by omega, by omega⟩

/-- `n` = bytes consumed (`Fast.valWidth`).  `str`: lossy decoding can triple the length; `mac`: 6 bytes become
    a 17-character string; every other arm returns a value of constant size. -/
theorem parseValue_cost {vc : ValueCfg} {ty : FType} {len : Nat} {i r : Bytes} {v : FieldValue}
    (h : parseValue vc ty len i = some (v, r)) :
    ∃ n, r.length + n = i.length ∧ valueSize v ≤ 32 + 3 * n ∧ (1 ≤ len → 1 ≤ n) := by
  refine ⟨Fast.valWidth ty len, (Fast.parseValue_len h).symm, ?_,
    fun _ => by cases ty <;> simp only [Fast.valWidth] <;> omega⟩
  cases ty <;> simp only [parseValue] at h <;> (repeat' split at h) <;> cases h <;>
    simp only [valueSize, durOf, Fast.valWidth] <;> try omega
  all_goals
    rename_i b hb
    have := utf8Lossy_length b
    have := takeN_len hb
    omega

def honestFs (fs : List TField) : Bool := fs.all fun f => decide (0 < f.len)
def honestIpFs (fs : List IpTField) : Bool := fs.all fun f => decide (0 < f.len)
def honestV9T (t : V9Template) : Bool := honestFs t.fields
def honestV9O (t : V9OptTemplate) : Bool := honestFs t.scope && honestFs t.opts
def honestIpT (t : IpTemplate) : Bool := honestIpFs t.fields
def honestIpO (t : IpOptTemplate) : Bool := honestIpFs t.fields

/-- no cached template (in any of the four maps) has a field of declared length 0 -/
def Honest (st : PState) : Bool :=
  st.v9T.all (fun e => honestV9T e.2) && st.v9O.all (fun e => honestV9O e.2) &&
  st.ipT.all (fun e => honestIpT e.2) && st.ipO.all (fun e => honestIpO e.2)

def honestV9Body : V9Body → Bool
  | .templates ts _ => ts.all honestV9T
  | .optTemplates ts _ => ts.all honestV9O
  | _ => true

def honestIpBody : IpBody → Bool
  | .template t => honestIpT t
  | .optTemplate t => honestIpO t
  | _ => true

def honestPkt : Packet → Bool
  | .v9 _ ss => ss.all fun s => honestV9Body s.body
  | .ipfix _ ss => ss.all fun s => honestIpBody s.body
  | _ => true

/-- no template REPORTED in the result has a field of declared length 0 -/
def HonestPkts (pkts : List Packet) : Bool := pkts.all honestPkt

theorem honestFs_iff {fs : List TField} : honestFs fs = true ↔ ∀ f ∈ fs, 0 < f.len := by
  simp only [honestFs, List.all_eq_true, decide_eq_true_eq]

theorem honestIpFs_iff {fs : List IpTField} : honestIpFs fs = true ↔ ∀ f ∈ fs, 0 < f.len := by
  simp only [honestIpFs, List.all_eq_true, decide_eq_true_eq]

theorem Honest_iff (st : PState) : Honest st = true ↔
    st.v9T.all (fun e => honestV9T e.2) = true ∧ st.v9O.all (fun e => honestV9O e.2) = true ∧
    st.ipT.all (fun e => honestIpT e.2) = true ∧ st.ipO.all (fun e => honestIpO e.2) = true := by
  simp only [Honest, Bool.and_eq_true, and_assoc]

/-- `count(p, n)` : `n` items, each of which consumed at least `w` bytes -/
theorem countP_len {α : Type} {p : P α} {w : Nat}
    (hp : ∀ i a r, p i = some (a, r) → r.length + w ≤ i.length)
    (n : Nat) (i : Bytes) (as : List α) (r : Bytes) (h : countP p n i = some (as, r)) :
    as.length = n ∧ r.length + w * n ≤ i.length := by
  fun_induction countP p n i generalizing as r <;> cases h
  case case1 => simp
  case case4 hpi _ _ hc ih =>
    have := hp _ _ _ hpi
    have := ih _ _ hc
    rw [Nat.mul_succ, List.length_cons]
    omega

/-- `many0(p)` : sizes add up when every item satisfies `size + K·|rest| ≤ K·|input|` -/
theorem many0F_cost {α : Type} {p : P α} (size : α → Nat) (K : Nat)
    (hp : ∀ i a r, p i = some (a, r) → size a + K * r.length ≤ K * i.length)
    (f : Nat) (i : Bytes) (as : List α) (r : Bytes) (h : many0F p f i = .ok (as, r)) :
    (as.map size).sum + K * r.length ≤ K * i.length := by
  fun_induction many0F p f i generalizing as r <;> cases h
  case case2 => simp
  case case4 hpi _ _ _ hm ih =>
    have := hp _ _ _ hpi
    have := ih _ _ hm
    simp only [List.map_cons, List.sum_cons]
    omega

theorem parseLayout_len {proto : Nat → Nat} {lay : Layout} {i r : Bytes} {h : List Nat}
    (hp : parseLayout proto lay i = some (h, r)) : r.length + lay.wireLen = i.length := by
  have := parseLayout_sized proto lay i h r hp
  simp only at this
  omega

end Netflow.B3
