/-
  Lemmas/CostLower.lean — the zero-length-field defect, parametrically: an IPFIX template with `k`
  zero-length fields and one 1-byte field turns EVERY body byte into `k + 1` maps.  Enterprise
  fields are used so that the statement does not depend on the generated tables.
-/
import NetflowModel.Lemmas.CostIp
namespace Netflow.B3
open Netflow Cost

/-- `k` enterprise fields of declared length 0, then one of length 1 -/
def zeroFs (k : Nat) : List IpTField := List.replicate k ⟨1, 0, some 0⟩ ++ [⟨1, 1, some 0⟩]

theorem zeroFs_zero : zeroFs 0 = [⟨1, 1, some 0⟩] := rfl

theorem zeroFs_succ (k : Nat) : zeroFs (k + 1) = ⟨1, 0, some 0⟩ :: zeroFs k := by
  simp [zeroFs, List.replicate_succ]

theorem zeroFs_length (k : Nat) : (zeroFs k).length = k + 1 := by simp [zeroFs]

theorem ipParseValue_zero (c : Config) (i : Bytes) :
    ipParseValue c ⟨1, 0, some 0⟩ i = some (.vec [], i) := by
  simp [ipParseValue, ipFieldLength, takeN]

theorem ipParseValue_one (c : Config) (b : UInt8) (rest : Bytes) :
    ipParseValue c ⟨1, 1, some 0⟩ (b :: rest) = some (.vec [b], rest) := by
  simp [ipParseValue, ipFieldLength, takeN]

/-- one record: `k + 1` maps for one byte -/
theorem ipParseRec_zeroFs (c : Config) :
    ∀ (k idx : Nat) (b : UInt8) (rest : Bytes),
      ∃ es, ipParseRec c (zeroFs k) idx (b :: rest) = some (es, rest) ∧ es.length = k + 1 ∧
        (es.map recSize).sum = 112 * (k + 1) + 1 := by
  intro k
  induction k with
  | zero =>
    intro idx b rest
    refine ⟨[[(idx, ipFieldDisc c ⟨1, 1, some 0⟩, .vec [b])]], ?_, rfl, ?_⟩
    · simp only [zeroFs_zero, ipParseRec, ipParseValue_one]
    · simp [recSize, valueSize]
  | succ k ih =>
    intro idx b rest
    obtain ⟨es, h1, h2, h3⟩ := ih (idx + 1) b rest
    refine ⟨[(idx, ipFieldDisc c ⟨1, 0, some 0⟩, .vec [])] :: es, ?_, by simp [h2], ?_⟩
    · simp only [zeroFs_succ, ipParseRec, ipParseValue_zero, h1]
    · simp only [List.map_cons, List.sum_cons, h3]
      simp only [recSize, valueSize, List.map_cons, List.map_nil, List.sum_cons, List.sum_nil, List.length_nil]
      omega

/-- the record loop: `(k + 1)·|body|` maps of total size `(112·(k + 1) + 1)·|body|`, no padding -/
theorem ipRecLoop_zeroFs (c : Config) (k : Nat) :
    ∀ (body : Bytes) (fuel : Nat), body ≠ [] → body.length ≤ fuel →
      ∃ recs, ipRecLoop c (zeroFs k) fuel body = .ok (recs, []) ∧ recs.length = (k + 1) * body.length ∧
        (recs.map recSize).sum = (112 * (k + 1) + 1) * body.length := by
  intro body
  induction body with
  | nil => intro _ h; exact absurd rfl h
  | cons b rest ih =>
    intro fuel _ hf
    obtain ⟨f, rfl⟩ : ∃ f, fuel = f + 1 := ⟨fuel - 1, by simp only [List.length_cons] at hf; omega⟩
    obtain ⟨es, h1, h2, h3⟩ := ipParseRec_zeroFs c k 0 b rest
    simp only [List.length_cons, Nat.mul_succ (k + 1), Nat.mul_succ (112 * (k + 1) + 1)] at hf ⊢
    by_cases hr : rest = []
    · subst hr
      exact ⟨es, ipRecLoop_succ_stop h1 (Or.inr (by simp)) f, by simpa using h2, by simpa using h3⟩
    · have hl : 1 ≤ rest.length := List.length_pos_iff.2 hr
      obtain ⟨recs, a1, a2, a3⟩ := ih f hr (by omega)
      refine ⟨es ++ recs, ?_, ?_, ?_⟩
      · rw [ipRecLoop_succ_more h1 (by simp) (by simp only [List.length_cons]; omega), a1]
      · rw [List.length_append, h2, a2]; omega
      · rw [List.map_append, List.sum_append, h3, a3]; omega

end Netflow.B3
