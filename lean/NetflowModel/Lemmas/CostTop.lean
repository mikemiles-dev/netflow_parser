/-
  Lemmas/CostTop.lean — from set bodies to the whole call: V5/V7, the packet that fails, and one size theorem for the
  loops of `parse_bytes` over any invariant of the caches.
-/
import NetflowModel.Lemmas.CostIp
namespace Netflow.B3
open Netflow Cost

/-- what the linear bound needs from the generated tables: every V5/V7 record and every
    V9/IPFIX set header occupies at least one byte (48, 52, 4, 4 in `Generated.tables`). -/
def costOk (t : Tables) : Bool :=
  decide (1 ≤ t.v5Rec.wireLen) && decide (1 ≤ t.v7Rec.wireLen) &&
  decide (1 ≤ t.v9SetHdr.wireLen) && decide (1 ≤ t.ipSetHdr.wireLen)

theorem costOk_iff (t : Tables) : costOk t = true ↔
    1 ≤ t.v5Rec.wireLen ∧ 1 ≤ t.v7Rec.wireLen ∧ 1 ≤ t.v9SetHdr.wireLen ∧ 1 ≤ t.ipSetHdr.wireLen := by
  simp only [costOk, Bool.and_eq_true, decide_eq_true_eq, and_assoc]

/-- `count(FlowSet::parse, header.count)` : every record that is returned was present -/
theorem parseFixed_len (c : Config) (hdr rec : Layout) (i : Bytes) (h : List Nat) (rs : List (List Nat)) (r : Bytes)
    (hp : parseFixed c hdr rec i = some ((h, rs), r)) :
    r.length + hdr.wireLen + rec.wireLen * rs.length = i.length ∧ rs.length = hdr.get "count" h := by
  have a3 := (parseFixed_consumes c hdr rec i h rs r hp).2.2
  have : hdr.wireLen + rec.wireLen * hdr.get "count" h + r.length = i.length := parseFixed_sized c hdr rec i (h, rs) r hp
  exact ⟨by rw [a3]; omega, a3⟩

/-- a V5 / V7 packet whose records cost `k ≤ W` each: every record occupied at least a byte -/
theorem parseFixed_size {c : Config} {hdr rec : Layout} (hw : 1 ≤ rec.wireLen) {k W : Nat} (hk : k ≤ W) {i r : Bytes}
    {h : List Nat} {rs : List (List Nat)} (hp : parseFixed c hdr rec i = some ((h, rs), r)) :
    64 + k * rs.length + W * r.length ≤ 64 + W * i.length := by
  obtain ⟨a1, _⟩ := parseFixed_len c hdr rec i h rs r hp
  have : rs.length ≤ rec.wireLen * rs.length := Nat.le_mul_of_pos_left _ hw
  have : W * r.length + W * rs.length ≤ W * i.length := by rw [← Nat.mul_add]; exact Nat.mul_le_mul_left W (by omega)
  have := Nat.mul_le_mul_right rs.length hk
  omega

/-- a failing dispatch reports the bytes after the version field (once) -/
theorem parseVersioned_fail (c : Config) (st st' : PState) (kind : Nat) (body : Bytes) (e : ErrKind)
    (h : parseVersioned c st kind body = (st', .fail e)) : errSize e ≤ 96 + body.length := by
  rcases parseVersioned_fail_inv h with ⟨_, _, _, rfl⟩ | ⟨_, _, _, rfl⟩ | ⟨_, _, rfl⟩ | ⟨_, _, rfl⟩ | ⟨_, _, _, _, _, rfl⟩ <;>
    simp only [errSize] <;> omega

/-- the error element copies the remaining bytes twice -/
theorem parsePacket_fail_cost (c : Config) (st st' : PState) (buf : Bytes) (e : ErrKind)
    (h : parsePacket c st buf = (st', .fail e)) :
    packetSize (.error e buf) ≤ 160 + 2 * buf.length := by
  simp only [packetSize]
  rcases parsePacket_inv c st st' buf _ h with ⟨_, _, e1⟩ | ⟨_, _, _, _, e1⟩ | ⟨v, hv, _, _, _, e1⟩ | ⟨v, kind, hv, _, _, hp⟩
  · simp only [Step.fail.injEq] at e1; subst e1; simp only [errSize]; omega
  · cases e1
  · simp only [Step.fail.injEq] at e1; subst e1
    have := Fast.beU_len hv
    simp only [errSize]; omega
  · have := parseVersioned_fail c _ _ _ _ _ hp
    have := Fast.beU_len hv
    omega

/-! ### one size theorem for every invariant of the caches

`I` is an invariant of the template caches, `Q9` / `Qi` what is assumed of a reported set body, `QP` of a reported packet, and
`W` the cost per byte.  Whatever they are, if a set BODY keeps `I` and costs at most `W` per byte (an IPFIX body: per byte
plus one, for the record that a data set may yield from no bytes; its 4-byte header pays for that), the result of `parse_bytes`
costs at most `W` per byte of the buffer.  `W` is a variable so that `omega` sees `W * _` as an atom. -/

section Framed
variable {c : Config} {W : Nat} {I : PState → Prop}

section V9
variable {Q9 : V9Body → Prop} (hw : 1 ≤ c.t.v9SetHdr.wireLen) (hW : 48 ≤ W)
  (h9 : ∀ st st' id body b, I st → v9ParseBody c st id body = (st', .ok b) → Q9 b → I st' ∧ v9BodySize b ≤ W * body.length)
include hw hW h9

theorem v9ParseSet_size {st st' : PState} {i r : Bytes} {s : V9Set} (hI : I st)
    (h : v9ParseSet c st i = (st', .ok (s, r))) (hq : Q9 s.body) :
    I st' ∧ v9SetSize s + W * r.length ≤ W * i.length := by
  obtain ⟨hd, r1, body, b, hh, ht, hb, rfl⟩ := v9ParseSet_ok_inv h
  obtain ⟨c1, c2⟩ := h9 _ _ _ _ _ hI hb hq
  have a := parseLayout_len hh
  obtain ⟨b1, b2⟩ := takeN_len ht
  have e : W * i.length = W * r.length + W * body.length + W * c.t.v9SetHdr.wireLen := by
    rw [← Nat.mul_add, ← Nat.mul_add]; congr 1; omega
  have := Nat.le_mul_of_pos_right W hw
  simp only [v9SetSize_eq]
  exact ⟨c1, by omega⟩

theorem v9ParseSets_size : ∀ (n : Nat) {st st' : PState} {i r : Bytes} {ss : List V9Set}, I st →
    v9ParseSets c n st i = (st', .ok (ss, r)) → (∀ s ∈ ss, Q9 s.body) →
    I st' ∧ (ss.map v9SetSize).sum + W * r.length ≤ W * i.length := by
  intro n
  induction n with
  | zero => intro st st' i r ss hI h _; rw [v9ParseSets_zero] at h; cases h; exact ⟨hI, by simp⟩
  | succ n ih =>
    intro st st' i r ss hI h hq
    by_cases hne : i = []
    · subst hne; rw [v9ParseSets_nil] at h; cases h; exact ⟨hI, by simp⟩
    · obtain ⟨st1, s, r1, ss', hs, hrest, rfl⟩ := v9ParseSets_succ_ok_inv hne h
      obtain ⟨a1, a2⟩ := v9ParseSet_size hw hW h9 hI hs (hq s List.mem_cons_self)
      obtain ⟨b1, b2⟩ := ih a1 hrest fun s hs => hq s (List.mem_cons_of_mem _ hs)
      simp only [List.map_cons, List.sum_cons]
      exact ⟨b1, by omega⟩

theorem parseV9_size {QP : Packet → Prop} (hq9 : ∀ hd ss, QP (.v9 hd ss) → ∀ s ∈ ss, Q9 s.body)
    {st st' : PState} {i r : Bytes} {p : Packet} (hI : I st) (h : parseV9 c st i = (st', .ok (p, r))) (hq : QP p) :
    I st' ∧ packetSize p + W * r.length ≤ 64 + W * i.length := by
  obtain ⟨hd, r1, ss, hh, hs, rfl⟩ := parseV9_ok_inv h
  obtain ⟨b1, b2⟩ := v9ParseSets_size hw hW h9 _ hI hs (hq9 _ _ hq)
  have a := parseLayout_len hh
  have : W * r1.length ≤ W * i.length := Nat.mul_le_mul_left W (by omega)
  simp only [packetSize]
  exact ⟨b1, by omega⟩

end V9

section Ipfix
variable {Qi : IpBody → Prop} (hw : 1 ≤ c.t.ipSetHdr.wireLen)
  (hi : ∀ st st' id body b, I st → ipParseBody c st id body = (st', .ok b) → Qi b →
    I st' ∧ ipBodySize b + 48 ≤ W * (body.length + 1))
include hw hi

theorem ipParseSet_size {st st' : PState} {i r : Bytes} {s : IpSet} (hI : I st)
    (h : ipParseSet c st i = (st', .ok (s, r))) (hq : Qi s.body) :
    I st' ∧ ipSetSize s + W * r.length ≤ W * i.length := by
  obtain ⟨hd, r1, body, b, hh, ht, hb, rfl⟩ := ipParseSet_ok_inv h
  obtain ⟨c1, c2⟩ := hi _ _ _ _ _ hI hb hq
  have a := parseLayout_len hh
  obtain ⟨b1, b2⟩ := takeN_len ht
  have e : W * i.length = W * r.length + W * body.length + W * c.t.ipSetHdr.wireLen := by
    rw [← Nat.mul_add, ← Nat.mul_add]; congr 1; omega
  have := Nat.le_mul_of_pos_right W hw
  simp only [ipSetSize_eq]
  rw [Nat.mul_succ] at c2
  exact ⟨c1, by omega⟩

theorem ipParseSets_size : ∀ (fuel : Nat) {st st' : PState} {i : Bytes} {ss : List IpSet}, I st →
    ipParseSets c fuel st i = (st', .ok ss) → (∀ s ∈ ss, Qi s.body) →
    I st' ∧ (ss.map ipSetSize).sum ≤ W * i.length := by
  intro fuel
  induction fuel with
  | zero => intro st st' i ss _ h _; simp [ipParseSets] at h
  | succ fuel ih =>
    intro st st' i ss hI h hq
    rcases ipParseSets_succ_ok_iff.1 h with ⟨hs, rfl⟩ | ⟨st1, s, r, ss', hs, _, hrest, rfl⟩
    · -- the set that ends the list did not parse: the caches are as they were
      have : st' = st := by
        rcases ipParseSet_err_inv hs with ⟨e, _⟩ | ⟨_, _, body, _, _, _, hb⟩
        · exact e
        · have := ipParseBody_err_frame c st _ body (by rw [hb]; intro x hx; cases hx)
          rwa [hb] at this
      exact ⟨this ▸ hI, by simp⟩
    · obtain ⟨a1, a2⟩ := ipParseSet_size hw hi hI hs (hq s List.mem_cons_self)
      obtain ⟨b1, b2⟩ := ih a1 hrest fun s hs => hq s (List.mem_cons_of_mem _ hs)
      simp only [List.map_cons, List.sum_cons]
      exact ⟨b1, by omega⟩

theorem parseIpfix_size {QP : Packet → Prop} (hqi : ∀ hd ss, QP (.ipfix hd ss) → ∀ s ∈ ss, Qi s.body)
    {st st' : PState} {i r : Bytes} {p : Packet} (hI : I st) (h : parseIpfix c st i = (st', .ok (p, r))) (hq : QP p) :
    I st' ∧ packetSize p + W * r.length ≤ 64 + W * i.length := by
  obtain ⟨hd, r1, body, ss, hh, ht, hs, rfl⟩ := parseIpfix_ok_inv h
  obtain ⟨b1, b2⟩ := ipParseSets_size hw hi _ hI hs (hqi _ _ hq)
  have a := parseLayout_len hh
  obtain ⟨t1, t2⟩ := takeN_len ht
  have : W * r.length + W * body.length ≤ W * i.length := by
    rw [← Nat.mul_add]; exact Nat.mul_le_mul_left W (by omega)
  simp only [packetSize]
  exact ⟨b1, by omega⟩

end Ipfix

variable {Q9 : V9Body → Prop} {Qi : IpBody → Prop} {QP : Packet → Prop} (hc : costOk c.t = true) (hW : 60 ≤ W)
  (h9 : ∀ st st' id body b, I st → v9ParseBody c st id body = (st', .ok b) → Q9 b → I st' ∧ v9BodySize b ≤ W * body.length)
  (hi : ∀ st st' id body b, I st → ipParseBody c st id body = (st', .ok b) → Qi b →
    I st' ∧ ipBodySize b + 48 ≤ W * (body.length + 1))
  (hq9 : ∀ hd ss, QP (.v9 hd ss) → ∀ s ∈ ss, Q9 s.body) (hqi : ∀ hd ss, QP (.ipfix hd ss) → ∀ s ∈ ss, Qi s.body)
include hc hW h9 hi hq9 hqi

theorem parseVersioned_size {st st' : PState} {kind : Nat} {body r : Bytes} {p : Packet} (hI : I st)
    (h : parseVersioned c st kind body = (st', .ok p r)) (hq : QP p) :
    I st' ∧ packetSize p + W * r.length ≤ 64 + W * body.length := by
  obtain ⟨c5, c7, c9, c10⟩ := (costOk_iff c.t).1 hc
  rcases parseVersioned_ok_inv h with ⟨_, rfl, hd, rs, hp, rfl⟩ | ⟨_, rfl, hd, rs, hp, rfl⟩ | ⟨_, hp⟩ | ⟨_, hp⟩
  · exact ⟨hI, parseFixed_size c5 (by omega) hp⟩
  · exact ⟨hI, parseFixed_size c7 (by omega) hp⟩
  · exact parseV9_size c9 (by omega) h9 hq9 hI hp hq
  · exact parseIpfix_size c10 hi hqi hI hp hq

/-- one packet that parses: the 64 bytes of the enum are paid for by the two version bytes -/
theorem parsePacket_size {st st' : PState} {buf rest : Bytes} {p : Packet} (hI : I st)
    (h : parsePacket c st buf = (st', .ok p rest)) (hq : QP p) :
    I st' ∧ packetSize p + W * rest.length ≤ W * buf.length := by
  obtain ⟨v, kind, hv, _, _, hp⟩ := parsePacket_ok_versioned h
  obtain ⟨a1, a2⟩ := parseVersioned_size hc hW h9 hi hq9 hqi hI hp hq
  have e := Fast.beU_len hv
  rw [e, Nat.mul_add]
  exact ⟨a1, by omega⟩

theorem run_size {st st' : PState} {buf : Bytes} {pkts : List Packet} (h : Run c st buf st' pkts) :
    I st → (∀ p ∈ pkts, QP p) → (pkts.map packetSize).sum ≤ W * buf.length + 160 := by
  induction h with
  | nil => intro _ _; simp
  | ok hp _ ih =>
    intro hI hq
    obtain ⟨a1, a2⟩ := parsePacket_size hc hW h9 hi hq9 hqi hI hp (hq _ List.mem_cons_self)
    have := ih a1 fun p hp => hq p (List.mem_cons_of_mem _ hp)
    simp only [List.map_cons, List.sum_cons]
    omega
  | @fail _ _ buf _ _ hp =>
    intro _ _
    have := parsePacket_fail_cost c _ _ _ _ hp
    have := Nat.mul_le_mul_right buf.length (show 2 ≤ W by omega)
    simp only [List.map_cons, List.map_nil, List.sum_cons, List.sum_nil]
    omega
  | unallowed => intro _ _; simp

end Framed

end Netflow.B3
