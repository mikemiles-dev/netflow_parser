/-
  Lemmas/CostV9.lean — size of what the V9 parser returns versus the bytes it consumed.
-/
import NetflowModel.Lemmas.CostLeaf
namespace Netflow.B3
open Netflow Cost

/-- the entries of one record (without the 64 bytes of the map node) -/
def entSum (es : Rec) : Nat := (es.map fun e => 16 + valueSize e.2.2).sum

theorem recSize_eq (es : Rec) : recSize es = 64 + entSum es := rfl

theorem parseTField_len {i r : Bytes} {f : TField} (h : parseTField i = some (f, r)) :
    r.length + 4 ≤ i.length := by
  have : 4 + r.length = i.length := parseTField_consumes.sized i f r h
  omega

theorem parseV9Template_len (i : Bytes) (t : V9Template) (r : Bytes) (h : parseV9Template i = some (t, r)) :
    r.length + 4 + 4 * t.fields.length ≤ i.length := by
  have : 4 + 4 * t.fields.length + r.length = i.length := parseV9Template_sized i t r h
  omega

/-- a V9 template of `n` fields costs `32 + 8n` and consumed `4 + 4n` bytes -/
theorem parseV9Template_cost (i : Bytes) (t : V9Template) (r : Bytes) (h : parseV9Template i = some (t, r)) :
    (32 + 8 * t.fields.length) + 8 * r.length ≤ 8 * i.length := by
  have := parseV9Template_len i t r h
  omega

/-- a V9 options template of `n` fields costs `64 + 8n` and consumed `6 + 4n` bytes -/
theorem parseV9OptTemplate_cost (i : Bytes) (t : V9OptTemplate) (r : Bytes) (h : parseV9OptTemplate i = some (t, r)) :
    (64 + 8 * (t.scope.length + t.opts.length)) + 11 * r.length ≤ 11 * i.length := by
  have : 6 + 4 * (t.scope.length + t.opts.length) + r.length = i.length := parseV9OptTemplate_sized i t r h
  omega

/-- One pass over the field list: a record has one entry per field whatever it consumed; an entry costs
    16 + 32 plus three times its bytes; and with every declared length ≥ 1 each field consumed a byte. -/
theorem v9ParseRec_bounds (c : Config) :
    ∀ (fs : List TField) (idx : Nat) (i : Bytes) (es : Rec) (r : Bytes), v9ParseRec c fs idx i = some (es, r) →
      es.length = fs.length ∧ r.length ≤ i.length ∧ entSum es + 3 * r.length ≤ 48 * fs.length + 3 * i.length ∧
        ((∀ f ∈ fs, 1 ≤ f.len) → r.length + fs.length ≤ i.length) := by
  intro fs
  induction fs with
  | nil => intro idx i es r h; cases h; simp [entSum]
  | cons f fs ih =>
    intro idx i es r h
    obtain ⟨v, r1, es', hv, hr, rfl⟩ := v9ParseRec_cons.1 h
    obtain ⟨n, a1, a2, a3⟩ := parseValue_cost hv
    obtain ⟨b1, b2, b3, b4⟩ := ih _ _ _ _ hr
    simp only [entSum, List.map_cons, List.sum_cons, List.length_cons] at b3 ⊢
    refine ⟨by omega, by omega, by omega, fun hp => ?_⟩
    have := a3 (hp f List.mem_cons_self)
    have := b4 fun g hg => hp g (List.mem_cons_of_mem _ hg)
    omega

theorem v9ParseRec_length (c : Config) (fs : List TField) (idx : Nat) (i : Bytes) (es : Rec) (r : Bytes)
    (h : v9ParseRec c fs idx i = some (es, r)) : es.length = fs.length ∧ r.length ≤ i.length :=
  have b := v9ParseRec_bounds c fs idx i es r h
  ⟨b.1, b.2.1⟩

theorem v9RecLoop_count (c : Config) (fs : List TField) :
    ∀ (n : Nat) (i : Bytes) (acc recs : List Rec) (pad : Bytes),
      v9RecLoop c fs n i acc = (recs, pad) → recs.length ≤ acc.length + n ∧ pad.length ≤ i.length := by
  intro n
  induction n with
  | zero => intro i acc recs pad h; cases h; simp
  | succ n ih =>
    intro i acc recs pad h
    cases hr : v9ParseRec c fs 0 i with
    | none =>
      rw [v9RecLoop_succ_none hr] at h
      have := ih _ _ _ _ h
      omega
    | some x =>
      obtain ⟨es, r⟩ := x
      rw [v9RecLoop_succ_some hr] at h
      obtain ⟨a1, a2⟩ := ih _ _ _ _ h
      have := (v9ParseRec_length c _ _ _ _ _ hr).2
      simp only [List.length_append, List.length_cons, List.length_nil] at a1
      omega

/-- the record loop, `n` iterations: if a record costs at most `A` plus `K` per byte it consumed, the records cost at most
    `A` per iteration plus `K` per byte of the body -/
theorem v9RecLoop_size (c : Config) (fs : List TField) (K A : Nat)
    (hrec : ∀ i es r, v9ParseRec c fs 0 i = some (es, r) → recSize es + K * r.length ≤ A + K * i.length)
    (n : Nat) (i : Bytes) (acc : List Rec) :
    ((v9RecLoop c fs n i acc).1.map recSize).sum + K * (v9RecLoop c fs n i acc).2.length ≤
      (acc.map recSize).sum + A * n + K * i.length := by
  induction n generalizing i acc with
  | zero => simp [v9RecLoop_zero]
  | succ n ih =>
    rw [Nat.mul_succ]
    cases hr : v9ParseRec c fs 0 i with
    | none => rw [v9RecLoop_succ_none hr]; have := ih i acc; omega
    | some x =>
      obtain ⟨es, r⟩ := x
      rw [v9RecLoop_succ_some hr]
      have a := ih r (acc ++ [es])
      have b := hrec _ _ _ hr
      simp only [List.map_append, List.sum_append, List.map_cons, List.map_nil, List.sum_cons, List.sum_nil] at a
      omega

/-- an honest, non-empty field list: a record consumed at least one byte per field, so `64 + 48·k + 3·d ≤ 115·d` for the
    `d ≥ k ≥ 1` bytes consumed -/
theorem v9ParseRec_cost (c : Config) (fs : List TField) (hf : honestFs fs = true) (hne : fs ≠ []) (idx : Nat) (i : Bytes)
    (es : Rec) (r : Bytes) (h : v9ParseRec c fs idx i = some (es, r)) :
    r.length ≤ i.length ∧ recSize es + 115 * r.length ≤ 115 * i.length := by
  obtain ⟨_, _, b3, b4⟩ := v9ParseRec_bounds c fs idx i es r h
  have := b4 (honestFs_iff.1 hf)
  have : 1 ≤ fs.length := List.length_pos_iff.2 hne
  rw [recSize_eq]
  exact ⟨by omega, by omega⟩

/-- an options value that the loop keeps took at least one byte: 32 + `n` ≤ 33·`n` -/
theorem v9ScopeLoop_cost (c : Config) (fs : List TField) (i : Bytes) (vs : List (Nat × Bytes)) (r : Bytes)
    (h : v9ScopeLoop c fs i = some (vs, r)) :
    (vs.map fun x => 32 + x.2.length).sum + 33 * r.length ≤ 33 * i.length := by
  fun_induction v9ScopeLoop c fs i generalizing vs r <;> cases h
  case case5 ht _ hne _ _ hl ih =>
    have := ih _ _ hl
    have := takeN_len ht
    simp only [List.map_cons, List.sum_cons]
    omega
  all_goals simp

theorem v9OptLoop_cost (c : Config) (fs : List TField) (i : Bytes) (vs : List (Nat × Bytes)) (r : Bytes)
    (h : v9OptLoop c fs i = some (vs, r)) :
    (vs.map fun x => 32 + x.2.length).sum + 33 * r.length ≤ 33 * i.length := by
  fun_induction v9OptLoop c fs i generalizing vs r <;> cases h
  case case5 ht hne _ _ hl ih =>
    have := ih _ _ hl
    have := takeN_len ht
    simp only [List.map_cons, List.sum_cons]
    omega
  all_goals simp
theorem insertV9Templates_honest :
    ∀ (ts : List V9Template) (st : PState), Honest st = true → ts.all honestV9T = true →
      Honest (insertV9Templates st ts) = true := by
  intro ts
  induction ts with
  | nil => intro st h _; exact h
  | cons t ts ih =>
    intro st h ht
    simp only [List.all_cons, Bool.and_eq_true] at ht
    simp only [insertV9Templates]
    apply ih _ _ ht.2
    rw [Honest_iff] at h ⊢
    obtain ⟨h1, h2, h3, h4⟩ := h
    exact ⟨amInsert_all honestV9T _ _ ht.1 _ h1, amErase_all honestV9O _ _ h2, h3, h4⟩

theorem insertV9OptTemplates_honest :
    ∀ (ts : List V9OptTemplate) (st : PState), Honest st = true → ts.all honestV9O = true →
      Honest (insertV9OptTemplates st ts) = true := by
  intro ts
  induction ts with
  | nil => intro st h _; exact h
  | cons t ts ih =>
    intro st h ht
    simp only [List.all_cons, Bool.and_eq_true] at ht
    simp only [insertV9OptTemplates]
    apply ih _ _ ht.2
    rw [Honest_iff] at h ⊢
    obtain ⟨h1, h2, h3, h4⟩ := h
    exact ⟨amErase_all honestV9T _ _ h1, amInsert_all honestV9O _ _ ht.1 _ h2, h3, h4⟩

def v9BodySize : V9Body → Nat
  | .templates ts pad => (ts.map fun t => 32 + 8 * t.fields.length).sum + pad.length
  | .optTemplates ts pad => (ts.map fun t => 64 + 8 * (t.scope.length + t.opts.length)).sum + pad.length
  | .data recs pad => (recs.map recSize).sum + pad.length
  | .optData ss os pad => (ss.map fun x => 32 + x.2.length).sum + (os.map fun x => 32 + x.2.length).sum + pad.length

theorem v9SetSize_eq (s : V9Set) : v9SetSize s = 48 + v9BodySize s.body := by
  obtain ⟨id, len, body⟩ := s
  cases body <;> rfl

theorem v9ParseBody_cost (c : Config) (st st' : PState) (id : Nat) (body : Bytes) (b : V9Body)
    (hH : Honest st = true) (h : v9ParseBody c st id body = (st', .ok b)) (hb : honestV9Body b = true) :
    Honest st' = true ∧ v9BodySize b ≤ 115 * body.length := by
  rcases v9ParseBody_ok_inv h with ⟨_, ts, pad, hm, rfl, rfl⟩ | ⟨_, _, ts, pad, hm, rfl, rfl⟩ |
    ⟨_, _, rfl, ot, ss, r, os, pad, _, hs, hl, rfl⟩ | ⟨_, _, rfl, _, t, ht, hz, rfl⟩
  · have := many0F_cost (fun t : V9Template => 32 + 8 * t.fields.length) 8 parseV9Template_cost _ _ _ _ hm
    exact ⟨insertV9Templates_honest _ _ hH hb, by simp only [v9BodySize]; omega⟩
  · have := many0F_cost (fun t : V9OptTemplate => 64 + 8 * (t.scope.length + t.opts.length)) 11
      parseV9OptTemplate_cost _ _ _ _ hm
    exact ⟨insertV9OptTemplates_honest _ _ hH hb, by simp only [v9BodySize]; omega⟩
  · have := v9ScopeLoop_cost c _ _ _ _ hs
    have := v9OptLoop_cost c _ _ _ _ hl
    exact ⟨hH, by simp only [v9BodySize]; omega⟩
  · have hft : honestFs t.fields = true := amLookup_all honestV9T _ _ _ ((Honest_iff _).1 hH).1 ht
    have hne : t.fields ≠ [] := fun he => hz (by rw [he]; rfl)
    have := v9RecLoop_size c t.fields 115 0
      (fun i es r h => by have := (v9ParseRec_cost c _ hft hne 0 i es r h).2; omega) (body.length / v9TotalSize t.fields) body []
    simp only [List.map_nil, List.sum_nil] at this
    exact ⟨hH, by simp only [v9BodySize]; omega⟩

end Netflow.B3
