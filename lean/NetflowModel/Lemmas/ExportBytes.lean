/-
  Lemmas/ExportBytes.lean — the algebra of exporter results and the byte-level part of the
  parse-then-print ("coherence") theorems: the primitive parsers are coherent with `toBE`,
  coherence lifts through `countP` / `many0F`, and a parsed layout re-exports field by field.
-/
import NetflowModel.Lemmas.Inversion
import NetflowModel.Export
namespace Netflow

theorem Out.ok_nil_append (y : Out Bytes) : (Out.ok ([] : Bytes)).append y = y := by
  cases y <;> rfl

theorem Out.append_ok_nil (x : Out Bytes) : x.append (.ok []) = x := by
  cases x <;> simp [Out.append]

theorem Out.append_assoc (x y z : Out Bytes) : (x.append y).append z = x.append (y.append z) := by
  cases x <;> cases y <;> cases z <;> simp [Out.append]

theorem Out.concat_append (xs ys : List (Out Bytes)) :
    Out.concat (xs ++ ys) = (Out.concat xs).append (Out.concat ys) := by
  induction xs with
  | nil => exact (Out.ok_nil_append _).symm
  | cons x xs ih => simp only [List.cons_append, Out.concat, ih, Out.append_assoc]

theorem Out.concat_map_ok {α : Type} (xs : List α) (g : α → Bytes) :
    Out.concat (xs.map fun x => .ok (g x)) = .ok (xs.flatMap g) := by
  induction xs with
  | nil => rfl
  | cons x xs ih => simp only [List.map_cons, Out.concat, ih, Out.append, List.flatMap_cons]

theorem Out.append_ne_panic {a b : Out Bytes} (ha : a ≠ .panic) (hb : b ≠ .panic) : a.append b ≠ .panic := by
  cases a <;> cases b <;> simp_all [Out.append]

theorem Out.concat_ne_panic {l : List (Out Bytes)} (h : ∀ x ∈ l, x ≠ .panic) : Out.concat l ≠ .panic := by
  induction l with
  | nil => simp [Out.concat]
  | cons x xs ih =>
    exact Out.append_ne_panic (h x List.mem_cons_self) (ih fun y hy => h y (List.mem_cons_of_mem _ hy))

theorem exportRec_cons (vc : ValueCfg) (e : Entry) (es : Rec) :
    exportRec vc (e :: es) = (e.2.2.toBE vc).append (exportRec vc es) := rfl

theorem exportRecs_cons (vc : ValueCfg) (r : Rec) (rs : List Rec) :
    exportRecs vc (r :: rs) = (exportRec vc r).append (exportRecs vc rs) := rfl

theorem exportRecs_append (vc : ValueCfg) (a b : List Rec) :
    exportRecs vc (a ++ b) = (exportRecs vc a).append (exportRecs vc b) := by
  simp only [exportRecs, List.map_append, Out.concat_append]

end Netflow

namespace Netflow.A7

theorem beNat_nil : beNat [] = 0 := rfl

theorem Out.ok_append_ok (a b : Bytes) : (Out.ok a).append (.ok b) = .ok (a ++ b) := rfl

theorem Out.concat_cons (x : Out Bytes) (xs : List (Out Bytes)) :
    Out.concat (x :: xs) = x.append (Out.concat xs) := rfl

theorem prefix_eq_take {a r i : Bytes} (h : a ++ r = i) : a = i.take (i.length - r.length) := by
  subst h
  simp

theorem take_append_drop_eq (n : Nat) (i : Bytes) : i.take n ++ i.drop n = i := List.take_append_drop n i

/-- the exporter result `o` is the bytes of `i` in front of the unconsumed `r` -/
def Coh (o : Out Bytes) (i r : Bytes) : Prop := ∃ bs, o = .ok bs ∧ bs ++ r = i

theorem Coh.ok {a i r : Bytes} (h : a ++ r = i) : Coh (.ok a) i r := ⟨a, rfl, h⟩

theorem Coh.append {x y : Out Bytes} {i m r : Bytes} (hx : Coh x i m) (hy : Coh y m r) : Coh (x.append y) i r := by
  obtain ⟨a, rfl, rfl⟩ := hx
  obtain ⟨b, rfl, rfl⟩ := hy
  exact ⟨a ++ b, rfl, List.append_assoc a b r⟩

theorem Coh.eq_ok {o : Out Bytes} {i : Bytes} (h : Coh o i []) : o = .ok i := by
  obtain ⟨a, rfl, rfl⟩ := h
  rw [List.append_nil]

/-- `p` is coherent with the byte encoder `e` on the results satisfying `Q` -/
def CohOn {α : Type} (p : P α) (e : α → Bytes) (Q : α → Prop) : Prop :=
  ∀ i a r, p i = some (a, r) → Q a → e a ++ r = i

theorem beU_coh {w : Nat} {i r : Bytes} {v : Nat} (h : beU w i = some (v, r)) : toBE w v ++ r = i := by
  obtain ⟨h1, h2, h3⟩ := beU_some h
  subst h2 h3
  rw [toBE_beNat_of_length (by simp; omega)]
  exact List.take_append_drop w i

theorem takeN_coh {n : Nat} {i b r : Bytes} (h : takeN n i = some (b, r)) : b ++ r = i := by
  obtain ⟨_, h2, h3⟩ := takeN_some h
  subst h2 h3
  exact List.take_append_drop n i

theorem takeN_length {n : Nat} {i b r : Bytes} (h : takeN n i = some (b, r)) : b.length = n := by
  obtain ⟨h1, h2, _⟩ := takeN_some h
  subst h2
  simp; omega

theorem countP_coh {α : Type} {p : P α} {e : α → Bytes} {Q : α → Prop} (hp : CohOn p e Q) :
    ∀ (n : Nat) (i : Bytes) (as : List α) (r : Bytes), countP p n i = some (as, r) →
      (∀ a ∈ as, Q a) → as.flatMap e ++ r = i := by
  intro n
  induction n with
  | zero =>
    intro i as r h _
    cases h
    rfl
  | succ n ih =>
    intro i as r h hq
    simp only [countP] at h
    split at h
    · cases h
    · next a r1 hpi =>
      split at h
      · cases h
      · next as' r2 hc =>
        cases h
        rw [List.flatMap_cons, List.append_assoc, ih r1 as' _ hc fun x hx => hq x (List.mem_cons_of_mem _ hx),
          hp i a r1 hpi (hq a List.mem_cons_self)]

theorem many0F_coh {α : Type} {p : P α} {e : α → Bytes} {Q : α → Prop} (hp : CohOn p e Q) :
    ∀ (f : Nat) (i : Bytes) (as : List α) (r : Bytes), many0F p f i = .ok (as, r) →
      (∀ a ∈ as, Q a) → as.flatMap e ++ r = i := by
  intro f
  induction f with
  | zero => intro i as r h; cases h
  | succ f ih =>
    intro i as r h hq
    simp only [many0F] at h
    split at h
    · cases h
      rfl
    · next a r1 hpi =>
      split at h
      · cases h
      · split at h
        · next as' r2 hc =>
          cases h
          rw [List.flatMap_cons, List.append_assoc, ih r1 as' _ hc fun x hx => hq x (List.mem_cons_of_mem _ hx),
            hp i a r1 hpi (hq a List.mem_cons_self)]
        · cases h
        · cases h

/-- (index in the value list, width) of every field of an all-wire layout whose first field
    has index `k` -/
def wirePairs : Layout → Nat → List (Nat × Nat)
  | [], _ => []
  | f :: fs, k => (k, f.kind.width) :: wirePairs fs (k + 1)

def allWire (lay : Layout) : Bool :=
  lay.all fun f => match f.kind with
    | .wire _ => true
    | _ => false

/-- bytes emitted for a list of (index, width) pairs from a value list -/
def emitPairs (vals : List Nat) (ps : List (Nat × Nat)) : Bytes :=
  ps.flatMap fun p => toBE p.2 (vals.getD p.1 0)

theorem emitPairs_cons (vals : List Nat) (p : Nat × Nat) (ps : List (Nat × Nat)) :
    emitPairs vals (p :: ps) = toBE p.2 (vals.getD p.1 0) ++ emitPairs vals ps := rfl

theorem emitPairs_nil (vals : List Nat) : emitPairs vals [] = [] := rfl

theorem exportByOrder_eq_emitPairs (lay : Layout) (order : List String) (vals : List Nat) :
    exportByOrder lay order vals = emitPairs vals (order.map fun n => (lay.indexOf n, lay.widthOf n)) := by
  simp [exportByOrder, emitPairs, List.flatMap_map, Layout.get]

theorem parseFields_coh (proto : Nat → Nat) :
    ∀ (lay : Layout) (acc : List Nat) (i : Bytes) (vals : List Nat) (r : Bytes),
      allWire lay = true → parseFields proto lay acc i = some (vals, r) →
      (∃ vs, vals = acc ++ vs) ∧ emitPairs vals (wirePairs lay acc.length) ++ r = i := by
  intro lay
  induction lay with
  | nil =>
    intro acc i vals r _ h
    cases h
    exact ⟨⟨[], by simp⟩, rfl⟩
  | cons f fs ih =>
    intro acc i vals r hw h
    simp only [allWire, List.all_cons, Bool.and_eq_true] at hw
    unfold parseFields at h
    split at h
    · next w hk =>
      split at h
      · cases h
      · next v r1 hb =>
        obtain ⟨⟨vs, rfl⟩, hc⟩ := ih (acc ++ [v]) r1 vals r hw.2 h
        refine ⟨⟨v :: vs, by simp⟩, ?_⟩
        rw [List.length_append, List.length_singleton] at hc
        rw [wirePairs, emitPairs_cons, List.append_assoc, hc, hk]
        simpa [FKind.width] using beU_coh hb
    · next hk => simp [hk] at hw
    · next hk => simp [hk] at hw

/-- exporting a parsed all-wire layout field by field reproduces the consumed bytes -/
theorem parseLayout_coh (proto : Nat → Nat) (lay : Layout) (hw : allWire lay = true)
    (i : Bytes) (vals : List Nat) (r : Bytes) (h : parseLayout proto lay i = some (vals, r)) :
    emitPairs vals (wirePairs lay 0) ++ r = i :=
  (parseFields_coh proto lay [] i vals r hw h).2

/-- a flowset / set header: two 2-byte wire fields, the id (named `idN`) and `length` -/
theorem setHdr_coh {proto : Nat → Nat} {lay : Layout} {idN : String}
    (hh : (allWire lay && wirePairs lay 0 == [(lay.indexOf idN, 2), (lay.indexOf "length", 2)]) = true)
    {i r : Bytes} {hd : List Nat} (hl : parseLayout proto lay i = some (hd, r)) :
    toBE 2 (lay.get idN hd) ++ toBE 2 (lay.get "length" hd) ++ r = i := by
  simp only [Bool.and_eq_true, beq_iff_eq] at hh
  have hc := parseLayout_coh proto lay hh.1 i hd r hl
  rw [hh.2] at hc
  simpa [emitPairs, Layout.get] using hc

/-- a packet header: the constant `version = ver` field, which consumes nothing and is exported as
    the 2-byte version word, then wire fields exported in layout order at their wire widths -/
theorem hdr_coh {proto : Nat → Nat} {ver : Nat} {f : LField} {fs : Layout} {order : List String}
    (hk : f.kind = .const ver) (hw : allWire fs = true)
    (ho : order.map (fun n => (Layout.indexOf (f :: fs) n, Layout.widthOf (f :: fs) n)) = (0, 2) :: wirePairs fs 1)
    {i r : Bytes} {hd : List Nat} (hl : parseLayout proto (f :: fs) i = some (hd, r)) :
    ∃ x, exportByOrder (f :: fs) order hd = toBE 2 ver ++ x ∧ x ++ r = i := by
  unfold parseLayout parseFields at hl
  simp only [hk, List.nil_append] at hl
  obtain ⟨⟨vs, rfl⟩, hc⟩ := parseFields_coh proto fs [ver] i hd r hw hl
  exact ⟨_, by rw [exportByOrder_eq_emitPairs, ho]; rfl, hc⟩

end Netflow.A7
