/-
  Lemmas/ExportIpfix.lean — parse-then-print for IPFIX, bottom-up: field specifiers, template and
  options-template records, data records, the record loop, set bodies, sets, the set sequence and
  the message.
-/
import NetflowModel.Lemmas.ExportV9
namespace Netflow.A7

/-- field specifiers WITHOUT the enterprise bit are re-exported exactly; with the bit the
    exporter writes the cleared number (see `C10_fails_enterprise`) -/
theorem parseIpTField_coh : CohOn parseIpTField exportIpTField (fun f => f.ent = none) := by
  intro i a r h hq
  unfold parseIpTField at h
  split at h
  · cases h
  · next t r1 h1 =>
    split at h
    · cases h
    · next l r2 h2 =>
      split at h
      · split at h
        · cases h
        · simp only [Option.some.injEq, Prod.mk.injEq] at h
          rw [← h.1] at hq
          cases hq
      · cases h
        rw [exportIpTField, List.append_nil, List.append_assoc, beU_coh h2, beU_coh h1]

def noEnterprise (fs : List IpTField) : Bool := fs.all fun f => f.ent.isNone

theorem noEnterprise_mem {fs : List IpTField} (h : noEnterprise fs = true) : ∀ f ∈ fs, f.ent = none := by
  simpa [noEnterprise] using h

/-- a template set is parsed as ONE template (id, count, `many0` field specifiers, rest = padding)
    whatever it contains; as long as no parsed specifier has the enterprise bit the re-export is the
    set body — also when the set really held several template records -/
theorem parseIpTemplate_coh (body : Bytes) (t : IpTemplate) (h : parseIpTemplate body = .ok t)
    (hne : noEnterprise t.fields = true) :
    toBE 2 t.id ++ toBE 2 t.fieldCount ++ t.fields.flatMap exportIpTField ++ t.pad = body := by
  unfold parseIpTemplate at h
  split at h
  · cases h
  · next id r1 h1 =>
    split at h
    · cases h
    · next fc r2 h2 =>
      split at h
      · next fs pad hm =>
        cases h
        simp only [List.append_assoc]
        rw [many0F_coh parseIpTField_coh _ r2 fs pad hm (noEnterprise_mem hne), beU_coh h2, beU_coh h1]
      · cases h
      · cases h

theorem parseIpOptTemplate_coh (body : Bytes) (t : IpOptTemplate) (h : parseIpOptTemplate body = .ok t)
    (hne : noEnterprise t.fields = true) :
    toBE 2 t.id ++ toBE 2 t.fieldCount ++ toBE 2 t.scopeCount ++ t.fields.flatMap exportIpTField ++ t.pad = body := by
  unfold parseIpOptTemplate at h
  split at h
  · cases h
  · next id r1 h1 =>
    split at h
    · cases h
    · next fc r2 h2 =>
      split at h
      · cases h
      · next sc r3 h3 =>
        generalize (if sc ≤ fc then fc else min (sc + fc) 65535) = n at h
        dsimp only at h
        split at h
        · cases h
        · next fs pad hm =>
          cases h
          simp only [List.append_assoc]
          rw [countP_coh parseIpTField_coh _ r3 fs pad hm (noEnterprise_mem hne), beU_coh h3, beU_coh h2,
            beU_coh h1]

def ipFieldTy (c : Config) (f : IpTField) : FType := c.t.ipTy (c.t.ipField f.typ)

/-- static class of IPFIX field specifiers: fixed length (the variable-length prefix is not kept),
    and either enterprise-specific (kept as raw bytes) or a `LosslessField` -/
def ipFieldOk (c : Config) (f : IpTField) : Bool :=
  f.len != 65535 && (f.ent.isSome || LosslessField c.vc (ipFieldTy c f) f.len)

def IpLosslessFields (c : Config) (fs : List IpTField) : Bool := fs.all (ipFieldOk c)

theorem ipParseValue_coh (c : Config) (f : IpTField) (i : Bytes) (v : FieldValue) (r : Bytes)
    (h : ipParseValue c f i = some (v, r)) (hf : ipFieldOk c f = true) (hv : ValueOk c.vc v = true) :
    Coh (v.toBE c.vc) i r := by
  simp only [ipFieldOk, Bool.and_eq_true, bne_iff_ne, ne_eq, Bool.or_eq_true] at hf
  simp only [ipParseValue, ipFieldLength, hf.1, ↓reduceIte] at h
  split at h
  · split at h
    · cases h
    · next b r1 ht =>
      cases h
      exact Coh.ok (takeN_coh ht)
  · next he =>
    exact parseValue_coh c.vc _ _ _ _ _ h (by simpa [he, ipFieldTy] using hf.2) hv

theorem ipParseRec_coh (c : Config) :
    ∀ (fs : List IpTField) (idx : Nat) (i : Bytes) (es : List Rec) (r : Bytes),
      ipParseRec c fs idx i = some (es, r) → IpLosslessFields c fs = true → RecsOk c.vc es = true →
      Coh (exportRecs c.vc es) i r := by
  intro fs
  induction fs with
  | nil => intro idx i es r h _ _; cases h; exact Coh.ok rfl
  | cons f fs ih =>
    intro idx i es r h hl hv
    obtain ⟨v, r1, es', hp, hr, rfl⟩ := ipParseRec_cons.1 h
    simp only [IpLosslessFields, List.all_cons, Bool.and_eq_true] at hl
    simp only [RecsOk, List.all_cons, Bool.and_eq_true, RecOk, List.all_nil, Bool.and_true] at hv
    rw [exportRecs_cons, exportRec_cons, exportRec, List.map_nil, Out.concat, Out.append_ok_nil]
    exact (ipParseValue_coh c f i v r1 hp hl.1 hv.1).append (ih _ _ _ _ hr hl.2 hv.2)

theorem ipRecLoop_coh (c : Config) (fs : List IpTField) (hl : IpLosslessFields c fs = true) :
    ∀ (fuel : Nat) (i : Bytes) (recs : List Rec) (pad : Bytes),
      ipRecLoop c fs fuel i = .ok (recs, pad) → RecsOk c.vc recs = true → Coh (exportRecs c.vc recs) i pad := by
  intro fuel
  induction fuel with
  | zero => intro i recs pad h; cases h
  | succ fuel ih =>
    intro i recs pad h hok
    obtain ⟨es, r, hp, ⟨_, rfl, rfl⟩ | ⟨_, _, more, hr, rfl⟩⟩ := ipRecLoop_ok_inv h
    · exact ipParseRec_coh c fs 0 i _ _ hp hl hok
    · rw [RecsOk, List.all_append, Bool.and_eq_true] at hok
      rw [exportRecs_append]
      exact (ipParseRec_coh c fs 0 i es r hp hl hok.1).append (ih r more pad hr hok.2)

/-- the cached IPFIX templates and options templates with an id in `ids` have lossless fields -/
def ipStOk (c : Config) (ids : List Nat) (st : PState) : Bool :=
  (st.ipT.all fun kt => !ids.contains kt.1 || IpLosslessFields c kt.2.fields) &&
  (st.ipO.all fun kt => !ids.contains kt.1 || IpLosslessFields c kt.2.fields)

/-- condition on a decoded set body with set id `id` -/
def ipBodyOk (c : Config) (ids : List Nat) (id : Nat) : IpBody → Bool
  | .template t => noEnterprise t.fields && (!ids.contains t.id || IpLosslessFields c t.fields)
  | .optTemplate t => noEnterprise t.fields && (!ids.contains t.id || IpLosslessFields c t.fields)
  | .data recs _ => ids.contains id && RecsOk c.vc recs
  | .optData recs _ => ids.contains id && RecsOk c.vc recs

theorem ipParseBody_coh (c : Config) (ids : List Nat) (st st' : PState) (id : Nat) (body : Bytes) (b : IpBody)
    (h : ipParseBody c st id body = (st', .ok b)) (hst : ipStOk c ids st = true)
    (hb : ipBodyOk c ids id b = true) :
    exportIpBody c.vc b = .ok body ∧ ipStOk c ids st' = true := by
  have hst0 := hst
  simp only [ipStOk, Bool.and_eq_true, List.all_eq_true] at hst
  rcases ipParseBody_ok_inv h with ⟨_, _, t, hp, _, rfl, rfl⟩ | ⟨_, t, hp, _, rfl, rfl⟩ |
    ⟨_, _, rfl, fs, recs, pad, _, hl, ⟨t, ht, rfl, rfl⟩ | ⟨_, t, ht, rfl, rfl⟩⟩
  · simp only [ipBodyOk, Bool.and_eq_true] at hb
    refine ⟨by rw [exportIpBody, parseIpTemplate_coh body t hp hb.1], ?_⟩
    simp only [ipStOk, Bool.and_eq_true, List.all_eq_true]
    exact ⟨forall_mem_amInsert hst.1 hb.2, forall_mem_amErase hst.2⟩
  · simp only [ipBodyOk, Bool.and_eq_true] at hb
    refine ⟨by rw [exportIpBody, parseIpOptTemplate_coh body t hp hb.1], ?_⟩
    simp only [ipStOk, Bool.and_eq_true, List.all_eq_true]
    exact ⟨forall_mem_amErase hst.1, forall_mem_amInsert hst.2 hb.2⟩
  · simp only [ipBodyOk, Bool.and_eq_true] at hb
    have hlt := hst.1 _ (amLookup_mem ht)
    rw [hb.1, Bool.not_true, Bool.false_or] at hlt
    exact ⟨((ipRecLoop_coh c t.fields hlt _ _ _ _ hl hb.2).append (Coh.ok (List.append_nil _))).eq_ok, hst0⟩
  · simp only [ipBodyOk, Bool.and_eq_true] at hb
    have hlt := hst.2 _ (amLookup_mem ht)
    rw [hb.1, Bool.not_true, Bool.false_or] at hlt
    exact ⟨((ipRecLoop_coh c t.fields hlt _ _ _ _ hl hb.2).append (Coh.ok (List.append_nil _))).eq_ok, hst0⟩

def ipSetHdrOk (t : Tables) : Bool :=
  allWire t.ipSetHdr &&
  wirePairs t.ipSetHdr 0 == [(t.ipSetHdr.indexOf "header_id", 2), (t.ipSetHdr.indexOf "length", 2)]

theorem ipParseSet_coh (c : Config) (hh : ipSetHdrOk c.t = true) (ids : List Nat) (st st' : PState)
    (i : Bytes) (s : IpSet) (r : Bytes)
    (h : ipParseSet c st i = (st', .ok (s, r))) (hst : ipStOk c ids st = true)
    (hb : ipBodyOk c ids s.id s.body = true) :
    (Coh (exportIpSet c.vc s) i r ∧ i.length = max s.len 4 + r.length) ∧ ipStOk c ids st' = true := by
  obtain ⟨hd, r1, body, b, hl, ht, hbd, rfl⟩ := ipParseSet_ok_inv h
  obtain ⟨hx, hst'⟩ := ipParseBody_coh c ids _ _ _ _ _ hbd hst hb
  have hc := setHdr_coh hh hl
  refine ⟨⟨?_, ?_⟩, hst'⟩
  · rw [exportIpSet, hx]
    exact (Coh.ok hc).append (Coh.ok (takeN_coh ht))
  · rw [← hc, ← takeN_coh ht]
    simp only [List.length_append, toBE_length, takeN_length ht]
    omega

def ipSetsOk (c : Config) (ids : List Nat) (ss : List IpSet) : Bool :=
  ss.all fun s => ipBodyOk c ids s.id s.body

/-- wire length of the decoded sets, from their own length fields -/
def ipSetsLen : List IpSet → Nat
  | [] => 0
  | s :: ss => max s.len 4 + ipSetsLen ss

/-- the decoded sets re-export to a PREFIX of the message body; `left` is what the parser dropped
    at the first set that did not decode -/
theorem ipParseSets_coh (c : Config) (hh : ipSetHdrOk c.t = true) (ids : List Nat) :
    ∀ (fuel : Nat) (st st' : PState) (i : Bytes) (ss : List IpSet),
      ipParseSets c fuel st i = (st', .ok ss) → ipStOk c ids st = true → ipSetsOk c ids ss = true →
      ∃ left, Coh (Out.concat (ss.map (exportIpSet c.vc))) i left ∧ i.length = ipSetsLen ss + left.length := by
  intro fuel
  induction fuel with
  | zero => intro st st' i ss h; cases h
  | succ fuel ih =>
    intro st st' i ss h hst hss
    rcases ipParseSets_succ_ok_iff.1 h with ⟨_, rfl⟩ | ⟨st1, s, r1, ss', hs, _, hrest, rfl⟩
    · exact ⟨i, Coh.ok rfl, (Nat.zero_add _).symm⟩
    · simp only [ipSetsOk, List.all_cons, Bool.and_eq_true] at hss
      obtain ⟨⟨h1, hl1⟩, hst1⟩ := ipParseSet_coh c hh ids _ _ _ _ _ hs hst hss.1
      obtain ⟨left, h2, hl2⟩ := ih _ _ _ _ hrest hst1 hss.2
      exact ⟨left, h1.append h2, by rw [ipSetsLen, hl1, hl2, Nat.add_assoc]⟩

def ipHdrOk (t : Tables) : Bool :=
  match t.ipHdr with
  | [] => false
  | f :: fs =>
    f.kind == .const 10 && allWire fs &&
    t.ipHdrOrder.map (fun n => (t.ipHdr.indexOf n, t.ipHdr.widthOf n)) == (0, 2) :: wirePairs fs 1

/-- ids of the data / options-data sets of a decoded message -/
def ipDataIds : List IpSet → List Nat
  | [] => []
  | s :: ss =>
    match s.body with
    | .data _ _ => s.id :: ipDataIds ss
    | .optData _ _ => s.id :: ipDataIds ss
    | _ => ipDataIds ss

theorem parseIpfix_coh (c : Config) (hh : ipSetHdrOk c.t = true) (hk : ipHdrOk c.t = true) (ids : List Nat)
    (st st' : PState) (i : Bytes) (h : List Nat) (ss : List IpSet) (rest : Bytes)
    (hp : parseIpfix c st i = (st', .ok (.ipfix h ss, rest)))
    (hst : ipStOk c ids st = true) (hss : ipSetsOk c ids ss = true)
    (hall : ipSetsLen ss = c.t.ipHdr.get "length" h - 16) :
    ∃ x, exportIpfix c h ss = .ok (toBE 2 10 ++ x) ∧ x ++ rest = i := by
  obtain ⟨hd, r1, body, ss', hl, ht, hs, e⟩ := parseIpfix_ok_inv hp
  cases e
  unfold ipHdrOk at hk
  split at hk
  · cases hk
  · next f fs hlay =>
    simp only [Bool.and_eq_true, beq_iff_eq] at hk
    obtain ⟨left, ⟨b, hb, hc⟩, hlen⟩ := ipParseSets_coh c hh ids _ _ _ _ _ hs hst hss
    have hleft : left = [] := List.eq_nil_of_length_eq_zero (by have := takeN_length ht; omega)
    subst hleft
    rw [List.append_nil] at hc
    subst hc
    rw [hlay] at hl hk
    obtain ⟨x, hx, hc⟩ := hdr_coh hk.1.1 hk.1.2 hk.2 hl
    exact ⟨x ++ b, by rw [exportIpfix, hlay, hx, hb]; exact congrArg Out.ok (List.append_assoc ..),
      by rw [List.append_assoc, takeN_coh ht, hc]⟩

def ipSetOk (c : Config) (ids : List Nat) (s : IpSet) : Bool :=
  match s.body with
  | .template t => noEnterprise t.fields && (!ids.contains t.id || IpLosslessFields c t.fields)
  | .optTemplate t => noEnterprise t.fields && (!ids.contains t.id || IpLosslessFields c t.fields)
  | .data recs _ => RecsOk c.vc recs
  | .optData recs _ => RecsOk c.vc recs

/-- THE CLASS on which IPFIX re-export is byte-exact:
    * every set of the message was decoded (the decoded sets' lengths add up to `length - 16`);
    * no field specifier in a template / options-template set of the message carries the
      enterprise bit;
    * every template or options template that can govern one of the message's data sets (cached in
      `st` or announced in the message) has only fixed-length (`len ≠ 65535`) fields that are
      enterprise-specific (raw bytes) or `LosslessField`;
    * every decoded data value is `ValueOk`. -/
def IpLossless (c : Config) (st : PState) (h : List Nat) (ss : List IpSet) : Bool :=
  ipStOk c (ipDataIds ss) st && ss.all (ipSetOk c (ipDataIds ss)) &&
  ipSetsLen ss == c.t.ipHdr.get "length" h - 16

theorem mem_ipDataIds : ∀ (ss : List IpSet) (s : IpSet),
    s ∈ ss → (∃ recs pad, s.body = .data recs pad ∨ s.body = .optData recs pad) → s.id ∈ ipDataIds ss := by
  intro ss
  induction ss with
  | nil => intro s h; cases h
  | cons x xs ih =>
    intro s hm hb
    rcases List.mem_cons.1 hm with rfl | hm
    · obtain ⟨recs, pad, hb | hb⟩ := hb <;> simp only [ipDataIds, hb] <;> exact List.mem_cons_self
    · have := ih s hm hb
      simp only [ipDataIds]
      split
      · exact List.mem_cons_of_mem _ this
      · exact List.mem_cons_of_mem _ this
      · exact this

theorem ipSetsOk_of_lossless (c : Config) (ss : List IpSet)
    (h : ss.all (ipSetOk c (ipDataIds ss)) = true) : ipSetsOk c (ipDataIds ss) ss = true := by
  simp only [ipSetsOk, List.all_eq_true] at h ⊢
  intro s hs
  have h1 := h s hs
  unfold ipSetOk at h1
  cases hb : s.body with
  | template t => rwa [hb] at h1
  | optTemplate t => rwa [hb] at h1
  | data recs pad =>
    rw [hb] at h1
    simpa [ipBodyOk, h1] using mem_ipDataIds ss s hs ⟨recs, pad, Or.inl hb⟩
  | optData recs pad =>
    rw [hb] at h1
    simpa [ipBodyOk, h1] using mem_ipDataIds ss s hs ⟨recs, pad, Or.inr hb⟩

/-- observable of one `parseIpfix` call: (what `to_be_bytes` returns, the bytes the message occupied) -/
def ipReexport (c : Config) (st : PState) (i : Bytes) : Option (Out Bytes × Bytes) :=
  match parseIpfix c st i with
  | (_, .ok (.ipfix h ss, rest)) => some (exportIpfix c h ss, toBE 2 10 ++ i.take (i.length - rest.length))
  | _ => none

end Netflow.A7
