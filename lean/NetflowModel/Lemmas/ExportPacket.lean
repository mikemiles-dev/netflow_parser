/-
  Lemmas/ExportPacket.lean — lifting the V9 / IPFIX coherence theorems through
  `parse_packet_by_version` (`parsePacket`) and `exportPacket`: the version word is part of the
  re-exported bytes.
-/
import NetflowModel.Lemmas.ExportIpfix
import NetflowModel.Lemmas.Consume
namespace Netflow.A7

/-- facts about the generated tables needed by the export theorems (decidable) -/
def exportTablesOk (t : Tables) : Bool :=
  t.framingOk && v9SetHdrOk t && v9HdrOk t && ipSetHdrOk t && ipHdrOk t

/-- a successful `parsePacket`: the version word `kind`, then the versioned parser of that version -/
theorem parsePacket_ok_inv (c : Config) (hf : c.t.framingOk = true) (st st' : PState) (buf : Bytes)
    (p : Packet) (rest : Bytes) (h : parsePacket c st buf = (st', .ok p rest)) :
    ∃ kind, toBE 2 kind ++ buf.drop 2 = buf ∧ parseVersioned c st kind (buf.drop 2) = (st', .ok p rest) := by
  obtain ⟨v, kind, hb, _, hl, hv⟩ := parsePacket_ok_versioned h
  simp only [Tables.framingOk, Bool.and_eq_true, List.all_eq_true, beq_iff_eq] at hf
  cases hf.2 _ (lookup_mem hl)
  exact ⟨v, beU_coh hb, hv⟩

theorem parsePacket_v9_coh (c : Config) (ht : exportTablesOk c.t = true) (st st' : PState) (buf : Bytes) (h : List Nat) (ss : List V9Set) (rest : Bytes)
    (hp : parsePacket c st buf = (st', .ok (.v9 h ss) rest)) (hl : V9Lossless c st ss = true) :
    exportPacket c (.v9 h ss) = some (.ok (buf.take (buf.length - rest.length))) := by
  simp only [exportTablesOk, Bool.and_eq_true] at ht
  obtain ⟨kind, hbuf, hv⟩ := parsePacket_ok_inv c ht.1.1.1.1 st st' buf _ rest hp
  simp only [V9Lossless, Bool.and_eq_true] at hl
  rcases parseVersioned_ok_inv hv with ⟨_, _, _, _, _, e⟩ | ⟨_, _, _, _, _, e⟩ | ⟨rfl, hp9⟩ | ⟨_, hp10⟩
  · cases e
  · cases e
  · obtain ⟨x, hx, hc⟩ := parseV9_coh c ht.1.1.1.2 ht.1.1.2 (v9DataIds ss) st st' _ h ss rest hp9 hl.1
      (v9SetsOk_of_lossless c ss hl.2)
    rw [exportPacket, hx, ← prefix_eq_take (a := toBE 2 9 ++ x) (by rw [List.append_assoc, hc, hbuf])]
  · obtain ⟨_, _, _, _, _, _, _, e⟩ := parseIpfix_ok_inv hp10
    cases e

theorem parsePacket_ipfix_coh (c : Config) (ht : exportTablesOk c.t = true) (st st' : PState) (buf : Bytes) (h : List Nat) (ss : List IpSet) (rest : Bytes)
    (hp : parsePacket c st buf = (st', .ok (.ipfix h ss) rest)) (hl : IpLossless c st h ss = true) :
    exportPacket c (.ipfix h ss) = some (.ok (buf.take (buf.length - rest.length))) := by
  simp only [exportTablesOk, Bool.and_eq_true] at ht
  obtain ⟨kind, hbuf, hv⟩ := parsePacket_ok_inv c ht.1.1.1.1 st st' buf _ rest hp
  simp only [IpLossless, Bool.and_eq_true, beq_iff_eq] at hl
  rcases parseVersioned_ok_inv hv with ⟨_, _, _, _, _, e⟩ | ⟨_, _, _, _, _, e⟩ | ⟨_, hp9⟩ | ⟨rfl, hp10⟩
  · cases e
  · cases e
  · obtain ⟨_, _, _, _, _, e⟩ := parseV9_ok_inv hp9
    cases e
  · obtain ⟨x, hx, hc⟩ := parseIpfix_coh c ht.1.2 ht.2 (ipDataIds ss) st st' _ h ss rest hp10 hl.1.1
      (ipSetsOk_of_lossless c ss hl.1.2) hl.2
    rw [exportPacket, hx, ← prefix_eq_take (a := toBE 2 10 ++ x) (by rw [List.append_assoc, hc, hbuf])]

end Netflow.A7
