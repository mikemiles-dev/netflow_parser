/-
  Lemmas/ExportRange.lean — every value the parser produces can be re-exported without tripping
  byteorder's 24-bit range assertion (the only panic site of the exporters).
-/
import NetflowModel.Lemmas.State
import NetflowModel.Lemmas.ExportBytes
import NetflowModel.Lemmas.Records
namespace Netflow

theorem beNat_foldl_lt (bs : Bytes) : ∀ acc : Nat,
    bs.foldl (fun acc b => acc * 256 + b.toNat) acc < (acc + 1) * 256 ^ bs.length := by
  intro acc
  rw [beNat_foldl, Nat.add_mul, Nat.one_mul]
  exact Nat.add_lt_add_left (beNat_lt bs) _

/-- values on which `DataNumber::to_be_bytes` does not hit `write_u24`/`write_i24`'s assertion -/
def DnOk : DataNumber → Prop
  | .u24 n => n < 2 ^ 24
  | .i24 z => -(2 ^ 23 : Int) ≤ z ∧ z < 2 ^ 23
  | _ => True

/-- a value that exports without panic (not the lossless class `A7.ValueOk` of Lemmas/ExportValue.lean) -/
def ValueOk : FieldValue → Prop
  | .num d => DnOk d
  | _ => True

def RecOk (r : Rec) : Prop := ∀ e ∈ r, ValueOk e.2.2
def RecsOk (rs : List Rec) : Prop := ∀ r ∈ rs, RecOk r

/-- side condition on the GENERATED arm table of `DataNumber::parse`: the 24-bit variants are
    produced only from 3-byte fields, and `I24` only by the signed arm -/
def dnArmsOk (arms : DnArms) : Bool :=
  arms.all fun e =>
    match e.2 with
    | .u24 => e.1.1 == 3
    | .i24 => e.1.1 == 3 && e.1.2
    | _ => true

theorem DataNumber.make_ok (arm : DnArm) (signed : Bool) (bs : Bytes)
    (h : (match arm with | .u24 => bs.length == 3 | .i24 => bs.length == 3 && signed | _ => true) = true) :
    DnOk (DataNumber.make arm signed bs) := by
  have hlt := beNat_lt bs
  cases arm with
  | u24 =>
    rw [beq_iff_eq] at h
    rw [h] at hlt
    exact hlt
  | i24 =>
    simp only [Bool.and_eq_true, beq_iff_eq] at h
    have := beInt_bounds bs
    rw [h.1] at this
    simp only [DataNumber.make, DnOk, h.2, ↓reduceIte]
    omega
  | _ => trivial

theorem DataNumber.parse_ok {arms : DnArms} (ha : dnArmsOk arms = true) {len : Nat} {signed : Bool} {i r : Bytes}
    {d : DataNumber} (h : DataNumber.parse arms len signed i = some (d, r)) : DnOk d := by
  unfold DataNumber.parse at h
  split at h
  · cases h
  · next arm hl =>
    split at h
    · cases h
    · next bs r' ht =>
      cases h
      have hok := List.all_eq_true.1 ha _ (lookup_mem hl)
      rw [← A7.takeN_length ht] at hok
      exact DataNumber.make_ok arm signed bs hok

theorem parseValue_ok {vc : ValueCfg} (ha : dnArmsOk vc.dnArms = true) {ty : FType} {len : Nat} {i r : Bytes}
    {v : FieldValue} (h : parseValue vc ty len i = some (v, r)) : ValueOk v := by
  cases ty <;> simp only [parseValue] at h
  case unsigned | signed =>
    split at h
    · cases h
    · next hp =>
      cases h
      exact DataNumber.parse_ok ha hp
  case unknown =>
    split at h
    · split at h <;> cases h
      trivial
    · cases h
  case proto =>
    split at h
    · cases h
    · split at h <;> cases h
      trivial
  all_goals
    split at h <;> cases h
    trivial

theorem decoded_ok {c : Config} (ha : dnArmsOk c.t.dnArms = true) {v : FieldValue} (h : Decoded c v) : ValueOk v := by
  rcases h with ⟨_, _, _, _, hp⟩ | ⟨b, rfl⟩
  · exact parseValue_ok (vc := c.vc) ha hp
  · trivial

def V9BodyOk : V9Body → Prop
  | .data recs _ => RecsOk recs
  | _ => True

def IpBodyOk : IpBody → Prop
  | .data recs _ => RecsOk recs
  | .optData recs _ => RecsOk recs
  | _ => True

/-- every decoded data value of the packet is exportable -/
abbrev PacketOk : Packet → Prop := PktAll V9BodyOk IpBodyOk

theorem v9ParseBody_ok (c : Config) (ha : dnArmsOk c.t.dnArms = true) (st st' : PState) (id : Nat) (body : Bytes) (b : V9Body)
    (h : v9ParseBody c st id body = (st', .ok b)) : V9BodyOk b := by
  cases b with
  | data recs pad => exact v9ParseBody_values (fun _ => decoded_ok ha) h
  | _ => trivial

theorem ipParseBody_ok (c : Config) (ha : dnArmsOk c.t.dnArms = true) (st st' : PState) (id : Nat) (body : Bytes) (b : IpBody)
    (h : ipParseBody c st id body = (st', .ok b)) : IpBodyOk b := by
  cases b with
  | data recs pad => exact ipParseBody_values (fun _ => decoded_ok ha) h (.inl rfl)
  | optData recs pad => exact ipParseBody_values (fun _ => decoded_ok ha) h (.inr rfl)
  | _ => trivial

theorem DataNumber.toBE_ne_panic {d : DataNumber} (h : DnOk d) : d.toBE ≠ .panic := by
  cases d <;> simp_all [DataNumber.toBE, DnOk]

theorem FieldValue.toBE_ne_panic (vc : ValueCfg) {v : FieldValue} (h : ValueOk v) : v.toBE vc ≠ .panic := by
  cases v with
  | num d => exact DataNumber.toBE_ne_panic h
  | dur s n => simp only [FieldValue.toBE]; split <;> simp
  | _ => simp [FieldValue.toBE]

theorem exportRecs_ne_panic (vc : ValueCfg) {rs : List Rec} (h : RecsOk rs) : exportRecs vc rs ≠ .panic := by
  unfold exportRecs
  apply Out.concat_ne_panic
  intro x hx
  obtain ⟨r, hr, rfl⟩ := List.mem_map.mp hx
  unfold exportRec
  apply Out.concat_ne_panic
  intro y hy
  obtain ⟨e, he, rfl⟩ := List.mem_map.mp hy
  exact FieldValue.toBE_ne_panic vc (h r hr e he)

theorem exportV9Body_ne_panic (vc : ValueCfg) {b : V9Body} (h : V9BodyOk b) : exportV9Body vc b ≠ .panic := by
  cases b with
  | data recs pad => exact Out.append_ne_panic (exportRecs_ne_panic vc h) (by simp)
  | _ => simp [exportV9Body]

theorem exportIpBody_ne_panic (vc : ValueCfg) {b : IpBody} (h : IpBodyOk b) : exportIpBody vc b ≠ .panic := by
  cases b with
  | data recs pad => exact Out.append_ne_panic (exportRecs_ne_panic vc h) (by simp)
  | optData recs pad => exact Out.append_ne_panic (exportRecs_ne_panic vc h) (by simp)
  | _ => simp [exportIpBody]

theorem exportPacket_ne_panic (c : Config) {p : Packet} (h : PktAll V9BodyOk IpBodyOk p) :
    exportPacket c p ≠ some .panic := by
  cases p with
  | v9 hd ss =>
    simp only [exportPacket, ne_eq, Option.some.injEq]
    apply Out.append_ne_panic (by simp)
    apply Out.concat_ne_panic
    intro x hx
    obtain ⟨s, hs, rfl⟩ := List.mem_map.mp hx
    exact Out.append_ne_panic (by simp) (exportV9Body_ne_panic _ (h s hs))
  | ipfix hd ss =>
    simp only [exportPacket, ne_eq, Option.some.injEq]
    apply Out.append_ne_panic (by simp)
    apply Out.concat_ne_panic
    intro x hx
    obtain ⟨s, hs, rfl⟩ := List.mem_map.mp hx
    exact Out.append_ne_panic (by simp) (exportIpBody_ne_panic _ (h s hs))
  | _ => simp [exportPacket]

end Netflow
