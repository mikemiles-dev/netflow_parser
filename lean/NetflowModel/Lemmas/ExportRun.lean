/-
  Lemmas/ExportRun.lean — the oracle predicate `Preds.reexportOk` along the trace of one `parse_bytes`
  call, from a fact about each accepted packet.
-/
import NetflowModel.Lemmas.Inversion
import NetflowModel.Preds
namespace Netflow
open Preds

/-- `reexportOk` holds of the result of a run if every step does its part: from `L st buf` (whatever is
    known about the rest of the run when the loop stands at `buf` in state `st`) the head packet occupies
    the first `n` bytes, its export (if selected) is those bytes, and `L` holds for what follows. -/
theorem reexportOk_of_run {c : Config} {sel : Packet → Bool} {L : PState → Bytes → Prop}
    (hstep : ∀ {st st1 buf pkt rest}, parsePacket c st buf = (st1, .ok pkt rest) → L st buf →
      ∃ n, wireLen c pkt = some n ∧ rest = buf.drop n ∧
        (sel pkt = true → exportPacket c pkt = some (.ok (buf.take n))) ∧ L st1 rest)
    {st st' : PState} {buf : Bytes} {ps : List Packet} (h : Run c st buf st' ps) (hL : L st buf) :
    reexportOk c sel buf ps (ps.map (exportPacket c)) = true := by
  induction h with
  | nil => rfl
  | @ok st st1 st' buf rest pkt ps hp _ ih =>
    obtain ⟨n, hw, rfl, hex, hL1⟩ := hstep hp hL
    cases hs : sel pkt with
    | false => simp [reexportOk, hw, hs, ih hL1]
    | true => simp [reexportOk, hw, hs, hex hs, ih hL1]
  | fail => simp [reexportOk, wireLen, exportPacket]
  | unallowed => rfl

end Netflow
