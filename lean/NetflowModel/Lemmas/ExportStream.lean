/-
  Lemmas/ExportStream.lean — the stream-level form of C09 / C10 in terms of the oracle predicate
  `Preds.reexportOk`: along a whole `parse_bytes` run, every selected V9 / IPFIX packet that is in
  the lossless class (w.r.t. the cache state at the moment it was parsed) re-exports to exactly
  the slice of the buffer it occupied.
-/
import NetflowModel.Lemmas.ExportPacket
import NetflowModel.Lemmas.ExportRun
import NetflowModel.Props.C02
import NetflowModel.Generated
namespace Netflow.A7
open Netflow Preds Props

theorem exportTablesOk_generated {t : Tables} (ht : t = Generated.tables) : exportTablesOk t = true := by
  rw [ht, exportTablesOk, C02_generated_framing]
  decide +kernel

/-- per-packet lossless class, relative to the cache state `st` before the packet -/
def pktLossless (c : Config) (st : PState) : Packet → Bool
  | .v9 _ ss => V9Lossless c st ss
  | .ipfix h ss => IpLossless c st h ss
  | _ => true

/-- the class along a `parse_bytes` run (mirrors `parseBytesF`): every packet selected by `sel` is
    lossless w.r.t. the state it was parsed in -/
def streamLossless (c : Config) (sel : Packet → Bool) : Nat → PState → Bytes → Bool
  | 0, _, _ => true
  | fuel + 1, st, buf =>
    if buf.isEmpty then true
    else
      match parsePacket c st buf with
      | (st', .ok pkt rest) =>
        (!sel pkt || pktLossless c st pkt) && (if rest.isEmpty then true else streamLossless c sel fuel st' rest)
      | _ => true

theorem reexport_stream (c : Config) (ht : exportTablesOk c.t = true) (sel : Packet → Bool)
    (hsel : ∀ p, sel p = true → isV9Pkt p = true ∨ isIpfixPkt p = true)
    (st st' : PState) (buf : Bytes) (pkts : List Packet) (h : parseBytes c st buf = (st', .done pkts))
    (hl : streamLossless c sel (buf.length + 1) st buf = true) :
    reexportOk c sel buf pkts (pkts.map (exportPacket c)) = true := by
  have hf : c.t.framingOk = true := by
    simp only [exportTablesOk, Bool.and_eq_true] at ht
    exact ht.1.1.1.1
  refine reexportOk_of_run (L := fun st buf => ∃ fuel, buf.length < fuel ∧ streamLossless c sel fuel st buf = true)
    ?_ (parseBytes_run h) ⟨_, Nat.lt_succ_self _, hl⟩
  intro st st1 buf pkt rest hp ⟨fuel, hfu, hl⟩
  obtain ⟨n, hw, hpos, hn, rfl⟩ := parsePacket_ok_wireLen c hf hp
  cases fuel with
  | zero => omega
  | succ f =>
    have he : buf.isEmpty = false := by cases buf with | nil => simp at hn; omega | cons _ _ => rfl
    simp only [streamLossless, he, Bool.false_eq_true, ↓reduceIte, hp, Bool.and_eq_true] at hl
    refine ⟨n, hw, rfl, fun hs => ?_, ?_⟩
    · have hl1 := hl.1
      simp only [hs, Bool.not_true, Bool.false_or] at hl1
      have e : buf.length - (buf.drop n).length = n := by rw [List.length_drop, Nat.sub_sub_self hn]
      cases pkt with
      | v9 hd9 ss => exact e ▸ parsePacket_v9_coh c ht st st1 buf hd9 ss _ hp hl1
      | ipfix hdi ss => exact e ▸ parsePacket_ipfix_coh c ht st st1 buf hdi ss _ hp hl1
      | _ => rcases hsel _ hs with h1 | h1 <;> cases h1
    · by_cases hre : (buf.drop n).isEmpty = true
      · exact ⟨(buf.drop n).length + 1, Nat.lt_succ_self _, by simp [streamLossless, hre]⟩
      · exact ⟨f, by rw [List.length_drop]; omega, by simpa [hre] using hl.2⟩

end Netflow.A7
