/-
  Lemmas/ExportV9.lean — parse-then-print for NetFlow V9, bottom-up: template fields, templates,
  options templates, options data, data records, the record loop, flowset bodies, flowsets, the
  flowset sequence and the packet.
-/
import NetflowModel.Lemmas.ExportValue
import NetflowModel.Lemmas.Inversion
namespace Netflow.A7

theorem parseTField_coh : CohOn parseTField exportTField (fun _ => True) := by
  intro i a r h _
  unfold parseTField at h
  split at h
  · cases h
  · next t r1 h1 =>
    split at h
    · cases h
    · next l r2 h2 =>
      cases h
      rw [exportTField, List.append_assoc, beU_coh h2, beU_coh h1]

theorem parseV9Template_coh : CohOn parseV9Template exportV9Template (fun _ => True) := by
  intro i a r h _
  unfold parseV9Template at h
  split at h
  · cases h
  · next id r1 h1 =>
    split at h
    · cases h
    · next fc r2 h2 =>
      split at h
      · cases h
      · next fs r3 h3 =>
        cases h
        rw [exportV9Template, List.append_assoc, List.append_assoc,
          countP_coh parseTField_coh _ _ _ _ h3 fun _ _ => trivial, beU_coh h2, beU_coh h1]

/-- options templates are byte-exact whatever `scopeLen`/`optLen` are: the two lengths are
    re-exported as stored and `count(.., len / 4)` consumed exactly the fields that are re-emitted -/
theorem parseV9OptTemplate_coh : CohOn parseV9OptTemplate exportV9OptTemplate (fun _ => True) := by
  intro i a r h _
  unfold parseV9OptTemplate at h
  split at h
  · cases h
  · next id r1 h1 =>
    split at h
    · cases h
    · next sl r2 h2 =>
      split at h
      · cases h
      · next ol r3 h3 =>
        split at h
        · cases h
        · next ss r4 h4 =>
          split at h
          · cases h
          · next os r5 h5 =>
            cases h
            simp only [exportV9OptTemplate, List.append_assoc]
            rw [countP_coh parseTField_coh _ _ _ _ h5 fun _ _ => trivial,
              countP_coh parseTField_coh _ _ _ _ h4 fun _ _ => trivial, beU_coh h3, beU_coh h2, beU_coh h1]

theorem v9ScopeLoop_coh (c : Config) :
    ∀ (fs : List TField) (i : Bytes) (vs : List (Nat × Bytes)) (r : Bytes),
      v9ScopeLoop c fs i = some (vs, r) → vs.flatMap (·.2) ++ r = i := by
  intro fs
  induction fs with
  | nil => intro i vs r h; cases h; rfl
  | cons f fs ih =>
    intro i vs r h
    unfold v9ScopeLoop at h
    split at h
    · cases h; rfl
    · next v r1 ht =>
      split at h
      · split at h
        · cases h
        · split at h
          · cases h
          · next vs' r2 hr =>
            cases h
            rw [List.flatMap_cons, List.append_assoc, ih r1 vs' _ hr, takeN_coh ht]
      · cases h; rfl

theorem v9OptLoop_coh (c : Config) :
    ∀ (fs : List TField) (i : Bytes) (vs : List (Nat × Bytes)) (r : Bytes),
      v9OptLoop c fs i = some (vs, r) → vs.flatMap (·.2) ++ r = i := by
  intro fs
  induction fs with
  | nil => intro i vs r h; cases h; rfl
  | cons f fs ih =>
    intro i vs r h
    unfold v9OptLoop at h
    split at h
    · cases h; rfl
    · next v r1 ht =>
      split at h
      · cases h
      · split at h
        · cases h
        · next vs' r2 hr =>
          cases h
          rw [List.flatMap_cons, List.append_assoc, ih r1 vs' _ hr, takeN_coh ht]

/-- library type of a V9 template field -/
def v9FieldTy (c : Config) (f : TField) : FType := c.t.v9Ty (c.t.v9Field f.typ)

/-- every field of the template is in the static lossless class -/
def LosslessTemplate (c : Config) (fs : List TField) : Bool :=
  fs.all fun f => LosslessField c.vc (v9FieldTy c f) f.len

/-- every decoded value of the record is in the dynamic lossless class -/
def RecOk (vc : ValueCfg) (r : Rec) : Bool := r.all fun e => ValueOk vc e.2.2

def RecsOk (vc : ValueCfg) (rs : List Rec) : Bool := rs.all (RecOk vc)

theorem v9ParseRec_coh (c : Config) :
    ∀ (fs : List TField) (idx : Nat) (i : Bytes) (es : Rec) (r : Bytes),
      v9ParseRec c fs idx i = some (es, r) → LosslessTemplate c fs = true → RecOk c.vc es = true →
      Coh (exportRec c.vc es) i r := by
  intro fs
  induction fs with
  | nil => intro idx i es r h _ _; cases h; exact Coh.ok rfl
  | cons f fs ih =>
    intro idx i es r h hl hv
    obtain ⟨v, r1, es', hp, hr, rfl⟩ := v9ParseRec_cons.1 h
    simp only [LosslessTemplate, List.all_cons, Bool.and_eq_true] at hl
    simp only [RecOk, List.all_cons, Bool.and_eq_true] at hv
    exact (parseValue_coh c.vc _ _ _ _ _ hp hl.1 hv.1).append (ih _ _ _ _ hr hl.2 hv.2)

/-- the record loop: whatever the record count computed from the declared lengths, the flowset
    body is the exported records followed by the returned padding -/
theorem v9RecLoop_coh (c : Config) (fs : List TField) (hl : LosslessTemplate c fs = true) :
    ∀ (n : Nat) (i : Bytes), RecsOk c.vc (v9RecLoop c fs n i []).1 = true →
      Coh (exportRecs c.vc (v9RecLoop c fs n i []).1) i (v9RecLoop c fs n i []).2 := by
  intro n
  induction n with
  | zero => intro i _; exact Coh.ok rfl
  | succ n ih =>
    intro i hok
    cases hp : v9ParseRec c fs 0 i with
    | none =>
      rw [v9RecLoop_succ_none hp] at hok ⊢
      exact ih i hok
    | some x =>
      obtain ⟨r, i'⟩ := x
      rw [v9RecLoop_succ_some hp, v9RecLoop_acc] at hok ⊢
      simp only [List.nil_append, List.singleton_append, RecsOk, List.all_cons, Bool.and_eq_true] at hok ⊢
      exact (v9ParseRec_coh c fs 0 i r i' hp hl hok.1).append (ih i' hok.2)

/-- a template matters (for the ids in `ids`) only if its id is in `ids`; then it must be lossless -/
def v9TmplOk (c : Config) (ids : List Nat) (t : V9Template) : Bool :=
  !ids.contains t.id || LosslessTemplate c t.fields

/-- the cached V9 templates with an id in `ids` are lossless -/
def v9StOk (c : Config) (ids : List Nat) (st : PState) : Bool :=
  st.v9T.all fun kt => !ids.contains kt.1 || LosslessTemplate c kt.2.fields

/-- condition on a decoded flowset body with flowset id `id` -/
def v9BodyOk (c : Config) (ids : List Nat) (id : Nat) : V9Body → Bool
  | .templates ts _ => ts.all (v9TmplOk c ids)
  | .data recs _ => ids.contains id && RecsOk c.vc recs
  | .optTemplates _ _ => true
  | .optData _ _ _ => true

theorem v9StOk_insertTemplates (c : Config) (ids : List Nat) :
    ∀ (ts : List V9Template) (st : PState), v9StOk c ids st = true → ts.all (v9TmplOk c ids) = true →
      v9StOk c ids (insertV9Templates st ts) = true := by
  intro ts
  induction ts with
  | nil => intro st h _; exact h
  | cons t ts ih =>
    intro st h ht
    simp only [List.all_cons, Bool.and_eq_true] at ht
    refine ih _ ?_ ht.2
    simp only [v9StOk, List.all_eq_true] at h ⊢
    exact forall_mem_amInsert h ht.1

theorem v9StOk_insertOptTemplates (c : Config) (ids : List Nat) :
    ∀ (ts : List V9OptTemplate) (st : PState), v9StOk c ids st = true →
      v9StOk c ids (insertV9OptTemplates st ts) = true := by
  intro ts
  induction ts with
  | nil => intro st h; exact h
  | cons t ts ih =>
    intro st h
    refine ih _ ?_
    simp only [v9StOk, List.all_eq_true] at h ⊢
    exact forall_mem_amErase h

/-- flowset-body parse-then-print, together with preservation of the cache invariant -/
theorem v9ParseBody_coh (c : Config) (ids : List Nat) (st st' : PState) (id : Nat) (body : Bytes) (b : V9Body)
    (h : v9ParseBody c st id body = (st', .ok b)) (hst : v9StOk c ids st = true)
    (hb : v9BodyOk c ids id b = true) :
    exportV9Body c.vc b = .ok body ∧ v9StOk c ids st' = true := by
  rcases v9ParseBody_ok_inv h with ⟨_, ts, pad, hm, rfl, rfl⟩ | ⟨_, _, ts, pad, hm, rfl, rfl⟩ |
    ⟨_, _, rfl, ot, ss, r, os, pad, _, hs, ho, rfl⟩ | ⟨_, _, rfl, _, t, ht, _, rfl⟩
  · refine ⟨?_, v9StOk_insertTemplates c ids ts st hst hb⟩
    rw [exportV9Body, many0F_coh parseV9Template_coh _ body ts pad hm fun _ _ => trivial]
  · refine ⟨?_, v9StOk_insertOptTemplates c ids ts st hst⟩
    rw [exportV9Body, many0F_coh parseV9OptTemplate_coh _ body ts pad hm fun _ _ => trivial]
  · refine ⟨?_, hst⟩
    rw [exportV9Body, List.append_assoc, v9OptLoop_coh c _ _ _ _ ho, v9ScopeLoop_coh c _ _ _ _ hs]
  · refine ⟨?_, hst⟩
    simp only [v9BodyOk, Bool.and_eq_true] at hb
    have hlt : LosslessTemplate c t.fields = true := by
      simp only [v9StOk, List.all_eq_true] at hst
      have := hst _ (amLookup_mem ht)
      rwa [hb.1, Bool.not_true, Bool.false_or] at this
    exact ((v9RecLoop_coh c t.fields hlt _ body hb.2).append (Coh.ok (List.append_nil _))).eq_ok

/-- the facts about the generated flowset-header layout that the framing needs -/
def v9SetHdrOk (t : Tables) : Bool :=
  allWire t.v9SetHdr &&
  wirePairs t.v9SetHdr 0 == [(t.v9SetHdr.indexOf "flowset_id", 2), (t.v9SetHdr.indexOf "length", 2)]

theorem v9ParseSet_coh (c : Config) (hh : v9SetHdrOk c.t = true) (ids : List Nat) (st st' : PState)
    (i : Bytes) (s : V9Set) (r : Bytes)
    (h : v9ParseSet c st i = (st', .ok (s, r))) (hst : v9StOk c ids st = true)
    (hb : v9BodyOk c ids s.id s.body = true) :
    Coh (exportV9Set c.vc s) i r ∧ v9StOk c ids st' = true := by
  obtain ⟨hd, r1, body, b, hl, ht, hbd, rfl⟩ := v9ParseSet_ok_inv h
  obtain ⟨hx, hst'⟩ := v9ParseBody_coh c ids _ _ _ _ _ hbd hst hb
  refine ⟨?_, hst'⟩
  rw [exportV9Set, hx]
  exact (Coh.ok (setHdr_coh hh hl)).append (Coh.ok (takeN_coh ht))

def v9SetsOk (c : Config) (ids : List Nat) (ss : List V9Set) : Bool :=
  ss.all fun s => v9BodyOk c ids s.id s.body

theorem v9ParseSets_coh (c : Config) (hh : v9SetHdrOk c.t = true) (ids : List Nat) :
    ∀ (n : Nat) (st st' : PState) (i : Bytes) (ss : List V9Set) (r : Bytes),
      v9ParseSets c n st i = (st', .ok (ss, r)) → v9StOk c ids st = true → v9SetsOk c ids ss = true →
      Coh (Out.concat (ss.map (exportV9Set c.vc))) i r := by
  intro n
  induction n with
  | zero => intro st st' i ss r h _ _; cases h; exact Coh.ok rfl
  | succ n ih =>
    intro st st' i ss r h hst hss
    by_cases he : i = []
    · rw [he, v9ParseSets_nil] at h
      cases h
      exact he ▸ Coh.ok rfl
    · obtain ⟨st1, s, r1, ss', hs, hrest, rfl⟩ := v9ParseSets_succ_ok_inv he h
      simp only [v9SetsOk, List.all_cons, Bool.and_eq_true] at hss
      obtain ⟨h1, hst1⟩ := v9ParseSet_coh c hh ids _ _ _ _ _ hs hst hss.1
      exact h1.append (ih _ _ _ _ _ hrest hst1 hss.2)

/-- facts about the generated V9 header layout and the emission order of `V9::to_be_bytes`:
    a constant 2-byte `version = 9` field, then wire fields, emitted in layout order at their
    wire widths -/
def v9HdrOk (t : Tables) : Bool :=
  match t.v9Hdr with
  | [] => false
  | f :: fs =>
    f.kind == .const 9 && allWire fs &&
    t.v9HdrOrder.map (fun n => (t.v9Hdr.indexOf n, t.v9Hdr.widthOf n)) == (0, 2) :: wirePairs fs 1

/-- ids of the data flowsets of a decoded packet -/
def v9DataIds : List V9Set → List Nat
  | [] => []
  | s :: ss =>
    match s.body with
    | .data _ _ => s.id :: v9DataIds ss
    | _ => v9DataIds ss

theorem parseV9_coh (c : Config) (hh : v9SetHdrOk c.t = true) (hk : v9HdrOk c.t = true) (ids : List Nat)
    (st st' : PState) (i : Bytes) (h : List Nat) (ss : List V9Set) (rest : Bytes)
    (hp : parseV9 c st i = (st', .ok (.v9 h ss, rest)))
    (hst : v9StOk c ids st = true) (hss : v9SetsOk c ids ss = true) :
    ∃ x, exportV9 c h ss = .ok (toBE 2 9 ++ x) ∧ x ++ rest = i := by
  obtain ⟨hd, r1, ss', hl, hs, e⟩ := parseV9_ok_inv hp
  cases e
  unfold v9HdrOk at hk
  split at hk
  · cases hk
  · next f fs hlay =>
    simp only [Bool.and_eq_true, beq_iff_eq] at hk
    rw [hlay] at hl hk
    obtain ⟨x, hx, hc⟩ := hdr_coh hk.1.1 hk.1.2 hk.2 hl
    obtain ⟨b, hb, rfl⟩ := v9ParseSets_coh c hh ids _ _ _ _ _ _ hs hst hss
    exact ⟨x ++ b, by rw [exportV9, hlay, hx, hb]; exact congrArg Out.ok (List.append_assoc ..), by rw [List.append_assoc, hc]⟩

/-- per-flowset condition of the packet-level class (ids = ids of the packet's data flowsets) -/
def v9SetOk (c : Config) (ids : List Nat) (s : V9Set) : Bool :=
  match s.body with
  | .templates ts _ => ts.all (v9TmplOk c ids)
  | .data recs _ => RecsOk c.vc recs
  | .optTemplates _ _ => true
  | .optData _ _ _ => true

/-- THE CLASS on which V9 re-export is byte-exact: every template that can govern one of the
    packet's data flowsets — cached before the packet (`st`) or announced inside it — has only
    statically lossless fields (`LosslessField`), and every decoded data value is `ValueOk`
    (strings free of U+FFFD, protocol numbers that map back).  Template, options-template and
    options-data flowsets are unconstrained. -/
def V9Lossless (c : Config) (st : PState) (ss : List V9Set) : Bool :=
  v9StOk c (v9DataIds ss) st && ss.all (v9SetOk c (v9DataIds ss))

theorem mem_v9DataIds : ∀ (ss : List V9Set) (s : V9Set) (recs : List Rec) (pad : Bytes),
    s ∈ ss → s.body = .data recs pad → s.id ∈ v9DataIds ss := by
  intro ss
  induction ss with
  | nil => intro s _ _ h; cases h
  | cons x xs ih =>
    intro s recs pad hm hb
    rcases List.mem_cons.1 hm with rfl | hm
    · simp only [v9DataIds, hb]
      exact List.mem_cons_self
    · have := ih s recs pad hm hb
      simp only [v9DataIds]
      split
      · exact List.mem_cons_of_mem _ this
      · exact this

theorem v9SetsOk_of_lossless (c : Config) (ss : List V9Set)
    (h : ss.all (v9SetOk c (v9DataIds ss)) = true) : v9SetsOk c (v9DataIds ss) ss = true := by
  simp only [v9SetsOk, List.all_eq_true] at h ⊢
  intro s hs
  have h1 := h s hs
  unfold v9SetOk at h1
  cases hb : s.body with
  | templates ts pad => rwa [hb] at h1
  | data recs pad =>
    rw [hb] at h1
    simpa [v9BodyOk, h1] using mem_v9DataIds ss s recs pad hs hb
  | _ => rfl

/-- observable of one `parseV9` call: (what `to_be_bytes` returns, the bytes the packet occupied) -/
def v9Reexport (c : Config) (st : PState) (i : Bytes) : Option (Out Bytes × Bytes) :=
  match parseV9 c st i with
  | (_, .ok (.v9 h ss, rest)) => some (exportV9 c h ss, toBE 2 9 ++ i.take (i.length - rest.length))
  | _ => none

end Netflow.A7
