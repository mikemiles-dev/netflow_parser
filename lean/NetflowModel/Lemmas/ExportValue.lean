/-
  Lemmas/ExportValue.lean — which decoded field values re-export to the bytes they were decoded
  from: the static class `LosslessField` of (library type, declared length) pairs, the dynamic
  class `ValueOk` of decoded values, and the value-level coherence theorem `parseValue_coh`.
-/
import NetflowModel.Lemmas.ExportBytes
namespace Netflow.A7

theorem wrapUnsigned_natCast {k n : Nat} (h : n < 2 ^ k) : wrapUnsigned k (n : Int) = n := by
  unfold wrapUnsigned
  rw [Int.emod_eq_of_lt (by omega) (by exact_mod_cast h)]
  rfl

theorem wrapUnsigned_sub {k n : Nat} (h : n < 2 ^ k) : wrapUnsigned k ((n : Int) - (2 ^ k : Nat)) = n := by
  unfold wrapUnsigned
  rw [Int.sub_emod_right, Int.emod_eq_of_lt (by omega) (by exact_mod_cast h)]
  rfl

/-- `j as iN as uN` is `j` -/
theorem wrapUnsigned_wrapSigned {k n : Nat} (h : n < 2 ^ k) : wrapUnsigned k (wrapSigned k n) = n := by
  unfold wrapSigned
  simp only [Nat.mod_eq_of_lt h]
  split
  · exact wrapUnsigned_natCast h
  · exact wrapUnsigned_sub h

theorem beNat_lt_two_pow (bs : Bytes) : beNat bs < 2 ^ (8 * bs.length) := by
  rw [Nat.pow_mul]
  exact beNat_lt bs

/-- the unsigned image of the two's complement reading of `bs` is its unsigned reading -/
theorem wrapUnsigned_beInt (bs : Bytes) : wrapUnsigned (8 * bs.length) (beInt bs) = beNat bs := by
  unfold beInt
  simp only [show 256 ^ bs.length = 2 ^ (8 * bs.length) from (Nat.pow_mul 2 8 _).symm]
  split
  · exact wrapUnsigned_natCast (beNat_lt_two_pow bs)
  · exact wrapUnsigned_sub (beNat_lt_two_pow bs)

/-- number of bytes an unsigned arm writes back -/
def armUWidth : DnArm → Option Nat
  | .u8 => some 1 | .u16 => some 2 | .u24 => some 3 | .u32 => some 4 | .u64 => some 8 | .u128 => some 16
  | .i24 => none | .i32 => none

/-- the arm chosen for a `(len, signed)` request re-exports exactly `len` bytes with the same
    content: an unsigned arm of that width, `I32` for 4 bytes, `I24` for 3 signed bytes. -/
def armLossless (arm : DnArm) (signed : Bool) (len : Nat) : Bool :=
  armUWidth arm == some len || (arm == .i32 && len == 4) || (arm == .i24 && len == 3 && signed)

theorem DataNumber.parse_inv {arms : DnArms} {len : Nat} {signed : Bool} {i r : Bytes} {d : DataNumber}
    (h : DataNumber.parse arms len signed i = some (d, r)) :
    ∃ arm bs, arms.lookup (len, signed) = some arm ∧ takeN len i = some (bs, r) ∧
      d = DataNumber.make arm signed bs := by
  unfold DataNumber.parse at h
  split at h
  · cases h
  · next arm hl =>
    split at h
    · cases h
    · next bs r1 ht =>
      cases h
      exact ⟨arm, bs, hl, ht, rfl⟩

theorem armLossless_cases {arm : DnArm} {signed : Bool} {len : Nat} (h : armLossless arm signed len = true) :
    armUWidth arm = some len ∨ arm = .i32 ∧ len = 4 ∨ arm = .i24 ∧ len = 3 ∧ signed = true := by
  simpa [armLossless, or_assoc, and_assoc] using h

theorem DataNumber.make_toBE (arm : DnArm) (signed : Bool) (bs : Bytes)
    (h : armLossless arm signed bs.length = true) :
    (DataNumber.make arm signed bs).toBE = .ok bs := by
  have hlt := beNat_lt_two_pow bs
  have hbe := toBE_beNat bs
  have hw := wrapUnsigned_beInt bs
  rcases armLossless_cases h with hu | ⟨rfl, hl⟩ | ⟨rfl, hl, rfl⟩
  · cases arm <;> simp only [armUWidth, Option.some.injEq, reduceCtorEq] at hu <;> rw [← hu] at hlt hbe
    case u24 => simp only [DataNumber.make, DataNumber.toBE, hlt, ↓reduceIte, hbe]
    all_goals simp only [DataNumber.make, DataNumber.toBE, hbe]
  · rw [hl] at hlt hbe hw
    have hz : wrapUnsigned 32 (if signed then beInt bs else (beNat bs : Int)) = beNat bs := by
      cases signed
      · exact wrapUnsigned_natCast hlt
      · exact hw
    simp only [DataNumber.make, DataNumber.toBE, hz, wrapUnsigned_wrapSigned hlt, hbe]
  · rw [hl] at hlt hbe hw
    have hr : -(2 ^ 23 : Int) ≤ beInt bs ∧ beInt bs < 2 ^ 23 := by
      have := beInt_bounds bs
      rw [hl] at this
      omega
    simp only [DataNumber.make, DataNumber.toBE, ↓reduceIte, hr, and_self, hw, hbe]

/-- the byte string contains the UTF-8 encoding `EF BF BD` of U+FFFD -/
def hasRepl : Bytes → Bool
  | [] => false
  | b :: rest => (b == 0xEF && rest.take 2 == [0xBF, 0xBD]) || hasRepl rest

theorem hasRepl_replChar (rest : Bytes) : hasRepl (replChar ++ rest) = true := rfl

theorem hasRepl_replChar' : hasRepl replChar = true := hasRepl_replChar []

theorem hasRepl_append_false {a t : Bytes} (h : hasRepl (a ++ t) = false) : hasRepl t = false := by
  induction a with
  | nil => exact h
  | cons b a ih =>
    simp only [List.cons_append, hasRepl, Bool.or_eq_false_iff] at h
    exact ih h.2

/-- one step of the lossy decoder: it emits either U+FFFD, dropping at least the lead byte, or one
    well-formed scalar value copied from the front of the input -/
theorem utf8LossyF_step (f : Nat) (b : UInt8) (rest : Bytes) :
    (∃ rest', rest'.length ≤ rest.length ∧ utf8LossyF (f + 1) (b :: rest) = replChar ++ utf8LossyF f rest') ∨
    ∃ chunk rest', chunk ++ rest' = b :: rest ∧ rest'.length ≤ rest.length ∧
      utf8LossyF (f + 1) (b :: rest) = chunk ++ utf8LossyF f rest' ∧
      (b.toNat < 128 ∧ chunk = [b] ∨
       (∃ c, (0xC2 ≤ b.toNat ∧ b.toNat ≤ 0xDF) ∧ isCont c = true ∧ chunk = [b, c]) ∨
       (∃ c d, ok3 b c = true ∧ isCont d = true ∧ chunk = [b, c, d]) ∨
       ∃ c d e, ok4 b c = true ∧ isCont d = true ∧ isCont e = true ∧ chunk = [b, c, d, e]) := by
  have stop : ∃ rest', rest'.length ≤ rest.length ∧ replChar = replChar ++ utf8LossyF f rest' :=
    ⟨[], Nat.zero_le _, by cases f <;> rfl⟩
  simp only [utf8LossyF]
  by_cases h1 : b.toNat < 128
  · rw [if_pos h1]
    exact Or.inr ⟨[b], rest, rfl, Nat.le_refl _, rfl, Or.inl ⟨h1, rfl⟩⟩
  rw [if_neg h1]
  by_cases h2 : (0xC2 ≤ b.toNat && b.toNat ≤ 0xDF) = true
  · rw [if_pos h2]
    cases rest with
    | nil => exact Or.inl stop
    | cons c r1 =>
      dsimp only
      by_cases hc : isCont c = true
      · rw [if_pos hc]
        exact Or.inr ⟨[b, c], r1, rfl, Nat.le_succ _, rfl, Or.inr (Or.inl ⟨c, by simpa using h2, hc, rfl⟩)⟩
      · rw [if_neg hc]
        exact Or.inl ⟨_, Nat.le_refl _, rfl⟩
  rw [if_neg h2]
  by_cases h3 : (0xE0 ≤ b.toNat && b.toNat ≤ 0xEF) = true
  · rw [if_pos h3]
    cases rest with
    | nil => exact Or.inl stop
    | cons c r1 =>
      dsimp only
      by_cases hc : ok3 b c = true
      · rw [if_pos hc]
        cases r1 with
        | nil => exact Or.inl stop
        | cons d r2 =>
          dsimp only
          by_cases hd : isCont d = true
          · rw [if_pos hd]
            exact Or.inr ⟨[b, c, d], r2, rfl, by simp; omega, rfl, Or.inr (Or.inr (Or.inl ⟨c, d, hc, hd, rfl⟩))⟩
          · rw [if_neg hd]
            exact Or.inl ⟨_, Nat.le_succ _, rfl⟩
      · rw [if_neg hc]
        exact Or.inl ⟨_, Nat.le_refl _, rfl⟩
  rw [if_neg h3]
  by_cases h4 : (0xF0 ≤ b.toNat && b.toNat ≤ 0xF4) = true
  · rw [if_pos h4]
    cases rest with
    | nil => exact Or.inl stop
    | cons c r1 =>
      dsimp only
      by_cases hc : ok4 b c = true
      · rw [if_pos hc]
        cases r1 with
        | nil => exact Or.inl stop
        | cons d r2 =>
          dsimp only
          by_cases hd : isCont d = true
          · rw [if_pos hd]
            cases r2 with
            | nil => exact Or.inl stop
            | cons e r3 =>
              dsimp only
              by_cases he : isCont e = true
              · rw [if_pos he]
                exact Or.inr ⟨[b, c, d, e], r3, rfl, by simp; omega, rfl,
                  Or.inr (Or.inr (Or.inr ⟨c, d, e, hc, hd, he, rfl⟩))⟩
              · rw [if_neg he]
                exact Or.inl ⟨_, by simp, rfl⟩
          · rw [if_neg hd]
            exact Or.inl ⟨_, Nat.le_succ _, rfl⟩
      · rw [if_neg hc]
        exact Or.inl ⟨_, Nat.le_refl _, rfl⟩
  · rw [if_neg h4]
    exact Or.inl ⟨_, Nat.le_refl _, rfl⟩

/-- if the lossy decoder's output contains no replacement character, it is the input -/
theorem utf8LossyF_id : ∀ (f : Nat) (bs : Bytes), bs.length < f →
    hasRepl (utf8LossyF f bs) = false → utf8LossyF f bs = bs := by
  intro f
  induction f with
  | zero => intro bs h; omega
  | succ f ih =>
    intro bs hl h
    cases bs with
    | nil => rfl
    | cons b rest =>
      rcases utf8LossyF_step f b rest with ⟨rest', _, e⟩ | ⟨chunk, rest', hc, hle, e, _⟩
      · rw [e, hasRepl_replChar] at h
        cases h
      · rw [e] at h ⊢
        rw [ih rest' (by simp at hl; omega) (hasRepl_append_false h), hc]

theorem utf8Lossy_id (bs : Bytes) (h : hasRepl (utf8Lossy bs) = false) : utf8Lossy bs = bs :=
  utf8LossyF_id _ bs (Nat.lt_succ_self _) h

/-- STATIC class: a field of library type `ty` declared with `len` bytes is always re-exported
    to the bytes it was decoded from (for `str` and `proto` provided the decoded value is `ValueOk`).
    * numbers: the `DataNumber::parse` arm for `(len, signed)` writes `len` bytes back
      (`armLossless`; a failing lookup makes the parse fail, so it is vacuously fine);
    * `durS` only as a 4-byte `U32` (a Duration is re-exported as 4-byte seconds);
    * `ip4`/`ip6`/`f64`: ANY declared length (they consume and re-emit 4/16/8 bytes);
    * `vec`/`unknown`: any length;  `mac`, `durMs`, `durUs`, `durNs`: never. -/
def LosslessField (vc : ValueCfg) (ty : FType) (len : Nat) : Bool :=
  match ty with
  | .unsigned =>
    match vc.dnArms.lookup (len, false) with
    | some arm => armLossless arm false len
    | none => true
  | .signed =>
    match vc.dnArms.lookup (len, true) with
    | some arm => armLossless arm true len
    | none => true
  | .durS => len == 4 && (vc.dnArms.lookup (len, false) == some .u32 || vc.dnArms.lookup (len, false) == none)
  | .str | .proto | .ip4 | .ip6 | .f64 | .vec | .unknown => true
  | .mac | .durMs | .durUs | .durNs => false

/-- if every unsigned arm of the `DataNumber::parse` table writes back the width it was selected
    for, unsigned fields are lossless at EVERY declared length (unsupported lengths fail to parse) -/
theorem unsigned_lossless_of_arms (vc : ValueCfg)
    (h : vc.dnArms.all (fun e => e.1.2 || armLossless e.2 false e.1.1) = true) (len : Nat) :
    LosslessField vc .unsigned len = true := by
  simp only [LosslessField]
  cases hl : vc.dnArms.lookup (len, false) with
  | none => rfl
  | some arm =>
    simp only [List.all_eq_true] at h
    have := h _ (lookup_mem hl)
    simpa using this

/-- (Not `Netflow.ValueOk` of Lemmas/ExportRange.lean, which says "exports without panic".)
    DYNAMIC class of decoded values: a string without U+FFFD (so the lossy UTF-8 decoding changed
    nothing), a protocol whose `u8` image is the only byte that decodes to it. -/
def ValueOk (vc : ValueCfg) : FieldValue → Bool
  | .str s => !hasRepl s
  | .proto p => (List.range 256).all fun n => decide (vc.protoParse n = some p → vc.protoToU8 p = n)
  | _ => true

theorem DataNumber.parse_coh {arms : DnArms} {len : Nat} {signed : Bool} {i r : Bytes} {d : DataNumber}
    (h : DataNumber.parse arms len signed i = some (d, r))
    (hs : ∀ arm, arms.lookup (len, signed) = some arm → armLossless arm signed len = true) : Coh d.toBE i r := by
  obtain ⟨arm, bs, hl, ht, rfl⟩ := DataNumber.parse_inv h
  have ha := hs arm hl
  rw [← takeN_length ht] at ha
  rw [DataNumber.make_toBE arm signed bs ha]
  exact Coh.ok (takeN_coh ht)

/-- value-level parse-then-print: a decoded lossless value re-exports to exactly the bytes the
    decoder consumed -/
theorem parseValue_coh (vc : ValueCfg) (ty : FType) (len : Nat) (i : Bytes) (v : FieldValue) (r : Bytes)
    (h : parseValue vc ty len i = some (v, r)) (hs : LosslessField vc ty len = true) (hv : ValueOk vc v = true) :
    Coh (v.toBE vc) i r := by
  cases ty <;> simp only [parseValue] at h
  case unsigned | signed =>
    split at h
    · cases h
    · next d r1 hp =>
      cases h
      exact DataNumber.parse_coh hp fun arm hl => by simpa [LosslessField, hl] using hs
  case str =>
    split at h
    · cases h
    · next b r1 ht =>
      cases h
      rw [FieldValue.toBE, utf8Lossy_id b (by simpa [ValueOk] using hv)]
      exact Coh.ok (takeN_coh ht)
  case ip4 | ip6 | f64 =>
    split at h
    · cases h
    · next n r1 hb =>
      cases h
      exact Coh.ok (beU_coh hb)
  case vec =>
    split at h
    · cases h
    · next b r1 ht =>
      cases h
      exact Coh.ok (takeN_coh ht)
  case unknown =>
    split at h
    · split at h
      · cases h
      · next b r1 ht =>
        cases h
        exact Coh.ok (takeN_coh ht)
    · cases h
  case mac | durMs | durUs | durNs => cases hs
  case durS =>
    split at h
    · cases h
    · next d r1 hp =>
      cases h
      obtain ⟨arm, bs, hl, ht, rfl⟩ := DataNumber.parse_inv hp
      simp only [LosslessField, hl, Bool.and_eq_true, beq_iff_eq, Bool.or_eq_true, Option.some.injEq,
        reduceCtorEq, or_false] at hs
      obtain ⟨rfl, rfl⟩ := hs
      have hlen := takeN_length ht
      have hlt := beNat_lt_two_pow bs
      rw [hlen] at hlt
      simp only [DataNumber.make, durOf, DataNumber.toUsize, Nat.div_one, FieldValue.toBE, hlt, ↓reduceIte,
        toBE_beNat_of_length hlen]
      exact Coh.ok (takeN_coh ht)
  case proto =>
    split at h
    · cases h
    · next n r1 hb =>
      split at h
      · cases h
      · next p hpp =>
        cases h
        have hlt := beU_lt hb
        simp only [ValueOk, List.all_eq_true, List.mem_range, decide_eq_true_eq] at hv
        rw [FieldValue.toBE, hv n hlt hpp]
        exact Coh.ok (by simpa [toBE, Nat.mod_eq_of_lt hlt] using beU_coh hb)

/-- the input-side form for strings: valid UTF-8 in, same bytes out -/
theorem parseValue_str_coh (vc : ValueCfg) (len : Nat) (i : Bytes) (v : FieldValue) (r : Bytes)
    (h : parseValue vc .str len i = some (v, r)) (hu : utf8Lossy (i.take len) = i.take len) :
    v.toBE vc = .ok (i.take len) ∧ i.take len ++ r = i := by
  simp only [parseValue] at h
  split at h
  · cases h
  · next b r1 ht =>
    cases h
    obtain ⟨_, rfl, rfl⟩ := takeN_some ht
    exact ⟨by rw [FieldValue.toBE, hu], List.take_append_drop len i⟩

end Netflow.A7
