/-
  Lemmas/Feature.lean — the cargo feature `parse_unknown_fields` (in the model `Config.unknownFields`).
  The flag is read in exactly one place, the `.unknown` arm of `parseValue`; everything here follows from that:
  with a known type the flag is irrelevant, with an unknown type and the flag off the value (hence the record)
  does not parse; framing, caches and the exporters never see the flag.  All names live in `Netflow.B2`.
-/
import NetflowModel.Lemmas.Replay
import NetflowModel.Findings
import NetflowModel.Lemmas.Records
namespace Netflow.B2
open Netflow

abbrev flag (c : Config) (b : Bool) : Config := { c with unknownFields := b }

@[simp] theorem flag_t (c : Config) (b : Bool) : (flag c b).t = c.t := rfl
@[simp] theorem flag_allowed (c : Config) (b : Bool) : (flag c b).allowed = c.allowed := rfl
theorem flag_vc (c : Config) (b : Bool) : (flag c b).vc = { c.vc with unknownFields := b } := rfl

theorem parseValue_known (vc : ValueCfg) (b1 b2 : Bool) (ty : FType) (h : ty ≠ .unknown) (len : Nat) (i : Bytes) :
    parseValue { vc with unknownFields := b1 } ty len i = parseValue { vc with unknownFields := b2 } ty len i := by
  cases ty <;> first | rfl | exact absurd rfl h

theorem parseValue_unknown_off (vc : ValueCfg) (len : Nat) (i : Bytes) :
    parseValue { vc with unknownFields := false } .unknown len i = none := rfl

theorem parseValue_unknown_on (vc : ValueCfg) (len : Nat) (i : Bytes) :
    parseValue { vc with unknownFields := true } .unknown len i = parseValue vc .vec len i := rfl

theorem parseValue_off_some {vc : ValueCfg} {ty : FType} {len : Nat} {i : Bytes} {x : FieldValue × Bytes}
    (h : parseValue { vc with unknownFields := false } ty len i = some x) : ty ≠ .unknown := by
  intro ht
  subst ht
  rw [parseValue_unknown_off] at h
  cases h

def V9Known (c : Config) (fs : List TField) : Prop :=
  ∀ f ∈ fs, c.t.v9Ty (c.t.v9Field f.typ) ≠ .unknown

def IpKnown (c : Config) (fs : List IpTField) : Prop :=
  ∀ f ∈ fs, f.ent = none → c.t.ipTy (c.t.ipField f.typ) ≠ .unknown

/-- Boolean forms, exactly the inner tests of `Findings.usesUnknown` / `reportsUnknownTemplate` -/
def v9HasUnknown (c : Config) (fs : List TField) : Bool :=
  fs.any fun f => c.t.v9Ty (c.t.v9Field f.typ) == .unknown

def ipHasUnknown (c : Config) (fs : List IpTField) : Bool :=
  fs.any fun f => f.ent.isNone && c.t.ipTy (c.t.ipField f.typ) == .unknown

theorem v9Known_iff (c : Config) (fs : List TField) : v9HasUnknown c fs = false ↔ V9Known c fs := by
  unfold v9HasUnknown V9Known
  rw [List.any_eq_false]
  constructor
  · intro h f hf he
    exact h f hf (by simp [he])
  · intro h f hf
    have := h f hf
    simpa using this

theorem ipKnown_iff (c : Config) (fs : List IpTField) : ipHasUnknown c fs = false ↔ IpKnown c fs := by
  unfold ipHasUnknown IpKnown
  rw [List.any_eq_false]
  constructor
  · intro h f hf hn he
    exact h f hf (by simp [hn, he])
  · intro h f hf
    cases hn : f.ent with
    | some e => simp
    | none =>
      have := h f hf hn
      simpa using this

theorem v9HasUnknown_true {c : Config} {fs : List TField} (h : v9HasUnknown c fs = true) :
    ∃ f ∈ fs, c.t.v9Ty (c.t.v9Field f.typ) = .unknown := by
  simpa [v9HasUnknown] using h

theorem ipHasUnknown_true {c : Config} {fs : List IpTField} (h : ipHasUnknown c fs = true) :
    ∃ f ∈ fs, f.ent = none ∧ c.t.ipTy (c.t.ipField f.typ) = .unknown := by
  simpa [ipHasUnknown] using h

theorem v9ParseRec_known (c : Config) (b1 b2 : Bool) :
    ∀ (fs : List TField), V9Known c fs → ∀ (idx : Nat) (i : Bytes),
      v9ParseRec (flag c b1) fs idx i = v9ParseRec (flag c b2) fs idx i := by
  intro fs
  induction fs with
  | nil => intro _ idx i; rfl
  | cons f fs ih =>
    intro hk idx i
    have hv := parseValue_known c.vc b1 b2 _ (hk f List.mem_cons_self) f.len i
    have ih' := ih (fun g hg => hk g (List.mem_cons_of_mem _ hg))
    simp only [v9ParseRec, flag_vc, hv, ih']

theorem v9ParseRec_unknown_off (c : Config) :
    ∀ (fs : List TField), (∃ f ∈ fs, c.t.v9Ty (c.t.v9Field f.typ) = .unknown) → ∀ (idx : Nat) (i : Bytes),
      v9ParseRec (flag c false) fs idx i = none := by
  intro fs
  induction fs with
  | nil => intro ⟨f, hf, _⟩; cases hf
  | cons g fs ih =>
    intro ⟨f, hf, hu⟩ idx i
    cases h : v9ParseRec (flag c false) (g :: fs) idx i with
    | none => rfl
    | some x =>
      obtain ⟨v, r1, es', hp, hr, _⟩ := v9ParseRec_cons.1 h
      rcases List.mem_cons.1 hf with rfl | hf'
      · exact absurd hu (parseValue_off_some (vc := c.vc) hp)
      · rw [ih ⟨f, hf', hu⟩] at hr; cases hr

theorem v9ParseRec_off_entries (c : Config) (fs : List TField) (idx : Nat) (i : Bytes) (es : Rec) (r : Bytes)
    (h : v9ParseRec (flag c false) fs idx i = some (es, r)) : ∀ e ∈ es, c.t.v9Ty e.2.1 ≠ .unknown := fun e he =>
  have ⟨_, _, _, _, _, hp⟩ := v9ParseRec_mem h e he
  parseValue_off_some (vc := c.vc) hp

theorem v9RecLoop_known (c : Config) (b1 b2 : Bool) (fs : List TField) (hk : V9Known c fs) :
    ∀ (n : Nat) (i : Bytes) (acc : List Rec), v9RecLoop (flag c b1) fs n i acc = v9RecLoop (flag c b2) fs n i acc := by
  intro n
  induction n with
  | zero => intro i acc; rfl
  | succ n ih => intro i acc; simp only [v9RecLoop, v9ParseRec_known c b1 b2 fs hk, ih]

theorem ipParseValue_known (c : Config) (b1 b2 : Bool) (f : IpTField)
    (hk : f.ent = none → c.t.ipTy (c.t.ipField f.typ) ≠ .unknown) (i : Bytes) :
    ipParseValue (flag c b1) f i = ipParseValue (flag c b2) f i := by
  simp only [ipParseValue, flag_vc]
  cases hl : ipFieldLength f i with
  | none => rfl
  | some x =>
    obtain ⟨len, r⟩ := x
    cases he : f.ent with
    | some e => rfl
    | none => exact parseValue_known c.vc b1 b2 _ (hk he) len r

theorem ipParseValue_unknown_off (c : Config) (f : IpTField) (he : f.ent = none)
    (hu : c.t.ipTy (c.t.ipField f.typ) = .unknown) (i : Bytes) : ipParseValue (flag c false) f i = none := by
  simp only [ipParseValue, flag_vc]
  cases hl : ipFieldLength f i with
  | none => rfl
  | some x =>
    obtain ⟨len, r⟩ := x
    simp only [he, hu, parseValue_unknown_off]

theorem ipParseRec_known (c : Config) (b1 b2 : Bool) :
    ∀ (fs : List IpTField), IpKnown c fs → ∀ (idx : Nat) (i : Bytes),
      ipParseRec (flag c b1) fs idx i = ipParseRec (flag c b2) fs idx i := by
  intro fs
  induction fs with
  | nil => intro _ idx i; rfl
  | cons f fs ih =>
    intro hk idx i
    have hv := ipParseValue_known c b1 b2 f (hk f List.mem_cons_self) i
    have ih' := ih (fun g hg => hk g (List.mem_cons_of_mem _ hg))
    simp only [ipParseRec, ipFieldDisc, hv, ih']

theorem ipParseRec_unknown_off (c : Config) :
    ∀ (fs : List IpTField), (∃ f ∈ fs, f.ent = none ∧ c.t.ipTy (c.t.ipField f.typ) = .unknown) →
      ∀ (idx : Nat) (i : Bytes), ipParseRec (flag c false) fs idx i = none := by
  intro fs
  induction fs with
  | nil => intro ⟨f, hf, _⟩; cases hf
  | cons g fs ih =>
    intro ⟨f, hf, he, hu⟩ idx i
    cases h : ipParseRec (flag c false) (g :: fs) idx i with
    | none => rfl
    | some x =>
      obtain ⟨v, r1, es', hp, hr, _⟩ := ipParseRec_cons.1 h
      rcases List.mem_cons.1 hf with rfl | hf'
      · rw [ipParseValue_unknown_off c f he hu] at hp; cases hp
      · rw [ih ⟨f, hf', he, hu⟩] at hr; cases hr

/-- what `Findings.noUnknownEntries` asks of one IPFIX entry -/
def IpEntryOk (c : Config) (e : Entry) : Prop := e.2.1 = c.t.ipEnterprise ∨ c.t.ipTy e.2.1 ≠ .unknown

theorem ipParseRec_off_entries (c : Config) (fs : List IpTField) (idx : Nat) (i : Bytes) (recs : List Rec) (r : Bytes)
    (h : ipParseRec (flag c false) fs idx i = some (recs, r)) : ∀ rc ∈ recs, ∀ e ∈ rc, IpEntryOk c e := by
  intro rc hrc e he
  obtain ⟨f, _, k, v, i', r', hp, rfl⟩ := ipParseRec_mem h rc hrc
  rw [List.mem_singleton.1 he]
  unfold IpEntryOk ipFieldDisc
  cases hent : f.ent with
  | some n => exact Or.inl rfl
  | none =>
    refine Or.inr fun hu => ?_
    rw [ipParseValue_unknown_off c f hent hu] at hp
    cases hp

theorem ipRecLoop_known (c : Config) (b1 b2 : Bool) (fs : List IpTField) (hk : IpKnown c fs) :
    ∀ (n : Nat) (i : Bytes), ipRecLoop (flag c b1) fs n i = ipRecLoop (flag c b2) fs n i := by
  intro n
  induction n with
  | zero => intro i; rfl
  | succ n ih => intro i; simp only [ipRecLoop, ipParseRec_known c b1 b2 fs hk, ih]

/-- no cached template that `parseValue` is ever applied for has an unknown-typed field
    (V9 options templates are decoded without `parseValue`, so they do not count) -/
def KnownOnlyP (c : Config) (st : PState) : Prop :=
  (∀ e ∈ st.v9T, V9Known c e.2.fields) ∧ (∀ e ∈ st.ipT, IpKnown c e.2.fields) ∧ (∀ e ∈ st.ipO, IpKnown c e.2.fields)

theorem knownOnly_iff (c : Config) (st : PState) : Findings.usesUnknown c st = false ↔ KnownOnlyP c st := by
  have key : ∀ {τ : Type} (g : τ → Bool) (K : τ → Prop), (∀ x, g x = false ↔ K x) →
      ∀ l : List (Nat × τ), (l.any fun e => g e.2) = false ↔ ∀ e ∈ l, K e.2 := by
    intro τ g K hg l
    rw [List.any_eq_false]
    exact forall₂_congr fun e _ => by rw [Bool.not_eq_true, hg]
  show ((st.v9T.any fun e => v9HasUnknown c e.2.fields) || (st.ipT.any fun e => ipHasUnknown c e.2.fields) ||
      (st.ipO.any fun e => ipHasUnknown c e.2.fields)) = false ↔ _
  rw [Bool.or_eq_false_iff, Bool.or_eq_false_iff,
    key (fun t : V9Template => v9HasUnknown c t.fields) _ (fun t => v9Known_iff c t.fields),
    key (fun t : IpTemplate => ipHasUnknown c t.fields) _ (fun t => ipKnown_iff c t.fields),
    key (fun t : IpOptTemplate => ipHasUnknown c t.fields) _ (fun t => ipKnown_iff c t.fields)]
  exact and_assoc

def V9SetKnown (c : Config) (s : V9Set) : Prop :=
  ∀ ts pad, s.body = .templates ts pad → ∀ t ∈ ts, V9Known c t.fields

def IpSetKnown (c : Config) (s : IpSet) : Prop :=
  (∀ t, s.body = .template t → IpKnown c t.fields) ∧ (∀ t, s.body = .optTemplate t → IpKnown c t.fields)

def PktKnown (c : Config) : Packet → Prop
  | .v9 _ ss => ∀ s ∈ ss, V9SetKnown c s
  | .ipfix _ ss => ∀ s ∈ ss, IpSetKnown c s
  | _ => True

theorem knownOnly_replayV9Set {c : Config} {st : PState} {s : V9Set} (hk : KnownOnlyP c st) (hs : V9SetKnown c s) :
    KnownOnlyP c (P1.replayV9Set st s) := by
  unfold P1.replayV9Set P1.replayV9Body
  split
  · rename_i ts pad hb
    have hts := hs ts pad hb
    clear hb hs
    induction ts generalizing st with
    | nil => exact hk
    | cons t ts ih =>
      refine ih ?_ (fun t' ht' => hts t' (List.mem_cons_of_mem _ ht'))
      exact ⟨forall_mem_amInsert hk.1 (hts t List.mem_cons_self), hk.2⟩
  · rename_i ts pad hb
    clear hb hs
    induction ts generalizing st with
    | nil => exact hk
    | cons t ts ih =>
      refine ih ?_
      exact ⟨forall_mem_amErase hk.1, hk.2⟩
  · exact hk

theorem knownOnly_replayIpSet {c : Config} {st : PState} {s : IpSet} (hk : KnownOnlyP c st) (hs : IpSetKnown c s) :
    KnownOnlyP c (P1.replayIpSet st s) := by
  unfold P1.replayIpSet P1.replayIpBody
  split
  · rename_i t hb
    exact ⟨hk.1, forall_mem_amInsert hk.2.1 (hs.1 t hb), forall_mem_amErase hk.2.2⟩
  · rename_i t hb
    exact ⟨hk.1, forall_mem_amErase hk.2.1, forall_mem_amInsert hk.2.2 (hs.2 t hb)⟩
  · exact hk

theorem v9ScopeLoop_flag (c : Config) (b : Bool) :
    ∀ (fs : List TField) (i : Bytes), v9ScopeLoop (flag c b) fs i = v9ScopeLoop c fs i := by
  intro fs
  induction fs with
  | nil => intro i; rfl
  | cons f fs ih => intro i; simp only [v9ScopeLoop, ih]

theorem v9OptLoop_flag (c : Config) (b : Bool) :
    ∀ (fs : List TField) (i : Bytes), v9OptLoop (flag c b) fs i = v9OptLoop c fs i := by
  intro fs
  induction fs with
  | nil => intro i; rfl
  | cons f fs ih => intro i; simp only [v9OptLoop, ih]

theorem v9ParseBody_same (c : Config) (b1 b2 : Bool) (st : PState) (hk : KnownOnlyP c st) (id : Nat) (body : Bytes) :
    v9ParseBody (flag c b1) st id body = v9ParseBody (flag c b2) st id body := by
  simp only [v9ParseBody, v9ScopeLoop_flag, v9OptLoop_flag]
  cases hT : amLookup id st.v9T with
  | none => rfl
  | some t =>
    have hkt : V9Known c t.fields := hk.1 _ (amLookup_mem hT)
    simp only [v9RecLoop_known c b1 b2 t.fields hkt]

theorem v9ParseSet_same (c : Config) (b1 b2 : Bool) (st : PState) (hk : KnownOnlyP c st) (i : Bytes) :
    v9ParseSet (flag c b1) st i = v9ParseSet (flag c b2) st i := by
  simp only [v9ParseSet, v9ParseBody_same c b1 b2 st hk]

def rmap {α β : Type} (f : α → β) : Res α → Res β
  | .ok a => .ok (f a)
  | .err => .err
  | .panic => .panic
  | .overflow => .overflow

theorem rmap_err {α β : Type} {f : α → β} {q : Res α} (h : rmap f q = .err) : q = .err := by
  cases q <;> simp [rmap] at h ⊢

/-- the flag reaches a flowset body only through the record loop of the data arm, and that arm returns
    `.ok (.data ..)` with the state unchanged whatever the loop produced -/
theorem v9ParseBody_sim (c : Config) (b1 b2 : Bool) (st : PState) (id : Nat) (body : Bytes) :
    (v9ParseBody (flag c b1) st id body).1 = (v9ParseBody (flag c b2) st id body).1 ∧
    rmap (fun _ => ()) (v9ParseBody (flag c b1) st id body).2 = rmap (fun _ => ()) (v9ParseBody (flag c b2) st id body).2 := by
  simp only [v9ParseBody, v9ScopeLoop_flag, v9OptLoop_flag]
  split
  · exact ⟨rfl, rfl⟩
  split
  · exact ⟨rfl, rfl⟩
  split
  · split
    · exact ⟨rfl, rfl⟩
    · split <;> exact ⟨rfl, rfl⟩
  split
  · split <;> exact ⟨rfl, rfl⟩
  · exact ⟨rfl, rfl⟩

/-- the state, and the result with `g` applied to its value -/
def shape {α β : Type} (g : α → β) (x : PState × Res α) : PState × Res β := (x.1, rmap g x.2)

theorem shape_eq_iff {α β : Type} {g : α → β} {x y : PState × Res α} :
    shape g x = shape g y ↔ x.1 = y.1 ∧ rmap g x.2 = rmap g y.2 := Prod.ext_iff

/-- what a flowset leaves behind (state, outcome, rest) is determined by what its body leaves behind -/
theorem v9ParseSet_shape (c : Config) (st : PState) (i : Bytes) :
    shape Prod.snd (v9ParseSet c st i) =
      match parseLayout c.t.protoFromU8 c.t.v9SetHdr i with
      | none => (st, .err)
      | some (h, r) =>
        match takeN (c.t.v9SetHdr.get "length" h - 4) r with
        | none => (st, .err)
        | some (body, r') => shape (fun _ => r') (shape (fun _ => ()) (v9ParseBody c st (c.t.v9SetHdr.get "flowset_id" h) body)) := by
  unfold v9ParseSet
  rcases parseLayout c.t.protoFromU8 c.t.v9SetHdr i with _ | ⟨h, r⟩
  · rfl
  dsimp only
  rcases takeN (c.t.v9SetHdr.get "length" h - 4) r with _ | ⟨body, r'⟩
  · rfl
  dsimp only
  rcases v9ParseBody c st (c.t.v9SetHdr.get "flowset_id" h) body with ⟨s, q⟩
  cases q <;> rfl

theorem v9ParseSet_sim (c : Config) (b1 b2 : Bool) (st : PState) (i : Bytes) :
    shape Prod.snd (v9ParseSet (flag c b1) st i) = shape Prod.snd (v9ParseSet (flag c b2) st i) := by
  simp only [v9ParseSet_shape, shape_eq_iff.2 (v9ParseBody_sim c b1 b2 st _ _)]

/-- the flowset loop goes on behind a flowset from the state and the rest that flowset left -/
theorem v9ParseSets_shape_succ (c : Config) (n : Nat) (st : PState) (i : Bytes) (he : i.isEmpty = false) :
    shape Prod.snd (v9ParseSets c (n + 1) st i) =
      match shape Prod.snd (v9ParseSet c st i) with
      | (st', .ok r) => shape Prod.snd (v9ParseSets c n st' r)
      | (st', .err) => (st', .err)
      | (st', .panic) => (st', .panic)
      | (st', .overflow) => (st', .overflow) := by
  conv => lhs; unfold v9ParseSets
  simp only [he, Bool.false_eq_true, ↓reduceIte]
  rcases v9ParseSet c st i with ⟨s, ⟨x, r⟩ | _ | _ | _⟩
  · dsimp only [shape, rmap]
    rcases v9ParseSets c n s r with ⟨s', q'⟩
    cases q' <;> rfl
  all_goals rfl

theorem v9ParseSets_sim (c : Config) (b1 b2 : Bool) :
    ∀ (n : Nat) (st : PState) (i : Bytes),
      (v9ParseSets (flag c b1) n st i).1 = (v9ParseSets (flag c b2) n st i).1 ∧
      rmap Prod.snd (v9ParseSets (flag c b1) n st i).2 = rmap Prod.snd (v9ParseSets (flag c b2) n st i).2 := by
  intro n
  induction n with
  | zero => intro st i; exact ⟨rfl, rfl⟩
  | succ n ih =>
    intro st i
    cases he : i.isEmpty with
    | true => simp only [v9ParseSets, he, ↓reduceIte]; exact ih st i
    | false =>
      rw [← shape_eq_iff, v9ParseSets_shape_succ _ n st i he, v9ParseSets_shape_succ _ n st i he, v9ParseSet_sim c b1 b2]
      split <;> first | rfl | exact shape_eq_iff.2 (ih _ _)

theorem parseV9_sim (c : Config) (b1 b2 : Bool) (st : PState) (i : Bytes) :
    (parseV9 (flag c b1) st i).1 = (parseV9 (flag c b2) st i).1 ∧
    rmap Prod.snd (parseV9 (flag c b1) st i).2 = rmap Prod.snd (parseV9 (flag c b2) st i).2 := by
  have h (c : Config) : shape Prod.snd (parseV9 c st i) =
      match parseLayout c.t.protoFromU8 c.t.v9Hdr i with
      | none => (st, .err)
      | some (h, r) => shape Prod.snd (v9ParseSets c (c.t.v9Hdr.get "count" h) st r) := by
    unfold parseV9
    rcases parseLayout c.t.protoFromU8 c.t.v9Hdr i with _ | ⟨h, r⟩
    · rfl
    dsimp only
    rcases v9ParseSets c (c.t.v9Hdr.get "count" h) st r with ⟨s, q⟩
    cases q <;> rfl
  rw [← shape_eq_iff, h, h]
  simp only [shape_eq_iff.2 (v9ParseSets_sim c b1 b2 _ st _)]

theorem parseV9_err (c : Config) (b1 b2 : Bool) (st st' : PState) (i : Bytes)
    (h : parseV9 (flag c b2) st i = (st', .err)) : parseV9 (flag c b1) st i = (st', .err) := by
  obtain ⟨h1, h2⟩ := parseV9_sim c b1 b2 st i
  rw [h] at h1 h2
  exact Prod.ext h1 (rmap_err h2)

theorem v9ParseSets_ok (c : Config) (b1 b2 : Bool) :
    ∀ (n : Nat) (st : PState) (i : Bytes) (st' : PState) (ss : List V9Set) (r : Bytes),
      KnownOnlyP c st → v9ParseSets (flag c b2) n st i = (st', .ok (ss, r)) → (∀ s ∈ ss, V9SetKnown c s) →
      v9ParseSets (flag c b1) n st i = (st', .ok (ss, r)) ∧ KnownOnlyP c st' := by
  intro n
  induction n with
  | zero => intro st i st' ss r hk h _; cases h; exact ⟨rfl, hk⟩
  | succ n ih =>
    intro st i st' ss r hk h hrep
    by_cases hne : i = []
    · subst hne
      rw [v9ParseSets_nil] at h ⊢
      cases h
      exact ⟨rfl, hk⟩
    · obtain ⟨st1, s, r1, ss', hs, hrest, rfl⟩ := v9ParseSets_succ_ok_inv hne h
      have hk1 : KnownOnlyP c st1 := by
        rw [P1.v9ParseSet_ok_replay _ _ _ _ _ _ hs]
        exact knownOnly_replayV9Set hk (hrep s List.mem_cons_self)
      obtain ⟨e, k⟩ := ih st1 r1 st' ss' r hk1 hrest (fun s' hs' => hrep s' (List.mem_cons_of_mem _ hs'))
      rw [← v9ParseSet_same c b1 b2 st hk i] at hs
      exact ⟨v9ParseSets_succ_ok_intro hne hs e, k⟩

theorem parseV9_ok (c : Config) (b1 b2 : Bool) (st st' : PState) (i : Bytes) (p : Packet) (r : Bytes)
    (hk : KnownOnlyP c st) (h : parseV9 (flag c b2) st i = (st', .ok (p, r))) (hrep : PktKnown c p) :
    parseV9 (flag c b1) st i = (st', .ok (p, r)) ∧ KnownOnlyP c st' := by
  obtain ⟨hd, r1, ss, hh, hs, rfl⟩ := parseV9_ok_inv h
  obtain ⟨e, k⟩ := v9ParseSets_ok c b1 b2 _ st r1 st' ss r hk hs hrep
  exact ⟨parseV9_ok_intro hh e, k⟩

theorem ipParseBody_same (c : Config) (b1 b2 : Bool) (st : PState) (hk : KnownOnlyP c st) (id : Nat) (body : Bytes) :
    ipParseBody (flag c b1) st id body = ipParseBody (flag c b2) st id body := by
  simp only [ipParseBody]
  cases hT : amLookup id st.ipT with
  | some t => simp only [ipRecLoop_known c b1 b2 t.fields (hk.2.1 _ (amLookup_mem hT))]; try rfl
  | none =>
    cases hO : amLookup id st.ipO with
    | none => rfl
    | some t => simp only [ipRecLoop_known c b1 b2 t.fields (hk.2.2 _ (amLookup_mem hO))]; try rfl

theorem ipParseSet_same (c : Config) (b1 b2 : Bool) (st : PState) (hk : KnownOnlyP c st) (i : Bytes) :
    ipParseSet (flag c b1) st i = ipParseSet (flag c b2) st i := by
  simp only [ipParseSet, ipParseBody_same c b1 b2 st hk]

theorem ipParseSets_ok (c : Config) (b1 b2 : Bool) :
    ∀ (fuel : Nat) (st : PState) (i : Bytes) (st' : PState) (ss : List IpSet),
      KnownOnlyP c st → ipParseSets (flag c b2) fuel st i = (st', .ok ss) → (∀ s ∈ ss, IpSetKnown c s) →
      ipParseSets (flag c b1) fuel st i = (st', .ok ss) ∧ KnownOnlyP c st' := by
  intro fuel
  induction fuel with
  | zero => intro st i st' ss _ h; cases h
  | succ fuel ih =>
    intro st i st' ss hk h hrep
    rw [ipParseSets_succ_ok_iff] at h ⊢
    rw [ipParseSet_same c b1 b2 st hk i]
    rcases h with ⟨hs, rfl⟩ | ⟨st1, s, r, ss', hs, hl, hrest, rfl⟩
    · exact ⟨Or.inl ⟨hs, rfl⟩, ipParseSet_err_state hs ▸ hk⟩
    · have hk1 : KnownOnlyP c st1 := by
        rw [P1.ipParseSet_ok_replay _ _ _ _ _ _ hs]
        exact knownOnly_replayIpSet hk (hrep s List.mem_cons_self)
      obtain ⟨e, k⟩ := ih st1 r st' ss' hk1 hrest (fun s' hs' => hrep s' (List.mem_cons_of_mem _ hs'))
      exact ⟨Or.inr ⟨st1, s, r, ss', hs, hl, e, rfl⟩, k⟩

theorem parseIpfix_ok (c : Config) (b1 b2 : Bool) (st st' : PState) (i : Bytes) (p : Packet) (r : Bytes)
    (hk : KnownOnlyP c st) (h : parseIpfix (flag c b2) st i = (st', .ok (p, r))) (hrep : PktKnown c p) :
    parseIpfix (flag c b1) st i = (st', .ok (p, r)) ∧ KnownOnlyP c st' := by
  obtain ⟨hd, r1, body, ss, hh, ht, hs, rfl⟩ := parseIpfix_ok_inv h
  obtain ⟨e, k⟩ := ipParseSets_ok c b1 b2 _ st body st' ss hk hs hrep
  exact ⟨parseIpfix_ok_intro hh ht e, k⟩

/-- an IPFIX message that fails to parse fails on its header, before any set is looked at -/
theorem parseIpfix_err (c : Config) (hw : 0 < c.t.ipSetHdr.wireLen) (b1 b2 : Bool) (st st' : PState) (i : Bytes)
    (h : parseIpfix (flag c b2) st i = (st', .err)) : parseIpfix (flag c b1) st i = (st', .err) := by
  rcases parseIpfix_err_inv h with ⟨rfl, hh⟩ | ⟨_, _, _, _, _, _, hs⟩
  · unfold parseIpfix
    rcases hh with hh | ⟨hd, r1, hh, ht⟩
    · simp only [hh]
    · simp only [hh, ht]
  · exact absurd (congrArg Prod.snd hs) (ipParseSets_no_err (flag c b2) hw _ _ _)

theorem parseFixed_flag (c : Config) (b : Bool) (hdr rec : Layout) (i : Bytes) :
    parseFixed (flag c b) hdr rec i = parseFixed c hdr rec i := rfl

/-- the flag and the caches reach a packet only through the dispatcher -/
theorem parsePacket_flag_cases (c : Config) (buf : Bytes) :
    (∃ kind, ∀ b st, parsePacket (flag c b) st buf = parseVersioned (flag c b) st kind (buf.drop 2)) ∨
    (∃ step, ∀ b st, parsePacket (flag c b) st buf = (st, step)) := by
  unfold parsePacket
  cases hv : beU 2 buf with
  | none => exact Or.inr ⟨_, fun _ _ => rfl⟩
  | some x =>
    obtain ⟨v, body⟩ := x
    obtain rfl := (beU_some hv).2.2
    by_cases ha : c.allowed.contains v = true
    · cases hd : c.t.dispatch.lookup v with
      | none => exact Or.inr ⟨_, fun _ _ => by simp only [ha, hd]; rfl⟩
      | some kind => exact Or.inl ⟨kind, fun b st => by simp only [ha, hd, ↓reduceIte]⟩
    · exact Or.inr ⟨_, fun _ _ => by simp only [ha, Bool.false_eq_true, ↓reduceIte]; rfl⟩

theorem parseVersioned_ok_flag (c : Config) (b1 b2 : Bool) (st st1 : PState) (kind : Nat) (body : Bytes) (pkt : Packet)
    (rest : Bytes) (hk : KnownOnlyP c st) (h : parseVersioned (flag c b2) st kind body = (st1, .ok pkt rest))
    (hrep : PktKnown c pkt) : parseVersioned (flag c b1) st kind body = (st1, .ok pkt rest) ∧ KnownOnlyP c st1 := by
  rcases parseVersioned_ok_inv h with ⟨rfl, rfl, hd, rs, hp, rfl⟩ | ⟨rfl, rfl, hd, rs, hp, rfl⟩ | ⟨rfl, hp⟩ | ⟨rfl, hp⟩
  · exact ⟨parseVersioned_5_some hp, hk⟩
  · exact ⟨parseVersioned_7_some hp, hk⟩
  · obtain ⟨e, k⟩ := parseV9_ok c b1 b2 st st1 body pkt rest hk hp hrep
    rw [parseVersioned_9, e]
    exact ⟨rfl, k⟩
  · obtain ⟨e, k⟩ := parseIpfix_ok c b1 b2 st st1 body pkt rest hk hp hrep
    rw [parseVersioned_10, e]
    exact ⟨rfl, k⟩

theorem parseVersioned_fail_flag (c : Config) (hw : 0 < c.t.ipSetHdr.wireLen) (b1 b2 : Bool) (st st1 : PState) (kind : Nat)
    (body : Bytes) (e : ErrKind) (h : parseVersioned (flag c b2) st kind body = (st1, .fail e)) :
    parseVersioned (flag c b1) st kind body = (st1, .fail e) := by
  rcases parseVersioned_fail_inv h with ⟨rfl, rfl, hp, rfl⟩ | ⟨rfl, rfl, hp, rfl⟩ | ⟨rfl, hp, rfl⟩ | ⟨rfl, hp, rfl⟩ |
    ⟨h5, h7, h9, h10, rfl, rfl⟩
  · exact parseVersioned_5_none hp
  · exact parseVersioned_7_none hp
  · rw [parseVersioned_9, parseV9_err c b1 b2 st st1 body hp]; rfl
  · rw [parseVersioned_10, parseIpfix_err c hw b1 b2 st st1 body hp]; rfl
  · exact parseVersioned_other h5 h7 h9 h10

theorem _root_.Netflow.Run.of_flag (c : Config) (hw : 0 < c.t.ipSetHdr.wireLen) (b1 b2 : Bool) {st st' : PState} {buf : Bytes}
    {pkts : List Packet} (h : Run (flag c b2) st buf st' pkts) (hk : KnownOnlyP c st) (hrep : ∀ p ∈ pkts, PktKnown c p) :
    Run (flag c b1) st buf st' pkts := by
  induction h with
  | nil => exact .nil _
  | @ok st st1 _ buf _ pkt _ hp _ ih =>
    obtain ⟨v, kind, hv, ha, hd, hpv⟩ := parsePacket_ok_versioned hp
    obtain ⟨e, k⟩ := parseVersioned_ok_flag c b1 b2 st st1 kind _ pkt _ hk hpv (hrep pkt List.mem_cons_self)
    exact .ok ((parsePacket_versioned (flag c b1) st hv ha hd).trans e)
      (ih k fun p hp' => hrep p (List.mem_cons_of_mem _ hp'))
  | @fail st _ buf _ hne hp =>
    refine .fail hne ?_
    rcases parsePacket_flag_cases c buf with ⟨kind, hd⟩ | ⟨step, hs⟩
    · rw [hd b2] at hp; rw [hd b1]; exact parseVersioned_fail_flag c hw b1 b2 st _ kind _ _ hp
    · rw [hs b2] at hp; rw [hs b1]; exact hp
  | @unallowed st _ buf hne hp =>
    refine .unallowed hne ?_
    rcases parsePacket_flag_cases c buf with ⟨kind, hd⟩ | ⟨step, hs⟩
    · rw [hd b2] at hp; exact absurd (congrArg Prod.snd hp) (parseVersioned_ne_unallowed _ _ _ _)
    · rw [hs b2] at hp; rw [hs b1]; exact hp

theorem parseBytes_same (c : Config) (hw : 0 < c.t.ipSetHdr.wireLen) (b1 b2 : Bool) (st : PState) (buf : Bytes) (st' : PState)
    (pkts : List Packet) (hk : KnownOnlyP c st) (h : parseBytes (flag c b2) st buf = (st', .done pkts))
    (hrep : ∀ p ∈ pkts, PktKnown c p) : parseBytes (flag c b1) st buf = (st', .done pkts) :=
  parseBytes_done_iff.2 ((parseBytes_run h).of_flag c hw b1 b2 hk hrep)

def V9Clean (c : Config) (b : V9Body) : Prop :=
  ∀ recs pad, b = .data recs pad → ∀ r ∈ recs, ∀ e ∈ r, c.t.v9Ty e.2.1 ≠ .unknown

def IpClean (c : Config) (b : IpBody) : Prop :=
  ∀ recs pad, (b = .data recs pad ∨ b = .optData recs pad) → ∀ r ∈ recs, ∀ e ∈ r, IpEntryOk c e

theorem v9ParseBody_off_clean (c : Config) (st : PState) (id : Nat) (body : Bytes) (st1 : PState) (b : V9Body)
    (h : v9ParseBody (flag c false) st id body = (st1, .ok b)) : V9Clean c b := by
  rintro recs pad rfl
  exact v9ParseBody_recs (fun fs i => v9ParseRec_off_entries c fs 0 i) h

theorem ipParseBody_off_clean (c : Config) (st : PState) (id : Nat) (body : Bytes) (st1 : PState) (b : IpBody)
    (h : ipParseBody (flag c false) st id body = (st1, .ok b)) : IpClean c b :=
  fun _ _ hb => ipParseBody_recs (fun fs i => ipParseRec_off_entries c fs 0 i) h hb

theorem parseBytesF_off_clean (c : Config) (fuel : Nat) (st : PState) (buf : Bytes) (st' : PState) (pkts : List Packet)
    (h : parseBytesF (flag c false) fuel st buf = (st', .done pkts)) : ∀ p ∈ pkts, PktAll (V9Clean c) (IpClean c) p :=
  parseBytesF_all (fun st st' id body b => v9ParseBody_off_clean c st id body st' b)
    (fun st st' id body b => ipParseBody_off_clean c st id body st' b) fuel st st' buf pkts h

theorem reports_false_pktKnown (c : Config) (pkts : List Packet)
    (h : Findings.reportsUnknownTemplate c pkts = false) : ∀ p ∈ pkts, PktKnown c p := by
  unfold Findings.reportsUnknownTemplate at h
  rw [List.any_eq_false] at h
  intro p hp
  have hp' := h p hp
  cases p with
  | v9 hd ss =>
    intro s hs ts pad hb t ht
    refine (v9Known_iff c _).1 (Bool.eq_false_iff.2 fun hu => hp' (List.any_eq_true.2 ⟨s, hs, ?_⟩))
    rw [hb]
    exact List.any_eq_true.2 ⟨t, ht, hu⟩
  | ipfix hd ss =>
    intro s hs
    constructor <;> intro t hb <;>
      refine (ipKnown_iff c _).1 (Bool.eq_false_iff.2 fun hu => hp' (List.any_eq_true.2 ⟨s, hs, ?_⟩)) <;>
      rw [hb] <;> exact hu
  | v5 _ _ => trivial
  | v7 _ _ => trivial
  | error _ _ => trivial

theorem pktClean_noUnknownEntries (c : Config) (pkts : List Packet)
    (h : ∀ p ∈ pkts, PktAll (V9Clean c) (IpClean c) p) : Findings.noUnknownEntries c pkts = true := by
  unfold Findings.noUnknownEntries
  rw [List.all_eq_true]
  intro p hp
  have hc := h p hp
  cases p with
  | v9 hd ss =>
    refine List.all_eq_true.2 fun s hs => ?_
    cases hb : s.body
    case data recs pad =>
      simp only [List.all_eq_true, bne_iff_ne, ne_eq]
      exact hc s hs recs pad hb
    all_goals rfl
  | ipfix hd ss =>
    refine List.all_eq_true.2 fun s hs => ?_
    cases hb : s.body
    case data recs pad =>
      simp only [List.all_eq_true, Bool.or_eq_true, beq_iff_eq, bne_iff_ne, ne_eq]
      exact hc s hs recs pad (Or.inl hb)
    case optData recs pad =>
      simp only [List.all_eq_true, Bool.or_eq_true, beq_iff_eq, bne_iff_ne, ne_eq]
      exact hc s hs recs pad (Or.inr hb)
    all_goals rfl
  | v5 _ _ => rfl
  | v7 _ _ => rfl
  | error _ _ => rfl

theorem toBE_flag (vc : ValueCfg) (b : Bool) (v : FieldValue) :
    FieldValue.toBE { vc with unknownFields := b } v = FieldValue.toBE vc v := by
  cases v <;> rfl

theorem exportRecs_flag (vc : ValueCfg) (b : Bool) : exportRecs { vc with unknownFields := b } = exportRecs vc := by
  have hr : exportRec { vc with unknownFields := b } = exportRec vc := by
    funext r; simp only [exportRec, toBE_flag]
  funext rs; simp only [exportRecs, hr]

theorem exportPacket_flag (c : Config) (b : Bool) (p : Packet) : exportPacket (flag c b) p = exportPacket c p := by
  have h9 : exportV9Set (flag c b).vc = exportV9Set c.vc := by
    funext s; unfold exportV9Set; cases s.body <;> simp only [exportV9Body, flag_vc, exportRecs_flag]
  have hi : exportIpSet (flag c b).vc = exportIpSet c.vc := by
    funext s; unfold exportIpSet; cases s.body <;> simp only [exportIpBody, flag_vc, exportRecs_flag]
  cases p <;> simp only [exportPacket, exportV9, exportIpfix, h9, hi]

theorem toCommon_flag (c : Config) (b : Bool) (p : Packet) : toCommon (flag c b) p = toCommon c p := by
  cases p <;> rfl

theorem v9RecLoop_unknown_off (c : Config) (fs : List TField) (hu : ∃ f ∈ fs, c.t.v9Ty (c.t.v9Field f.typ) = .unknown) :
    ∀ (n : Nat) (i : Bytes) (acc : List Rec), v9RecLoop (flag c false) fs n i acc = (acc, i) := by
  intro n
  induction n with
  | zero => intro i acc; rfl
  | succ n ih => intro i acc; rw [v9RecLoop_succ_none (v9ParseRec_unknown_off c fs hu 0 i), ih]

/-- V9, flag off: the data flowset of a template with an unknown-typed field is reported with NO
    record, its whole body as padding -/
theorem v9ParseBody_unknown_off (c : Config) (st : PState) (id : Nat) (body : Bytes) (t : V9Template)
    (h1 : id ≠ c.t.v9TemplateId) (h2 : id ≠ c.t.v9OptTemplateId) (hO : amLookup id st.v9O = none)
    (hT : amLookup id st.v9T = some t) (hu : ∃ f ∈ t.fields, c.t.v9Ty (c.t.v9Field f.typ) = .unknown) :
    v9ParseBody (flag c false) st id body =
      if v9TotalSize t.fields = 0 then (st, .err) else (st, .ok (.data [] body)) := by
  simp only [v9ParseBody, if_neg h1, if_neg h2, hO, hT]
  rw [v9RecLoop_unknown_off c t.fields hu]

theorem ipRecLoop_unknown_off (c : Config) (fs : List IpTField)
    (hu : ∃ f ∈ fs, f.ent = none ∧ c.t.ipTy (c.t.ipField f.typ) = .unknown) (n : Nat) (i : Bytes) :
    ipRecLoop (flag c false) fs (n + 1) i = .err :=
  ipRecLoop_succ_none (ipParseRec_unknown_off c fs hu 0 i) n

/-- IPFIX, flag off: the data set of a template with an unknown-typed (non-enterprise) field is a nom
    error (so `ipParseSets` stops there and the set is not reported at all) -/
theorem ipParseBody_unknown_off_t (c : Config) (st : PState) (id : Nat) (body : Bytes) (t : IpTemplate)
    (h1 : ¬ (id < c.t.ipSetMinRange ∧ id ≠ c.t.ipOptTemplateId)) (h2 : id ≠ c.t.ipOptTemplateId)
    (hT : amLookup id st.ipT = some t)
    (hu : ∃ f ∈ t.fields, f.ent = none ∧ c.t.ipTy (c.t.ipField f.typ) = .unknown) :
    ipParseBody (flag c false) st id body = (st, .err) := by
  simp only [ipParseBody, if_neg h1, if_neg h2, hT]
  rw [ipRecLoop_unknown_off c t.fields hu]
  split <;> rfl

theorem ipParseBody_unknown_off_o (c : Config) (st : PState) (id : Nat) (body : Bytes) (t : IpOptTemplate)
    (h1 : ¬ (id < c.t.ipSetMinRange ∧ id ≠ c.t.ipOptTemplateId)) (h2 : id ≠ c.t.ipOptTemplateId)
    (hT : amLookup id st.ipT = none) (hO : amLookup id st.ipO = some t)
    (hu : ∃ f ∈ t.fields, f.ent = none ∧ c.t.ipTy (c.t.ipField f.typ) = .unknown) :
    ipParseBody (flag c false) st id body = (st, .err) := by
  simp only [ipParseBody, if_neg h1, if_neg h2, hT, hO]
  rw [ipRecLoop_unknown_off c t.fields hu]
  split <;> rfl

end Netflow.B2
