/-
  Lemmas/FieldBound.lean — the size of the result WITHOUT the honesty hypothesis of the cost chain
  (Lemmas/CostLeaf, CostV9, CostIp, CostTop).  If no data template (cached or reported) has more than `M` fields (`Cost.FLe`), a set body costs
  at most `W ≥ 115 + 112·M` per byte: a record of a `k`-field template costs at most `const·k + 3·(bytes consumed)`, and the
  NUMBER of records is bounded by the bytes of the set (V9: `|body| / total_size` iterations; IPFIX: every iteration but
  the last consumes a byte, and the set header pays for the last).  The rest is `B3.run_size`.
-/
import NetflowModel.Lemmas.Copies
import NetflowModel.Lemmas.CostTop
namespace Netflow.P5
open Netflow Cost B3

theorem FLe_iff (M : Nat) (st : PState) : FLe M st = true ↔
    st.v9T.all (fun e => fleV9T M e.2) = true ∧ st.ipT.all (fun e => fleIpT M e.2) = true ∧
    st.ipO.all (fun e => fleIpO M e.2) = true := by
  simp only [FLe, Bool.and_eq_true, and_assoc]

/-- what the invariant says of the template a data set is decoded with -/
theorem FLe_lookup {M : Nat} {st : PState} (hF : FLe M st = true) :
    (∀ id t, amLookup id st.v9T = some t → t.fields.length ≤ M) ∧
    (∀ id t, amLookup id st.ipT = some t → t.fields.length ≤ M) ∧
    (∀ id t, amLookup id st.ipO = some t → t.fields.length ≤ M) := by
  obtain ⟨h1, h2, h3⟩ := (FLe_iff M st).1 hF
  exact ⟨fun id t h => of_decide_eq_true (amLookup_all (fleV9T M) id t _ h1 h),
    fun id t h => of_decide_eq_true (amLookup_all (fleIpT M) id t _ h2 h),
    fun id t h => of_decide_eq_true (amLookup_all (fleIpO M) id t _ h3 h)⟩

theorem insertV9Templates_fle (M : Nat) :
    ∀ (ts : List V9Template) (st : PState), FLe M st = true → ts.all (fleV9T M) = true →
      FLe M (insertV9Templates st ts) = true := by
  intro ts
  induction ts with
  | nil => intro st h _; exact h
  | cons t ts ih =>
    intro st h ht
    simp only [List.all_cons, Bool.and_eq_true] at ht
    simp only [insertV9Templates]
    apply ih _ _ ht.2
    rw [FLe_iff] at h ⊢
    obtain ⟨h1, h2, h3⟩ := h
    exact ⟨amInsert_all (fleV9T M) _ _ ht.1 _ h1, h2, h3⟩

theorem insertV9OptTemplates_fle (M : Nat) :
    ∀ (ts : List V9OptTemplate) (st : PState), FLe M st = true →
      FLe M (insertV9OptTemplates st ts) = true := by
  intro ts
  induction ts with
  | nil => intro st h; exact h
  | cons t ts ih =>
    intro st h
    simp only [insertV9OptTemplates]
    apply ih
    rw [FLe_iff] at h ⊢
    obtain ⟨h1, h2, h3⟩ := h
    exact ⟨amErase_all (fleV9T M) _ _ h1, h2, h3⟩

theorem v9ParseBody_cost0 (c : Config) (W M : Nat) (hW : 115 + 112 * M ≤ W) (st st' : PState) (id : Nat)
    (body : Bytes) (b : V9Body) (hF : FLe M st = true) (h : v9ParseBody c st id body = (st', .ok b))
    (hb : fleV9Body M b = true) :
    FLe M st' = true ∧ v9BodySize b ≤ W * body.length := by
  rcases v9ParseBody_ok_inv h with ⟨_, ts, pad, hm, rfl, rfl⟩ | ⟨_, _, ts, pad, hm, rfl, rfl⟩ |
    ⟨_, _, rfl, ot, ss, r, os, pad, _, hs, hl, rfl⟩ | ⟨_, _, rfl, _, t, ht, hz, rfl⟩
  · have := many0F_cost (fun t : V9Template => 32 + 8 * t.fields.length) 8 parseV9Template_cost _ _ _ _ hm
    have := Nat.mul_le_mul_right body.length (show 8 ≤ W by omega)
    exact ⟨insertV9Templates_fle M _ _ hF hb, by simp only [v9BodySize]; omega⟩
  · have := many0F_cost (fun t : V9OptTemplate => 64 + 8 * (t.scope.length + t.opts.length)) 11
      parseV9OptTemplate_cost _ _ _ _ hm
    have := Nat.mul_le_mul_right body.length (show 11 ≤ W by omega)
    exact ⟨insertV9OptTemplates_fle M _ _ hF, by simp only [v9BodySize]; omega⟩
  · have := v9ScopeLoop_cost c _ _ _ _ hs
    have := v9OptLoop_cost c _ _ _ _ hl
    have := Nat.mul_le_mul_right body.length (show 33 ≤ W by omega)
    exact ⟨hF, by simp only [v9BodySize]; omega⟩
  · -- at most `|body|` iterations, each `R = 64 + 48·M` plus 3 per byte
    have hft := (FLe_lookup hF).1 _ _ ht
    obtain ⟨R, hR⟩ : ∃ R, R = 64 + 48 * M := ⟨_, rfl⟩
    have a := v9RecLoop_size c t.fields 3 R (fun i es r h => by
      have := (v9ParseRec_bounds c _ 0 i es r h).2.2.1
      rw [recSize_eq]; omega) (body.length / v9TotalSize t.fields) body []
    simp only [List.map_nil, List.sum_nil] at a
    have a1 : R * (body.length / v9TotalSize t.fields) ≤ R * body.length :=
      Nat.mul_le_mul_left R (Nat.div_le_self _ _)
    have a2 : (R + 3) * body.length = R * body.length + 3 * body.length := Nat.add_mul _ _ _
    have a3 := Nat.mul_le_mul_right body.length (show R + 3 ≤ W by omega)
    exact ⟨hF, by simp only [v9BodySize]; omega⟩

theorem ipParseBody_cost0 (c : Config) (W M : Nat) (hW : 115 + 112 * M ≤ W) (st st' : PState) (id : Nat)
    (body : Bytes) (b : IpBody) (hF : FLe M st = true) (h : ipParseBody c st id body = (st', .ok b))
    (hb : fleIpBody M b = true) :
    FLe M st' = true ∧ ipBodySize b + 48 ≤ W * (body.length + 1) := by
  obtain ⟨hF1, hF2, hF3⟩ := (FLe_iff M st).1 hF
  rw [Nat.mul_succ]
  have h8 := Nat.mul_le_mul_right body.length (show 8 ≤ W by omega)
  rcases ipParseBody_ok_inv h with ⟨_, _, t, hp, _, rfl, rfl⟩ | ⟨_, t, hp, _, rfl, rfl⟩ |
    ⟨_, _, rfl, fs, recs, pad, _, hl, hlk⟩
  · have := parseIpTemplate_cost _ _ hp
    refine ⟨?_, by simp only [ipBodySize]; omega⟩
    rw [FLe_iff]
    exact ⟨hF1, amInsert_all (fleIpT M) _ _ hb _ hF2, amErase_all (fleIpO M) _ _ hF3⟩
  · have := parseIpOptTemplate_cost _ _ hp
    refine ⟨?_, by simp only [ipBodySize]; omega⟩
    rw [FLe_iff]
    exact ⟨hF1, amErase_all (fleIpT M) _ _ hF2, amInsert_all (fleIpO M) _ _ hb _ hF3⟩
  · have hft : fs.length ≤ M := by
      rcases hlk with ⟨t, ht, rfl, _⟩ | ⟨_, t, ht, rfl, _⟩
      · exact (FLe_lookup hF).2.1 _ _ ht
      · exact (FLe_lookup hF).2.2 _ _ ht
    obtain ⟨X, hX⟩ : ∃ X, X = 112 * M := ⟨_, rfl⟩
    obtain ⟨w, hw⟩ : ∃ w, w = X + 3 := ⟨_, rfl⟩
    have a1 := ipRecLoop_size c fs recSize 3 X w hw (fun i es r h => by
      have := (ipParseRec_bounds c _ 0 i es r h).2.2.1; omega) _ _ _ _ hl
    have a2 : pad.length ≤ w * pad.length := Nat.le_mul_of_pos_left _ (by omega)
    have a3 := Nat.mul_le_mul_right body.length (show w ≤ W by omega)
    refine ⟨hF, ?_⟩
    rcases hlk with ⟨_, _, _, rfl⟩ | ⟨_, _, _, _, rfl⟩ <;> simp only [ipBodySize] <;> omega

/-- the instance of `B3.run_size` for the field-count invariant -/
theorem run_size_fle {c : Config} (hc : costOk c.t = true) {W M : Nat} (hW : 115 + 112 * M ≤ W) {st st' : PState}
    {buf : Bytes} {pkts : List Packet} (h : Run c st buf st' pkts) (hF : FLe M st = true) (hP : FLePkts M pkts = true) :
    (pkts.map packetSize).sum ≤ W * buf.length + 160 :=
  run_size (I := fun st => FLe M st = true) (Q9 := fun b => fleV9Body M b = true) (Qi := fun b => fleIpBody M b = true)
    (QP := fun p => flePkt M p = true) hc (by omega) (v9ParseBody_cost0 c W M hW) (ipParseBody_cost0 c W M hW)
    (fun _ _ h => List.all_eq_true.1 h) (fun _ _ h => List.all_eq_true.1 h) h hF (List.all_eq_true.1 hP)

theorem lmax_le_iff {l : List Nat} {M : Nat} : lmax l ≤ M ↔ ∀ x ∈ l, x ≤ M := by
  induction l with
  | nil => simp [lmax]
  | cons y ys ih => simp only [lmax, Nat.max_le, ih, List.forall_mem_cons]

theorem all_le_of_lmax {α : Type} (f : α → Nat) (l : List α) (M : Nat) (h : lmax (l.map f) ≤ M) :
    l.all (fun a => decide (f a ≤ M)) = true := by
  simpa only [List.all_eq_true, decide_eq_true_eq, lmax_le_iff, List.forall_mem_map] using h

theorem FLe_of_max (st : PState) (M : Nat) (h : stateMaxFields st ≤ M) : FLe M st = true := by
  simp only [stateMaxFields, Nat.max_le] at h
  rw [FLe_iff]
  exact ⟨all_le_of_lmax _ _ _ h.1, all_le_of_lmax _ _ _ h.2.1, all_le_of_lmax _ _ _ h.2.2⟩

theorem fleV9Body_of_max (b : V9Body) (M : Nat) (h : v9BodyMaxFields b ≤ M) : fleV9Body M b = true := by
  cases b with
  | templates ts pad => exact all_le_of_lmax (fun t : V9Template => t.fields.length) ts M h
  | _ => rfl

theorem fleIpBody_of_max (b : IpBody) (M : Nat) (h : ipBodyMaxFields b ≤ M) : fleIpBody M b = true := by
  cases b with
  | template t => exact decide_eq_true h
  | optTemplate t => exact decide_eq_true h
  | _ => rfl

theorem flePkt_of_max (p : Packet) (M : Nat) (h : pktMaxFields p ≤ M) : flePkt M p = true := by
  cases p with
  | v9 hd ss => exact List.all_eq_true.2 fun s hs => fleV9Body_of_max _ _ (lmax_le_iff.1 h _ (List.mem_map_of_mem hs))
  | ipfix hd ss => exact List.all_eq_true.2 fun s hs => fleIpBody_of_max _ _ (lmax_le_iff.1 h _ (List.mem_map_of_mem hs))
  | _ => rfl

theorem FLePkts_of_max (pkts : List Packet) (M : Nat) (h : pktsMaxFields pkts ≤ M) : FLePkts M pkts = true :=
  List.all_eq_true.2 fun _ hp => flePkt_of_max _ _ (lmax_le_iff.1 h _ (List.mem_map_of_mem hp))

/-- `184 + (115 + 112·M)·b ≤ 184·(b + 1)·(1 + M)` -/
theorem product_arith (b M : Nat) : 184 + (115 + 112 * M) * b ≤ 184 * (b + 1) * (1 + M) := by
  have e1 : (115 + 112 * M) * b = 115 * b + 112 * (M * b) := by
    rw [Nat.add_mul, Nat.mul_assoc]
  have e2 : 184 * (b + 1) * (1 + M) = 184 * b + 184 + 184 * (M * b) + 184 * M := by
    rw [Nat.mul_add, Nat.mul_one, Nat.mul_add, Nat.mul_one, Nat.add_mul, Nat.mul_assoc, Nat.mul_comm b M]
    omega
  rw [e1, e2]
  omega

end Netflow.P5
