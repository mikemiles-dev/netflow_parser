/-
  Lemmas/FixedLayout.lean — the fixed-format (V5/V7) layouts: which bytes every field of a layout is
  decoded from, by position and in the Cisco view (`layoutWire`/`offsetOf`); the layout exporter is the
  inverse of the layout parser for well-formed layouts; closed forms of `parseFixed` on complete and
  truncated packets; `FixedV`, the two versions treated uniformly through the dispatcher; at the end,
  the C03 oracle predicate `c03ok` on a run.  The wire fields of a layout are described by
  `Spec.layoutWire` (name, width; the view the Cisco tables are compared with); `Layout.wireNames`,
  `B4.wireSpec` and `A7.wirePairs` are variants of it for one purpose each.
-/
import NetflowModel.Lemmas.Consume
import NetflowModel.Lemmas.RoundTrip
import NetflowModel.Preds
namespace Netflow

theorem beNat_foldl_a1 (bs : Bytes) (acc : Nat) :
    bs.foldl (fun acc b => acc * 256 + b.toNat) acc = acc * 256 ^ bs.length + beNat bs :=
  beNat_foldl bs acc

private theorem toBE_beNat_rev (l : Bytes) : toBE l.length (beNat l.reverse) = l.reverse := by
  simpa using toBE_beNat l.reverse

/-- decidable: the field names of a layout are pairwise distinct -/
def Layout.namesNodup (lay : Layout) : Bool := decide (lay.map (·.name)).Nodup

theorem Layout.indexOf_mid (pre : Layout) (f : LField) (fs : Layout) (h : f.name ∉ pre.map (·.name)) :
    Layout.indexOf (pre ++ f :: fs) f.name = pre.length := by
  simp [Layout.indexOf, List.idxOf_append, h]

theorem Layout.widthOf_mid (pre : Layout) (f : LField) (fs : Layout) (h : f.name ∉ pre.map (·.name)) :
    Layout.widthOf (pre ++ f :: fs) f.name = f.tw := by
  have hp : pre.find? (fun g => g.name == f.name) = none := by
    rw [List.find?_eq_none]
    intro g hg hgn
    exact h (List.mem_map.mpr ⟨g, hg, by simpa using hgn⟩)
  simp [Layout.widthOf, List.find?_append, hp]

theorem nodup_mid {pre : Layout} {f : LField} {fs : Layout}
    (h : ((pre ++ f :: fs).map (·.name)).Nodup) :
    f.name ∉ pre.map (·.name) ∧ f.name ∉ fs.map (·.name) ∧ (((pre ++ [f]) ++ fs).map (·.name)).Nodup := by
  refine ⟨?_, ?_, by simpa using h⟩
  · simp only [List.map_append, List.map_cons, List.nodup_append, List.nodup_cons] at h
    intro hm
    exact h.2.2 _ hm _ List.mem_cons_self rfl
  · simp only [List.map_append, List.map_cons, List.nodup_append, List.nodup_cons] at h
    exact h.2.1.1

theorem getD_append_length {α : Type} (a : List α) (x : α) (d : List α) (z : α) :
    (a ++ x :: d).getD a.length z = x := by
  simp [List.getD_eq_getElem?_getD]

theorem decodeFields_append (proto : Nat → Nat) : ∀ (pre post : Layout) (acc : List Nat) (i : Bytes),
    decodeFields proto (pre ++ post) acc i =
      decodeFields proto pre acc i ++
        decodeFields proto post (acc ++ decodeFields proto pre acc i) (i.drop pre.wireLen)
  | [], post, acc, i => by simp [decodeFields, Layout.wireLen_nil]
  | f :: pre, post, acc, i => by
    rw [List.cons_append, decodeFields, decodeFields_append proto pre, decodeFields, Layout.wireLen_cons,
      List.drop_drop, List.cons_append, List.append_assoc, List.singleton_append]

/-- the value at position `pre.length` of `pre ++ f :: fs` is decoded from the bytes behind those
    of `pre`, with the values of `pre` as context -/
theorem parseLayout_getD_mid {proto : Nat → Nat} {pre : Layout} {f : LField} {fs : Layout}
    {i : Bytes} {vals : List Nat} {r : Bytes} (h : parseLayout proto (pre ++ f :: fs) i = some (vals, r)) :
    vals.getD pre.length 0 = fieldVal proto f (vals.take pre.length) (i.drop pre.wireLen) ∧
    vals.take pre.length = decodeFields proto pre [] i := by
  obtain ⟨_, rfl, _⟩ := parseLayout_eq_some_iff.mp h
  have hl := decodeFields_length proto pre [] i
  rw [decodeFields_append, decodeFields, List.nil_append, ← hl, getD_append_length, List.take_left' rfl]
  exact ⟨rfl, rfl⟩

theorem parseLayout_getD (proto : Nat → Nat) (lay : Layout) (i : Bytes) (vals : List Nat) (r : Bytes)
    (h : parseLayout proto lay i = some (vals, r)) (j : Nat) (hj : j < lay.length) :
    vals.getD j 0 = fieldVal proto lay[j] (vals.take j) (i.drop (Layout.wireLen (lay.take j))) := by
  have e : lay = lay.take j ++ lay[j] :: lay.drop (j + 1) := by rw [List.getElem_cons_drop, List.take_append_drop]
  have hl : (lay.take j).length = j := by rw [List.length_take]; omega
  have := (parseLayout_getD_mid (pre := lay.take j) (f := lay[j]) (fs := lay.drop (j + 1)) (by rw [← e]; exact h)).1
  rwa [hl] at this

theorem Layout.get_getElem (lay : Layout) (hnd : lay.namesNodup = true) (j : Nat) (hj : j < lay.length)
    (vals : List Nat) : lay.get lay[j].name vals = vals.getD j 0 := by
  have := List.Nodup.idxOf_getElem (of_decide_eq_true hnd) j (by simpa using hj)
  rw [List.getElem_map] at this
  rw [Layout.get, Layout.indexOf, this]

theorem parseLayout_get_protoOf (proto : Nat → Nat) (lay : Layout) (hnd : lay.namesNodup = true)
    (i : Bytes) (vals : List Nat) (r : Bytes) (h : parseLayout proto lay i = some (vals, r))
    (j src : Nat) (hj : j < lay.length) (hk : lay[j].kind = .protoOf src) (hs : src < j) :
    lay.get lay[j].name vals = proto (lay.get (lay[src]'(by omega)).name vals) := by
  rw [lay.get_getElem hnd j hj, lay.get_getElem hnd src (by omega), parseLayout_getD proto lay i vals r h j hj,
    fieldVal_protoOf hk]
  simp [List.getD_eq_getElem?_getD, hs]

theorem parseLayout_get_wire (proto : Nat → Nat) (lay : Layout) (hnd : lay.namesNodup = true)
    (i : Bytes) (vals : List Nat) (r : Bytes) (h : parseLayout proto lay i = some (vals, r))
    (j w : Nat) (hj : j < lay.length) (hk : lay[j].kind = .wire w) :
    lay.get lay[j].name vals = beNat ((i.drop (Layout.wireLen (lay.take j))).take w) := by
  rw [lay.get_getElem hnd j hj, parseLayout_getD proto lay i vals r h j hj, fieldVal_wire hk]

theorem parseLayout_get_const (proto : Nat → Nat) (lay : Layout) (hnd : lay.namesNodup = true)
    (i : Bytes) (vals : List Nat) (r : Bytes) (h : parseLayout proto lay i = some (vals, r))
    (j v : Nat) (hj : j < lay.length) (hk : lay[j].kind = .const v) :
    lay.get lay[j].name vals = v := by
  rw [lay.get_getElem hnd j hj, parseLayout_getD proto lay i vals r h j hj, fieldVal_const hk]

theorem parseLayout_length (proto : Nat → Nat) (lay : Layout) (i : Bytes) (vals : List Nat) (r : Bytes)
    (hp : parseLayout proto lay i = some (vals, r)) : vals.length = lay.length := by
  rw [(parseLayout_eq_some_iff.mp hp).2.1, decodeFields_length]

theorem parseLayout_of_le (proto : Nat → Nat) (lay : Layout) (i : Bytes) (h : lay.wireLen ≤ i.length) :
    ∃ vals, parseLayout proto lay i = some (vals, i.drop lay.wireLen) :=
  ⟨_, by rw [parseLayout_eq, if_pos h]⟩

theorem countP_getElem {α : Type} {p : P α} {n : Nat} (hc : Consumes p n) :
    ∀ (k : Nat) (i : Bytes) (as : List α) (r : Bytes), countP p k i = some (as, r) →
      ∀ (j : Nat) (hj : j < as.length), ∃ r', p (i.drop (n * j)) = some (as[j], r') := by
  refine countP_rec (fun b as _ => ∀ (j : Nat) (hj : j < as.length), ∃ r', p (b.drop (n * j)) = some (as[j], r'))
    (fun b j hj => absurd hj (Nat.not_lt_zero j)) ?_
  intro b a r1 as' _ hp ih j hj
  cases j with
  | zero => exact ⟨r1, by simpa using hp⟩
  | succ j =>
    obtain ⟨r', hr'⟩ := ih j (by simpa using hj)
    rw [(hc b a r1 hp).2, List.drop_drop] at hr'
    exact ⟨r', by simpa [Nat.mul_succ, Nat.add_comm] using hr'⟩

theorem countP_isSome {α : Type} {p : P α} {n : Nat}
    (hp : ∀ i : Bytes, n ≤ i.length → ∃ a, p i = some (a, i.drop n)) :
    ∀ (k : Nat) (i : Bytes), n * k ≤ i.length → ∃ as, countP p k i = some (as, i.drop (n * k))
  | 0, i, _ => ⟨[], by simp [countP]⟩
  | k + 1, i, h => by
    rw [Nat.mul_succ] at h
    obtain ⟨a, ha⟩ := hp i (by omega)
    obtain ⟨as, has⟩ := countP_isSome hp k (i.drop n) (by rw [List.length_drop]; omega)
    exact ⟨a :: as, by simp only [countP, ha, has, List.drop_drop, Nat.mul_succ, Nat.add_comm]⟩

/-- a field of a record-style layout: no injected constant, wire fields emitted at their wire width -/
def LField.plain (f : LField) : Bool :=
  match f.kind with
  | .wire w => f.tw == w
  | .const _ => false
  | .protoOf _ => true

/-- record layout: plain fields with distinct names -/
def Layout.recWf (lay : Layout) : Bool := lay.all LField.plain && lay.namesNodup

/-- header layout: the injected 2-byte version constant `ver` first, then plain fields, distinct names -/
def Layout.hdrWf (ver : Nat) : Layout → Bool
  | f0 :: rest => f0.kind == .const ver && f0.tw == 2 && rest.all LField.plain && Layout.namesNodup (f0 :: rest)
  | [] => false

theorem Layout.recWf_iff {lay : Layout} :
    lay.recWf = true ↔ lay.all LField.plain = true ∧ (lay.map (·.name)).Nodup := by
  simp [Layout.recWf, Layout.namesNodup]

theorem Layout.hdrWf_inv {ver : Nat} {lay : Layout} (h : lay.hdrWf ver = true) :
    ∃ f0 rest, lay = f0 :: rest ∧ f0.kind = .const ver ∧ f0.tw = 2 ∧ rest.all LField.plain = true ∧
      ((f0 :: rest).map (·.name)).Nodup := by
  cases lay with
  | nil => simp [Layout.hdrWf] at h
  | cons f0 rest =>
    simp only [Layout.hdrWf, Layout.namesNodup, Bool.and_eq_true, decide_eq_true_eq, beq_iff_eq] at h
    exact ⟨f0, rest, rfl, h.1.1.1, h.1.1.2, h.1.2, h.2⟩

theorem layoutWire_append (a b : Layout) : Spec.layoutWire (a ++ b) = Spec.layoutWire a ++ Spec.layoutWire b :=
  List.filterMap_append

theorem layoutWire_cons_wire {f : LField} {w : Nat} (fs : Layout) (hk : f.kind = .wire w) :
    Spec.layoutWire (f :: fs) = (f.name, w) :: Spec.layoutWire fs := by
  simp [Spec.layoutWire, hk]

theorem layoutWire_cons_const {f : LField} {v : Nat} (fs : Layout) (hk : f.kind = .const v) :
    Spec.layoutWire (f :: fs) = (f.name, f.tw) :: Spec.layoutWire fs := by
  simp [Spec.layoutWire, hk]

theorem layoutWire_cons_proto {f : LField} {s : Nat} (fs : Layout) (hk : f.kind = .protoOf s) :
    Spec.layoutWire (f :: fs) = Spec.layoutWire fs := by
  simp [Spec.layoutWire, hk]

theorem mem_layoutWire_name {lay : Layout} {p : String × Nat} (h : p ∈ Spec.layoutWire lay) :
    p.1 ∈ lay.map (·.name) := by
  simp only [Spec.layoutWire, List.mem_filterMap] at h
  obtain ⟨f, hf, hp⟩ := h
  refine List.mem_map.mpr ⟨f, hf, ?_⟩
  cases hk : f.kind <;> simp only [hk, Option.some.injEq, reduceCtorEq] at hp <;> rw [← hp]

theorem mem_layoutWire_plain {lay : Layout} (hpl : lay.all LField.plain = true) {p : String × Nat}
    (h : p ∈ Spec.layoutWire lay) :
    ∃ pre f fs, lay = pre ++ f :: fs ∧ f.kind = .wire p.2 ∧ f.name = p.1 := by
  simp only [Spec.layoutWire, List.mem_filterMap] at h
  obtain ⟨f, hf, hp⟩ := h
  obtain ⟨pre, fs, e⟩ := List.append_of_mem hf
  have hpf : f.plain = true := List.all_eq_true.mp hpl f hf
  cases hk : f.kind with
  | wire w => simp only [hk, Option.some.injEq] at hp; subst hp; exact ⟨pre, f, fs, e, hk, rfl⟩
  | const v => simp [LField.plain, hk] at hpf
  | protoOf s => simp [hk] at hp

theorem offsetOf_mid (A B : List (String × Nat)) (n : String) (w : Nat) (h : n ∉ A.map (·.1)) :
    Spec.offsetOf (A ++ (n, w) :: B) n = Spec.totalLen A := by
  have : (A ++ (n, w) :: B).takeWhile (fun p => p.1 != n) = A := by
    rw [List.takeWhile_append_of_pos (fun p hp => by simpa using fun e => h (List.mem_map.mpr ⟨p, hp, e⟩))]
    simp [List.takeWhile]
  rw [Spec.offsetOf, this, Spec.totalLen]

theorem offsetOf_cons_self (n : String) (w : Nat) (S : List (String × Nat)) : Spec.offsetOf ((n, w) :: S) n = 0 :=
  offsetOf_mid [] S n w List.not_mem_nil

theorem totalLen_layoutWire (lay : Layout) (hpl : lay.all LField.plain = true) :
    Spec.totalLen (Spec.layoutWire lay) = lay.wireLen := by
  induction lay with
  | nil => rfl
  | cons f fs ih =>
    simp only [List.all_cons, Bool.and_eq_true] at hpl
    have := ih hpl.2
    rw [Layout.wireLen_cons]
    cases hk : f.kind with
    | wire w =>
      rw [layoutWire_cons_wire fs hk]
      simp only [Spec.totalLen, List.map_cons, List.sum_cons, FKind.width] at *
      omega
    | const v => simp [LField.plain, hk] at hpl
    | protoOf s =>
      rw [layoutWire_cons_proto fs hk]
      simp only [FKind.width]
      omega

/-- a wire field of a layout with distinct names: decoded from the bytes behind its predecessors, and
    its Cisco offset is the Cisco length of its predecessors -/
theorem parseLayout_get_mid {proto : Nat → Nat} {pre : Layout} {f : LField} {fs : Layout} {w : Nat}
    (hnd : ((pre ++ f :: fs).map (·.name)).Nodup) (hk : f.kind = .wire w) {i : Bytes} {vals : List Nat} {r : Bytes}
    (h : parseLayout proto (pre ++ f :: fs) i = some (vals, r)) :
    (pre ++ f :: fs).get f.name vals = beNat ((i.drop pre.wireLen).take w) ∧
    Spec.offsetOf (Spec.layoutWire (pre ++ f :: fs)) f.name = Spec.totalLen (Spec.layoutWire pre) := by
  have hn := (nodup_mid hnd).1
  constructor
  · rw [Layout.get, Layout.indexOf_mid pre f fs hn, (parseLayout_getD_mid h).1, fieldVal_wire hk]
  · rw [layoutWire_append, layoutWire_cons_wire fs hk]
    refine offsetOf_mid _ _ _ _ fun hm => ?_
    obtain ⟨p, hp, e⟩ := List.mem_map.mp hm
    exact hn (e ▸ mem_layoutWire_name hp)

theorem totalLen_layoutWire_hdr {ver : Nat} {f0 : LField} {pre : Layout} (hk : f0.kind = .const ver) (htw : f0.tw = 2)
    (hpl : pre.all LField.plain = true) :
    Spec.totalLen (Spec.layoutWire (f0 :: pre)) = 2 + Layout.wireLen (f0 :: pre) := by
  have := totalLen_layoutWire pre hpl
  rw [layoutWire_cons_const pre hk, Layout.wireLen_cons, hk, htw]
  simp only [Spec.totalLen, List.map_cons, List.sum_cons, FKind.width] at *
  omega

theorem parseLayout_rec_fieldsAt (proto : Nat → Nat) (lay : Layout) (hwf : lay.recWf = true)
    (i : Bytes) (vals : List Nat) (r : Bytes) (hp : parseLayout proto lay i = some (vals, r)) :
    Preds.fieldsAtOffsets lay (Spec.layoutWire lay) i vals = true := by
  obtain ⟨hpl, hnd⟩ := Layout.recWf_iff.mp hwf
  simp only [Preds.fieldsAtOffsets, List.all_eq_true, beq_iff_eq]
  intro ⟨n, w⟩ hpm
  obtain ⟨pre, f, fs, rfl, hk, rfl⟩ := mem_layoutWire_plain hpl hpm
  obtain ⟨h1, h2⟩ := parseLayout_get_mid hnd hk hp
  rw [List.all_append, Bool.and_eq_true] at hpl
  rw [h1, h2, totalLen_layoutWire pre hpl.1]

/-- a header layout decodes every Cisco field from its Cisco offset in the buffer that still
    contains the 2-byte version word (which the dispatcher consumed and the parser re-injects) -/
theorem parseLayout_hdr_fieldsAt (proto : Nat → Nat) (ver : Nat) (lay : Layout) (hwf : lay.hdrWf ver = true)
    (buf : Bytes) (h : List Nat) (r : Bytes) (hv : beNat (buf.take 2) = ver)
    (hp : parseLayout proto lay (buf.drop 2) = some (h, r)) :
    Preds.fieldsAtOffsets lay (Spec.layoutWire lay) buf h = true := by
  obtain ⟨f0, rest, rfl, hk, htw, hpl, hnd⟩ := Layout.hdrWf_inv hwf
  have hlw := layoutWire_cons_const rest hk
  simp only [Preds.fieldsAtOffsets, List.all_eq_true, beq_iff_eq]
  intro ⟨n, w⟩ hpm
  rw [hlw] at hpm
  rcases List.mem_cons.mp hpm with e | hpm
  · have h0 : h.getD 0 0 = _ := (parseLayout_getD_mid (pre := []) hp).1
    have hi : Layout.indexOf (f0 :: rest) f0.name = 0 := Layout.indexOf_mid [] f0 rest List.not_mem_nil
    simp only [Prod.mk.injEq] at e
    rw [e.1, e.2, hlw, offsetOf_cons_self, htw, List.drop_zero, hv, Layout.get, hi, h0, fieldVal_const hk]
  · obtain ⟨pre, f, fs, rfl, hkf, rfl⟩ := mem_layoutWire_plain hpl hpm
    obtain ⟨h1, h2⟩ := parseLayout_get_mid (pre := f0 :: pre) hnd hkf hp
    rw [List.all_append, Bool.and_eq_true] at hpl
    rw [List.cons_append] at h1 h2
    rw [h1, h2, totalLen_layoutWire_hdr hk htw hpl.1, List.drop_drop]

/-- the `protocol_type` field is computed from the `protocol_number` field, a 1-byte wire field in front of it -/
def Layout.protoLinked (lay : Layout) : Bool :=
  decide (lay.indexOf "protocol_number" < lay.indexOf "protocol_type") &&
  ((lay[lay.indexOf "protocol_type"]?).map (·.kind) == some (.protoOf (lay.indexOf "protocol_number"))) &&
  ((lay[lay.indexOf "protocol_number"]?).map (·.kind) == some (.wire 1))

theorem parseLayout_protoLinked (proto : Nat → Nat) (lay : Layout) (hl : lay.protoLinked = true)
    (i : Bytes) (vals : List Nat) (r : Bytes) (hp : parseLayout proto lay i = some (vals, r)) :
    lay.get "protocol_type" vals = proto (lay.get "protocol_number" vals) ∧ lay.get "protocol_number" vals < 256 := by
  simp only [Layout.protoLinked, Bool.and_eq_true, decide_eq_true_eq, beq_iff_eq, Option.map_eq_some_iff,
    List.getElem?_eq_some_iff] at hl
  obtain ⟨⟨hlt, ft, ⟨hjt, rfl⟩, htk⟩, fn, ⟨hjn, rfl⟩, hnk⟩ := hl
  have h1 := parseLayout_getD proto lay i vals r hp _ hjt
  have h2 := parseLayout_getD proto lay i vals r hp _ hjn
  rw [fieldVal_protoOf htk] at h1
  rw [fieldVal_wire hnk] at h2
  have h3 : (vals.take (lay.indexOf "protocol_type")).getD (lay.indexOf "protocol_number") 0 =
      vals.getD (lay.indexOf "protocol_number") 0 := by simp [List.getD_eq_getElem?_getD, hlt]
  refine ⟨by rw [Layout.get, Layout.get, h1, h3], ?_⟩
  rw [Layout.get, h2]
  have := beNat_lt ((i.drop (Layout.wireLen (lay.take (lay.indexOf "protocol_number")))).take 1)
  have : (256 : Nat) ^ ((i.drop (Layout.wireLen (lay.take (lay.indexOf "protocol_number")))).take 1).length ≤ 256 ^ 1 :=
    Nat.pow_le_pow_right (by omega) (by rw [List.length_take]; omega)
  omega

/-- a field that `to_be_bytes` emits: it has a size and is not a value computed from another field -/
def LField.exportable (f : LField) : Bool :=
  f.tw != 0 && (match f.kind with | .protoOf _ => false | _ => true)

/-- the emission order a faithful exporter must use: the byte-carrying fields in wire order -/
def Layout.exportNames (lay : Layout) : List String := (lay.filter LField.exportable).map (·.name)

/-- bytes emitted for the fields of `lay`, looked up by name in the whole struct layout `L` -/
def exportPart (L lay : Layout) (vals : List Nat) : Bytes :=
  lay.exportNames.flatMap fun n => toBE (L.widthOf n) (L.get n vals)

theorem exportPart_nil (L : Layout) (vals : List Nat) : exportPart L [] vals = [] := rfl

theorem exportPart_cons_mid (pre : Layout) (f : LField) (fs : Layout) (vals : List Nat) (hn : f.name ∉ pre.map (·.name)) :
    exportPart (pre ++ f :: fs) (f :: fs) vals =
      (if f.exportable then toBE f.tw (vals.getD pre.length 0) else []) ++ exportPart (pre ++ f :: fs) fs vals := by
  cases h : f.exportable <;>
    simp [exportPart, Layout.exportNames, h, Layout.widthOf_mid pre f fs hn, Layout.get, Layout.indexOf_mid pre f fs hn]

theorem emit_plain {f : LField} (hpl : f.plain = true) (x : Nat) :
    (if f.exportable then toBE f.tw x else []) = toBE f.kind.width x := by
  unfold LField.plain at hpl
  unfold LField.exportable
  cases hk : f.kind with
  | wire w =>
    rw [hk, beq_iff_eq] at hpl
    cases w with
    | zero => simp [hpl, FKind.width, toBE]
    | succ w => simp [hpl, FKind.width]
  | const v => simp [hk] at hpl
  | protoOf s => simp [FKind.width, toBE]

theorem toBE_fieldVal {proto : Nat → Nat} {f : LField} {acc : List Nat} {i : Bytes} (hpl : f.plain = true)
    (h : f.kind.width ≤ i.length) : toBE f.kind.width (fieldVal proto f acc i) = i.take f.kind.width := by
  unfold LField.plain at hpl
  cases hk : f.kind with
  | wire w =>
    rw [hk, FKind.width] at h
    rw [fieldVal_wire hk, FKind.width]
    exact toBE_beNat_of_length (by rw [List.length_take]; omega)
  | const v => simp [hk] at hpl
  | protoOf s => simp [FKind.width, toBE]

/-- what a layout can decode field `f` to, `acc` being the values of the fields before it: a wire value fits
    its width, a constant is the constant, a computed field is `proto` of its source -/
def fieldFits (proto : Nat → Nat) (f : LField) (acc : List Nat) (v : Nat) : Bool :=
  match f.kind with
  | .wire w => decide (v < 256 ^ w)
  | .const c => v == c
  | .protoOf s => v == proto (acc.getD s 0)

/-- values that a layout can decode to: as many as fields, every wire value fits its width, constants
    carry the constant, computed fields carry `proto` of their source (checked left to right with
    the values accepted so far in `acc`) -/
def wfFields (proto : Nat → Nat) : Layout → List Nat → List Nat → Bool
  | [], _, [] => true
  | f :: fs, acc, v :: vs =>
    (match f.kind with
     | .wire w => decide (v < 256 ^ w)
     | .const c => v == c
     | .protoOf s => v == proto (acc.getD s 0)) && wfFields proto fs (acc ++ [v]) vs
  | _, _, _ => false

theorem wfFields_cons (proto : Nat → Nat) (f : LField) (fs : Layout) (acc : List Nat) (v : Nat) (vs : List Nat) :
    wfFields proto (f :: fs) acc (v :: vs) = (fieldFits proto f acc v && wfFields proto fs (acc ++ [v]) vs) := rfl

theorem fieldFits_fieldVal (proto : Nat → Nat) (f : LField) (acc : List Nat) (i : Bytes) (h : f.kind.width ≤ i.length) :
    fieldFits proto f acc (fieldVal proto f acc i) = true := by
  unfold fieldFits fieldVal
  cases hk : f.kind with
  | wire w =>
    have := beNat_lt (i.take w)
    rw [hk, FKind.width] at h
    rw [List.length_take, Nat.min_eq_left h] at this
    simpa using this
  | const v => simp
  | protoOf s => simp

theorem fieldVal_toBE {proto : Nat → Nat} {f : LField} {acc : List Nat} {v : Nat} (h : fieldFits proto f acc v = true)
    (t : Bytes) : fieldVal proto f acc (toBE f.kind.width v ++ t) = v := by
  unfold fieldFits at h
  unfold fieldVal
  cases hk : f.kind with
  | wire w =>
    rw [hk, decide_eq_true_eq] at h
    simp only [FKind.width, List.take_left' (toBE_length w v), beNat_toBE_of_lt h]
  | const c => rw [hk, beq_iff_eq] at h; exact h.symm
  | protoOf s => rw [hk, beq_iff_eq] at h; exact h.symm

theorem wfFields_decodeFields (proto : Nat → Nat) : ∀ (lay : Layout) (acc : List Nat) (i : Bytes),
    lay.wireLen ≤ i.length → wfFields proto lay acc (decodeFields proto lay acc i) = true
  | [], _, _, _ => rfl
  | f :: fs, acc, i, h => by
    rw [Layout.wireLen_cons] at h
    rw [decodeFields, wfFields_cons, fieldFits_fieldVal proto f acc i (by omega),
      wfFields_decodeFields proto fs _ _ (by rw [List.length_drop]; omega)]
    rfl

theorem wfFields_of_parseLayout (proto : Nat → Nat) (lay : Layout) (i : Bytes) (vals : List Nat) (r : Bytes)
    (h : parseLayout proto lay i = some (vals, r)) : wfFields proto lay [] vals = true := by
  obtain ⟨hl, rfl, _⟩ := parseLayout_eq_some_iff.mp h
  exact wfFields_decodeFields proto lay [] i hl

/-- export ∘ parse: the plain fields of `lay` re-export exactly the bytes they were decoded from -/
theorem exportPart_decodeFields (proto : Nat → Nat) :
    ∀ (lay pre : Layout) (acc : List Nat) (i : Bytes),
      ((pre ++ lay).map (·.name)).Nodup → acc.length = pre.length → lay.all LField.plain = true →
      lay.wireLen ≤ i.length →
      exportPart (pre ++ lay) lay (acc ++ decodeFields proto lay acc i) = i.take lay.wireLen
  | [], _, _, _, _, _, _, _ => by simp [exportPart_nil, Layout.wireLen_nil]
  | f :: fs, pre, acc, i, hnd, hlen, hpl, hl => by
    obtain ⟨hn, _, hnd'⟩ := nodup_mid hnd
    rw [List.all_cons, Bool.and_eq_true] at hpl
    rw [Layout.wireLen_cons] at hl ⊢
    have ih := exportPart_decodeFields proto fs (pre ++ [f]) (acc ++ [fieldVal proto f acc i]) (i.drop f.kind.width)
      hnd' (by simp [hlen]) hpl.2 (by rw [List.length_drop]; omega)
    rw [List.append_assoc, List.singleton_append, List.append_assoc, List.singleton_append] at ih
    rw [decodeFields, exportPart_cons_mid pre f fs _ hn, emit_plain hpl.1, ih, ← hlen, getD_append_length, List.take_add]
    rw [toBE_fieldVal hpl.1 (by omega)]

/-- parse ∘ export: the bytes emitted for well-formed values decode to exactly those values,
    leaving whatever follows untouched -/
theorem parseFields_exportPart (proto : Nat → Nat) :
    ∀ (lay pre : Layout) (acc vs : List Nat) (tail : Bytes),
      ((pre ++ lay).map (·.name)).Nodup → acc.length = pre.length → lay.all LField.plain = true →
      wfFields proto lay acc vs = true →
      parseFields proto lay acc (exportPart (pre ++ lay) lay (acc ++ vs) ++ tail) = some (acc ++ vs, tail)
  | [], _, _, [], _, _, _, _, _ => by simp [parseFields, exportPart_nil]
  | [], _, _, _ :: _, _, _, _, _, h => by simp [wfFields] at h
  | _ :: _, _, _, [], _, _, _, _, h => by simp [wfFields] at h
  | f :: fs, pre, acc, v :: vs, tail, hnd, hlen, hpl, hwf => by
    obtain ⟨hn, _, hnd'⟩ := nodup_mid hnd
    rw [List.all_cons, Bool.and_eq_true] at hpl
    rw [wfFields_cons, Bool.and_eq_true] at hwf
    have ih := parseFields_exportPart proto fs (pre ++ [f]) (acc ++ [v]) vs tail hnd' (by simp [hlen]) hpl.2 hwf.2
    rw [List.append_assoc, List.singleton_append, List.append_assoc, List.singleton_append] at ih
    rw [exportPart_cons_mid pre f fs _ hn, emit_plain hpl.1, ← hlen, getD_append_length, List.append_assoc,
      parseFields_cons, if_pos (by rw [List.length_append, toBE_length]; omega), fieldVal_toBE hwf.1,
      List.drop_left' (toBE_length _ v), ih]

theorem parseLayout_export_rec (proto : Nat → Nat) (lay : Layout) (hwf : lay.recWf = true)
    (vs : List Nat) (hv : wfFields proto lay [] vs = true) (tail : Bytes) :
    parseLayout proto lay (exportByOrder lay lay.exportNames vs ++ tail) = some (vs, tail) :=
  have ⟨hpl, hnd⟩ := Layout.recWf_iff.mp hwf
  parseFields_exportPart proto lay [] [] vs tail hnd rfl hpl hv

theorem export_parseLayout_rec (proto : Nat → Nat) (lay : Layout) (hwf : lay.recWf = true)
    (i : Bytes) (vals : List Nat) (r : Bytes) (hp : parseLayout proto lay i = some (vals, r)) :
    exportByOrder lay lay.exportNames vals = i.take lay.wireLen := by
  obtain ⟨hpl, hnd⟩ := Layout.recWf_iff.mp hwf
  obtain ⟨hl, rfl, _⟩ := parseLayout_eq_some_iff.mp hp
  exact exportPart_decodeFields proto lay [] [] i hnd rfl hpl hl

theorem exportByOrder_hdr {ver : Nat} {f0 : LField} {rest : Layout} (hk : f0.kind = .const ver) (htw : f0.tw = 2)
    (h : List Nat) :
    exportByOrder (f0 :: rest) (Layout.exportNames (f0 :: rest)) h =
      toBE 2 (h.getD 0 0) ++ exportPart (f0 :: rest) rest h := by
  have : exportPart (f0 :: rest) (f0 :: rest) h = _ ++ _ := exportPart_cons_mid [] f0 rest h List.not_mem_nil
  rwa [if_pos (by simp [LField.exportable, htw, hk]), htw] at this

theorem decodeFields_hdr (proto : Nat → Nat) {ver : Nat} {f0 : LField} (rest : Layout) (hk : f0.kind = .const ver)
    (i : Bytes) : decodeFields proto (f0 :: rest) [] i = ver :: decodeFields proto rest [ver] i := by
  rw [decodeFields, fieldVal_const hk, hk]; rfl

/-- export ∘ parse for a header layout: the injected version constant re-exports the two version
    bytes the dispatcher consumed, because `toBE 2 (beNat x) = x` -/
theorem export_parseLayout_hdr (proto : Nat → Nat) (ver : Nat) (lay : Layout) (hwf : lay.hdrWf ver = true)
    (buf : Bytes) (h : List Nat) (r : Bytes) (hl : 2 ≤ buf.length) (hv : beNat (buf.take 2) = ver)
    (hp : parseLayout proto lay (buf.drop 2) = some (h, r)) :
    exportByOrder lay lay.exportNames h = buf.take (2 + lay.wireLen) := by
  obtain ⟨f0, rest, rfl, hk, htw, hpl, hnd⟩ := Layout.hdrWf_inv hwf
  obtain ⟨hlen, rfl, _⟩ := parseLayout_eq_some_iff.mp hp
  simp only [Layout.wireLen_cons, hk, FKind.width, Nat.zero_add] at hlen ⊢
  have e : exportPart (f0 :: rest) rest (ver :: decodeFields proto rest [ver] (buf.drop 2)) = _ :=
    exportPart_decodeFields proto rest [f0] [ver] _ hnd rfl hpl hlen
  rw [exportByOrder_hdr hk htw, decodeFields_hdr proto rest hk, List.getD_cons_zero, e, ← hv,
    toBE_beNat_of_length (by rw [List.length_take]; omega), List.take_add]

theorem parseLayout_export_hdr (proto : Nat → Nat) (ver : Nat) (lay : Layout) (hwf : lay.hdrWf ver = true)
    (h : List Nat) (hv : wfFields proto lay [] h = true) (tail : Bytes) :
    parseLayout proto lay ((exportByOrder lay lay.exportNames h ++ tail).drop 2) = some (h, tail) := by
  obtain ⟨f0, rest, rfl, hk, htw, hpl, hnd⟩ := Layout.hdrWf_inv hwf
  cases h with
  | nil => simp [wfFields] at hv
  | cons v0 hs =>
    rw [wfFields_cons, Bool.and_eq_true] at hv
    have := fieldVal_toBE hv.1 (exportPart (f0 :: rest) rest (v0 :: hs) ++ tail)
    simp only [hk, FKind.width, toBE, List.nil_append] at this
    rw [exportByOrder_hdr hk htw, List.append_assoc, List.drop_left' (toBE_length 2 _), parseLayout, parseFields_cons,
      this]
    simp only [hk, FKind.width, Nat.zero_le, if_true, List.drop_zero]
    exact parseFields_exportPart proto rest [f0] [v0] hs tail hnd rfl hpl hv.2

/-- (`NP` = no protocol name.)  `Preds.recsAtOffsets` with the protocol-NAME conjunct replaced by the model-level link
    `protocol_type = proto protocol_number` (what the crate's `ProtocolTypes::from(u8)` returns;
    whether that is the IANA name is a separate, finite question about the table) -/
def recsAtOffsetsNP (proto : Nat → Nat) (lay : Layout) (spec : List (String × Nat)) : Bytes → List (List Nat) → Bool
  | _, [] => true
  | bytes, r :: rs =>
    Preds.fieldsAtOffsets lay spec bytes r &&
    (lay.get "protocol_type" r == proto (lay.get "protocol_number" r) && decide (lay.get "protocol_number" r < 256)) &&
    r.length == lay.length &&
    recsAtOffsetsNP proto lay spec (bytes.drop (Spec.totalLen spec)) rs

/-- `Preds.fixedDecodes` with `recsAtOffsetsNP` for the records -/
def fixedDecodesNP (proto : Nat → Nat) (hdrLay recLay : Layout) (hdrSpec recSpec : List (String × Nat))
    (buf : Bytes) (h : List Nat) (rs : List (List Nat)) : Bool :=
  Preds.fieldsAtOffsets hdrLay hdrSpec buf h && h.length == hdrLay.length &&
  rs.length == hdrLay.get "count" h &&
  recsAtOffsetsNP proto recLay recSpec (buf.drop (Spec.totalLen hdrSpec)) rs

theorem recsAtOffsets_of_NP (names : List (Nat × String)) (proto : Nat → Nat) (lay : Layout) (spec : List (String × Nat)) :
    ∀ (rs : List (List Nat)) (bytes : Bytes), recsAtOffsetsNP proto lay spec bytes rs = true →
      (∀ r ∈ rs, Preds.protoIsIana names lay r = true) → Preds.recsAtOffsets names lay spec bytes rs = true
  | [], _, _, _ => rfl
  | r :: rs, bytes, h, hn => by
    simp only [recsAtOffsetsNP, Bool.and_eq_true] at h
    simp only [Preds.recsAtOffsets, Bool.and_eq_true]
    exact ⟨⟨⟨h.1.1.1, hn r List.mem_cons_self⟩, h.1.2⟩,
      recsAtOffsets_of_NP names proto lay spec rs _ h.2 fun r' hr' => hn r' (List.mem_cons_of_mem _ hr')⟩

theorem fixedDecodes_of_NP (names : List (Nat × String)) (proto : Nat → Nat) (hdrLay recLay : Layout)
    (hdrSpec recSpec : List (String × Nat)) (buf : Bytes) (h : List Nat) (rs : List (List Nat))
    (hd : fixedDecodesNP proto hdrLay recLay hdrSpec recSpec buf h rs = true)
    (hn : ∀ r ∈ rs, Preds.protoIsIana names recLay r = true) :
    Preds.fixedDecodes names hdrLay recLay hdrSpec recSpec buf h rs = true := by
  simp only [fixedDecodesNP, Bool.and_eq_true] at hd
  simp only [Preds.fixedDecodes, Bool.and_eq_true]
  exact ⟨hd.1, recsAtOffsets_of_NP names proto recLay recSpec rs _ hd.2 hn⟩

theorem recsAtOffsetsNP_getElem (proto : Nat → Nat) (lay : Layout) (spec : List (String × Nat)) :
    ∀ (rs : List (List Nat)) (bytes : Bytes), recsAtOffsetsNP proto lay spec bytes rs = true →
      ∀ (k : Nat) (hk : k < rs.length),
        Preds.fieldsAtOffsets lay spec (bytes.drop (Spec.totalLen spec * k)) rs[k] = true ∧
        lay.get "protocol_type" rs[k] = proto (lay.get "protocol_number" rs[k]) ∧
        lay.get "protocol_number" rs[k] < 256 ∧ rs[k].length = lay.length
  | [], _, _, k, hk => absurd hk (Nat.not_lt_zero k)
  | r :: rs, bytes, h, k, hk => by
    simp only [recsAtOffsetsNP, Bool.and_eq_true, beq_iff_eq, decide_eq_true_eq] at h
    cases k with
    | zero => simpa using ⟨h.1.1.1, h.1.1.2.1, h.1.1.2.2, h.1.2⟩
    | succ k =>
      have := recsAtOffsetsNP_getElem proto lay spec rs _ h.2 k (by simpa using hk)
      rw [List.drop_drop] at this
      simpa [Nat.mul_succ, Nat.add_comm] using this

/-- decidable facts about one fixed-layout version that make the decoder Cisco-faithful -/
def fixedLayoutOk (ver : Nat) (hdr rec : Layout) (hdrSpec recSpec : List (String × Nat)) : Bool :=
  hdr.hdrWf ver && rec.recWf && (Spec.layoutWire hdr == hdrSpec) && (Spec.layoutWire rec == recSpec) &&
  rec.protoLinked && hdrSpec.contains ("count", 2) && (Spec.offsetOf hdrSpec "count" == 2)

theorem fixedLayoutOk_inv {ver : Nat} {hdr rec : Layout} {hdrSpec recSpec : List (String × Nat)}
    (hok : fixedLayoutOk ver hdr rec hdrSpec recSpec = true) :
    hdr.hdrWf ver = true ∧ rec.recWf = true ∧ Spec.layoutWire hdr = hdrSpec ∧ Spec.layoutWire rec = recSpec ∧
    rec.protoLinked = true ∧ ("count", 2) ∈ hdrSpec ∧ Spec.offsetOf hdrSpec "count" = 2 ∧
    Spec.totalLen hdrSpec = 2 + hdr.wireLen ∧ Spec.totalLen recSpec = rec.wireLen := by
  simp only [fixedLayoutOk, Bool.and_eq_true, beq_iff_eq, List.contains_iff_mem] at hok
  obtain ⟨⟨⟨⟨⟨⟨hhw, hrw⟩, hhs⟩, hrs⟩, hlk⟩, hcm⟩, hco⟩ := hok
  refine ⟨hhw, hrw, hhs, hrs, hlk, hcm, hco, ?_, ?_⟩
  · obtain ⟨f0, rest, rfl, hk, htw, hpl, _⟩ := Layout.hdrWf_inv hhw
    rw [← hhs, totalLen_layoutWire_hdr hk htw hpl]
  · rw [← hrs, totalLen_layoutWire rec (Layout.recWf_iff.mp hrw).1]

theorem fieldsAt_count {hdr : Layout} {hdrSpec : List (String × Nat)} {buf : Bytes} {h : List Nat}
    (hf : Preds.fieldsAtOffsets hdr hdrSpec buf h = true) (hm : ("count", 2) ∈ hdrSpec)
    (ho : Spec.offsetOf hdrSpec "count" = 2) : hdr.get "count" h = beNat ((buf.drop 2).take 2) := by
  have := List.all_eq_true.mp hf _ hm
  rwa [ho, beq_iff_eq] at this

theorem countP_recsAtOffsetsNP (proto : Nat → Nat) (rec : Layout) (hwf : rec.recWf = true)
    (hl : rec.protoLinked = true) :
    ∀ (k : Nat) (i : Bytes) (rs : List (List Nat)) (r : Bytes), countP (parseLayout proto rec) k i = some (rs, r) →
      recsAtOffsetsNP proto rec (Spec.layoutWire rec) i rs = true := by
  refine countP_rec (fun b as _ => recsAtOffsetsNP proto rec (Spec.layoutWire rec) b as = true) (fun _ => rfl) ?_
  intro b a r1 as _ hp ih
  obtain ⟨l1, l2⟩ := parseLayout_protoLinked proto rec hl b a r1 hp
  simp only [recsAtOffsetsNP, Bool.and_eq_true, beq_iff_eq, decide_eq_true_eq]
  rw [totalLen_layoutWire rec (Layout.recWf_iff.mp hwf).1, ← (parseLayout_eq_some_iff.mp hp).2.2]
  exact ⟨⟨⟨parseLayout_rec_fieldsAt proto rec hwf b a r1 hp, l1, l2⟩, parseLayout_length proto rec b a r1 hp⟩, ih⟩

/-- **closed form of `parseFixed`, complete packet**: with `H + R * count` bytes present (`H`, `R` the
    Cisco header and record lengths), the parse succeeds, consumes exactly that many bytes (2 of them
    by the dispatcher) and the result is the Cisco decoding -/
theorem fixed_decode (c : Config) (ver : Nat) (hdr rec : Layout) (hdrSpec recSpec : List (String × Nat))
    (hok : fixedLayoutOk ver hdr rec hdrSpec recSpec = true) {H R : Nat} (hH : Spec.totalLen hdrSpec = H)
    (hR : Spec.totalLen recSpec = R) (buf : Bytes) (hv : beNat (buf.take 2) = ver)
    (hlen : H + R * beNat ((buf.drop 2).take 2) ≤ buf.length) :
    ∃ h rs, parseFixed c hdr rec (buf.drop 2) = some ((h, rs), buf.drop (H + R * beNat ((buf.drop 2).take 2))) ∧
      rs.length = beNat ((buf.drop 2).take 2) ∧
      fixedDecodesNP c.t.protoFromU8 hdr rec hdrSpec recSpec buf h rs = true := by
  obtain ⟨hhw, hrw, hhs, hrs, hlk, hcm, hco, hth, htr⟩ := fixedLayoutOk_inv hok
  rw [← hH, ← hR, hth, htr] at hlen ⊢
  obtain ⟨h, hh⟩ := parseLayout_of_le c.t.protoFromU8 hdr (buf.drop 2) (by rw [List.length_drop]; omega)
  have hfa := parseLayout_hdr_fieldsAt c.t.protoFromU8 ver hdr hhw buf h _ hv hh
  rw [hhs] at hfa
  have hcount := fieldsAt_count hfa hcm hco
  obtain ⟨rs, hc⟩ := countP_isSome (parseLayout_of_le c.t.protoFromU8 rec) (hdr.get "count" h)
    ((buf.drop 2).drop hdr.wireLen) (by rw [hcount, List.length_drop, List.length_drop]; omega)
  have hlenrs := (countP_consumes (parseLayout_consumes c.t.protoFromU8 rec) _ _ _ _ hc).2.2
  have hnp := countP_recsAtOffsetsNP c.t.protoFromU8 rec hrw hlk _ _ _ _ hc
  rw [hrs, List.drop_drop] at hnp
  refine ⟨h, rs, ?_, by rw [hlenrs, hcount], ?_⟩
  · rw [parseFixed_eq_some_iff.mpr ⟨_, hh, hc⟩, hcount, List.drop_drop, List.drop_drop, Nat.add_assoc]
  · simp only [fixedDecodesNP, Bool.and_eq_true, beq_iff_eq]
    exact ⟨⟨⟨hfa, parseLayout_length _ _ _ _ _ hh⟩, hlenrs⟩, by rw [hth]; exact hnp⟩

/-- **closed form of `parseFixed`, truncated packet**: fewer bytes than the header, or than the
    header announces, is a failure — never a packet with fewer records -/
theorem fixed_short (c : Config) (ver : Nat) (hdr rec : Layout) (hdrSpec recSpec : List (String × Nat))
    (hok : fixedLayoutOk ver hdr rec hdrSpec recSpec = true) {H R : Nat} (hH : Spec.totalLen hdrSpec = H)
    (hR : Spec.totalLen recSpec = R) (buf : Bytes) (h2 : 2 ≤ buf.length) (hv : beNat (buf.take 2) = ver)
    (hshort : buf.length < H ∨ buf.length < H + R * beNat ((buf.drop 2).take 2)) :
    parseFixed c hdr rec (buf.drop 2) = none := by
  obtain ⟨hhw, hrw, hhs, hrs, hlk, hcm, hco, hth, htr⟩ := fixedLayoutOk_inv hok
  rw [← hH, ← hR, hth, htr] at hshort
  cases hp : parseFixed c hdr rec (buf.drop 2) with
  | none => rfl
  | some x =>
    obtain ⟨⟨h, rs⟩, r⟩ := x
    obtain ⟨r1, hh, _⟩ := parseFixed_eq_some_iff.mp hp
    have hfa := parseLayout_hdr_fieldsAt c.t.protoFromU8 ver hdr hhw buf h _ hv hh
    rw [hhs] at hfa
    have hcount := fieldsAt_count hfa hcm hco
    have := (parseFixed_consumes c hdr rec _ h rs r hp).1
    rw [hcount, List.length_drop] at this
    omega

theorem export_countP (proto : Nat → Nat) (rec : Layout) (hwf : rec.recWf = true) :
    ∀ (k : Nat) (i : Bytes) (rs : List (List Nat)) (r : Bytes), countP (parseLayout proto rec) k i = some (rs, r) →
      rs.flatMap (exportByOrder rec rec.exportNames) = i.take (rec.wireLen * rs.length) := by
  refine countP_rec (fun b as _ => as.flatMap (exportByOrder rec rec.exportNames) = b.take (rec.wireLen * as.length))
    (fun _ => by simp) ?_
  intro b a r1 as _ hp ih
  rw [(parseLayout_eq_some_iff.mp hp).2.2] at ih
  rw [List.flatMap_cons, ih, export_parseLayout_rec proto rec hwf b a r1 hp, List.length_cons, Nat.mul_succ,
    Nat.add_comm (rec.wireLen * as.length), List.take_add]

/-- **export ∘ parse**: a decoded V5/V7 packet re-exports exactly the bytes it occupied
    (the two version bytes included) -/
theorem fixed_reexport (c : Config) (ver : Nat) (hdr rec : Layout) (hhw : hdr.hdrWf ver = true)
    (hrw : rec.recWf = true) (buf : Bytes) (hl2 : 2 ≤ buf.length) (hv : beNat (buf.take 2) = ver)
    (h : List Nat) (rs : List (List Nat)) (rest : Bytes)
    (hp : parseFixed c hdr rec (buf.drop 2) = some ((h, rs), rest)) :
    exportFixed hdr rec hdr.exportNames rec.exportNames h rs = buf.take (buf.length - rest.length) := by
  obtain ⟨r1, hh, hc⟩ := parseFixed_eq_some_iff.mp hp
  obtain ⟨a1, a2, a3⟩ := parseFixed_consumes c hdr rec _ h rs rest hp
  rw [List.length_drop] at a1
  have e1 := export_parseLayout_hdr c.t.protoFromU8 ver hdr hhw buf h _ hl2 hv hh
  have e2 := export_countP c.t.protoFromU8 rec hrw _ _ rs rest hc
  rw [(parseLayout_eq_some_iff.mp hh).2.2, List.drop_drop] at e2
  have hlen : buf.length - rest.length = 2 + hdr.wireLen + rec.wireLen * rs.length := by
    rw [a2, a3, List.length_drop, List.length_drop]; omega
  rw [exportFixed, e1, e2, hlen, ← List.take_add]

/-- decidable well-formedness of a V5/V7 structure w.r.t. its layouts: every header and record
    value list fits the layout (`wfFields`) and the header's `count` is the number of records -/
def fixedValsWf (proto : Nat → Nat) (hdr rec : Layout) (h : List Nat) (rs : List (List Nat)) : Bool :=
  wfFields proto hdr [] h && rs.all (wfFields proto rec []) && (hdr.get "count" h == rs.length)

/-- **parse ∘ export**: the exported bytes of a well-formed structure followed by `tail`, after the
    dispatcher took the two version bytes, decode to exactly that structure and leave `tail` -/
theorem fixed_parse_export (c : Config) (ver : Nat) (hdr rec : Layout) (hhw : hdr.hdrWf ver = true)
    (hrw : rec.recWf = true) (h : List Nat) (rs : List (List Nat))
    (hwf : fixedValsWf c.t.protoFromU8 hdr rec h rs = true) (tail : Bytes) :
    parseFixed c hdr rec ((exportFixed hdr rec hdr.exportNames rec.exportNames h rs ++ tail).drop 2) =
      some ((h, rs), tail) := by
  simp only [fixedValsWf, Bool.and_eq_true, beq_iff_eq, List.all_eq_true] at hwf
  obtain ⟨⟨hh, hr⟩, hc⟩ := hwf
  have e2 := countP_enc_map (parseLayout c.t.protoFromU8 rec) (exportByOrder rec rec.exportNames) id tail rs
    fun r hr' t => parseLayout_export_rec c.t.protoFromU8 rec hrw r (hr r hr') t
  rw [List.map_id, ← hc] at e2
  rw [exportFixed, List.append_assoc]
  exact parseFixed_eq_some_iff.mpr ⟨_, parseLayout_export_hdr c.t.protoFromU8 ver hdr hhw h hh _, e2⟩

theorem wfFields_hdr_head (proto : Nat → Nat) (ver : Nat) (hdr : Layout) (hhw : hdr.hdrWf ver = true)
    (h : List Nat) (hh : wfFields proto hdr [] h = true) : h.getD 0 0 = ver := by
  obtain ⟨f0, rest, rfl, hk, _⟩ := Layout.hdrWf_inv hhw
  cases h with
  | nil => simp [wfFields] at hh
  | cons v hs =>
    rw [wfFields_cons, Bool.and_eq_true, fieldFits, hk, beq_iff_eq] at hh
    exact hh.1

theorem beU_exportFixed (ver : Nat) (hdr rec : Layout) (hhw : hdr.hdrWf ver = true) (h : List Nat)
    (rs : List (List Nat)) (hh : h.getD 0 0 = ver) (hlt : ver < 256 ^ 2) :
    beU 2 (exportFixed hdr rec hdr.exportNames rec.exportNames h rs) =
      some (ver, (exportFixed hdr rec hdr.exportNames rec.exportNames h rs).drop 2) := by
  obtain ⟨f0, rest, rfl, hk, htw, _⟩ := Layout.hdrWf_inv hhw
  rw [exportFixed, exportByOrder_hdr hk htw, hh, List.append_assoc, beU_toBE_append _ hlt,
    List.drop_left' (toBE_length 2 ver)]

theorem fixedValsWf_of_parseFixed (c : Config) (hdr rec : Layout) (i : Bytes) (h : List Nat) (rs : List (List Nat))
    (r : Bytes) (hp : parseFixed c hdr rec i = some ((h, rs), r)) :
    fixedValsWf c.t.protoFromU8 hdr rec h rs = true := by
  obtain ⟨r1, hh, hc⟩ := parseFixed_eq_some_iff.mp hp
  simp only [fixedValsWf, Bool.and_eq_true, beq_iff_eq]
  refine ⟨⟨wfFields_of_parseLayout _ _ _ _ _ hh, ?_⟩, (parseFixed_consumes c hdr rec i h rs r hp).2.2.symm⟩
  refine countP_rec (fun _ as _ => as.all (wfFields c.t.protoFromU8 rec []) = true) (fun _ => rfl) ?_ _ _ rs r hc
  intro b a r1 as _ hpa ih
  rw [List.all_cons, wfFields_of_parseLayout _ _ _ _ _ hpa, ih]
  rfl

/-- V5 and V7 share one parser, one exporter and one dispatcher arm shape; `FixedV` indexes what differs -/
inductive FixedV where
  | v5 | v7

namespace FixedV

def ver : FixedV → Nat
  | v5 => 5 | v7 => 7
def hdrLay (t : Tables) : FixedV → Layout
  | v5 => t.v5Hdr | v7 => t.v7Hdr
def recLay (t : Tables) : FixedV → Layout
  | v5 => t.v5Rec | v7 => t.v7Rec
def hdrOrder (t : Tables) : FixedV → List String
  | v5 => t.v5HdrOrder | v7 => t.v7HdrOrder
def recOrder (t : Tables) : FixedV → List String
  | v5 => t.v5RecOrder | v7 => t.v7RecOrder
def hdrSpec : FixedV → List (String × Nat)
  | v5 => Spec.ciscoV5Hdr | v7 => Spec.ciscoV7Hdr
def recSpec : FixedV → List (String × Nat)
  | v5 => Spec.ciscoV5Rec | v7 => Spec.ciscoV7Rec
def mk : FixedV → List Nat → List (List Nat) → Packet
  | v5 => .v5 | v7 => .v7

end FixedV

/-- V5 and V7 layouts are Cisco's, well formed, and the protocol name is computed from the number -/
def Tables.ciscoOk (t : Tables) : Bool :=
  fixedLayoutOk 5 t.v5Hdr t.v5Rec Spec.ciscoV5Hdr Spec.ciscoV5Rec &&
  fixedLayoutOk 7 t.v7Hdr t.v7Rec Spec.ciscoV7Hdr Spec.ciscoV7Rec

/-- the hand-written exporters emit exactly the byte-carrying fields in wire order, and every
    `match version` arm dispatches to the parser of that version -/
def Tables.exportOk (t : Tables) : Bool :=
  t.v5Hdr.hdrWf 5 && t.v5Rec.recWf && t.v7Hdr.hdrWf 7 && t.v7Rec.recWf &&
  (t.v5HdrOrder == t.v5Hdr.exportNames) && (t.v5RecOrder == t.v5Rec.exportNames) &&
  (t.v7HdrOrder == t.v7Hdr.exportNames) && (t.v7RecOrder == t.v7Rec.exportNames) &&
  t.dispatch.all (fun p => p.1 == p.2)

theorem Tables.ciscoOk_fixed {t : Tables} (h : t.ciscoOk = true) (v : FixedV) :
    fixedLayoutOk v.ver (v.hdrLay t) (v.recLay t) v.hdrSpec v.recSpec = true := by
  simp only [Tables.ciscoOk, Bool.and_eq_true] at h
  cases v
  · exact h.1
  · exact h.2

theorem Tables.exportOk_fixed {t : Tables} (h : t.exportOk = true) (v : FixedV) :
    (v.hdrLay t).hdrWf v.ver = true ∧ (v.recLay t).recWf = true ∧ v.hdrOrder t = (v.hdrLay t).exportNames ∧
    v.recOrder t = (v.recLay t).exportNames := by
  simp only [Tables.exportOk, Bool.and_eq_true, beq_iff_eq] at h
  obtain ⟨⟨⟨⟨⟨⟨⟨⟨h5, r5⟩, h7⟩, r7⟩, o5h⟩, o5r⟩, o7h⟩, o7r⟩, _⟩ := h
  cases v
  · exact ⟨h5, r5, o5h, o5r⟩
  · exact ⟨h7, r7, o7h, o7r⟩

theorem Tables.exportOk_dispatch {t : Tables} (h : t.exportOk = true) : ∀ x ∈ t.dispatch, x.1 = x.2 := by
  simp only [Tables.exportOk, Bool.and_eq_true, List.all_eq_true, beq_iff_eq] at h
  exact h.2

theorem parseVersioned_fixed (c : Config) (st : PState) (v : FixedV) (body : Bytes) :
    parseVersioned c st v.ver body =
      match parseFixed c (v.hdrLay c.t) (v.recLay c.t) body with
      | some ((h, rs), r) => (st, .ok (v.mk h rs) r)
      | none => (st, .fail (.partialParse v.ver body)) := by
  cases v <;> simp [parseVersioned, FixedV.ver] <;> rfl

theorem parsePacket_fixed {c : Config} (st : PState) (v : FixedV) {buf body : Bytes}
    (hv : beU 2 buf = some (v.ver, body)) (ha : c.allowed.contains v.ver = true)
    (hd : c.t.dispatch.lookup v.ver = some v.ver) :
    parsePacket c st buf =
      match parseFixed c (v.hdrLay c.t) (v.recLay c.t) body with
      | some ((h, rs), r) => (st, .ok (v.mk h rs) r)
      | none => (st, .fail (.partialParse v.ver body)) := by
  rw [← parseVersioned_fixed]
  simp only [parsePacket, hv, ha, if_true, hd]

/-- `parse_packet_by_version` returned the packet `v.mk h rs`: the caches are untouched, the bytes after
    the version word went through `parseFixed`, and the version word was dispatched to the arm of `v` -/
theorem parsePacket_ok_fixed_inv {c : Config} {st st' : PState} {buf : Bytes} (v : FixedV) {h : List Nat}
    {rs : List (List Nat)} {rest : Bytes} (hp : parsePacket c st buf = (st', .ok (v.mk h rs) rest)) :
    st' = st ∧ parseFixed c (v.hdrLay c.t) (v.recLay c.t) (buf.drop 2) = some ((h, rs), rest) ∧
    ∃ w, beU 2 buf = some (w, buf.drop 2) ∧ c.t.dispatch.lookup w = some v.ver := by
  obtain ⟨w, kind, hv, _, hdk, hpv⟩ := parsePacket_ok_versioned hp
  rcases parseVersioned_ok_inv hpv with ⟨hk, hs, h', rs', hpf, e⟩ | ⟨hk, hs, h', rs', hpf, e⟩ | ⟨_, h9⟩ | ⟨_, h10⟩
  · cases v <;> cases e
    exact ⟨hs, hpf, w, hv, by rw [hdk, hk]; rfl⟩
  · cases v <;> cases e
    exact ⟨hs, hpf, w, hv, by rw [hdk, hk]; rfl⟩
  · obtain ⟨_, _, _, _, _, e⟩ := parseV9_ok_inv h9
    cases v <;> cases e
  · obtain ⟨_, _, _, _, _, _, _, e⟩ := parseIpfix_ok_inv h10
    cases v <;> cases e

/-- … and with every dispatcher arm going to the parser of its own version, the version word is that of `v` -/
theorem parsePacket_ok_fixed_ver {c : Config} (hd : ∀ x ∈ c.t.dispatch, x.1 = x.2) {st st' : PState} {buf : Bytes}
    (v : FixedV) {h : List Nat} {rs : List (List Nat)} {rest : Bytes}
    (hp : parsePacket c st buf = (st', .ok (v.mk h rs) rest)) : 2 ≤ buf.length ∧ beNat (buf.take 2) = v.ver := by
  obtain ⟨_, _, w, hv, hdk⟩ := parsePacket_ok_fixed_inv v hp
  obtain ⟨hl, hw, _⟩ := beU_some hv
  exact ⟨hl, hw ▸ hd _ (lookup_mem hdk)⟩

open Preds

/-- every V5/V7 record of the result carries the IANA name of its protocol number (decidable on
    the output; by `C03_protoName_iana_partial` it can only fail for numbers 0, 1, 144, 255) -/
def protoNamesOkPkts (c : Config) (names : List (Nat × String)) (pkts : List Packet) : Bool :=
  pkts.all fun p =>
    match p with
    | .v5 _ rs => rs.all (protoIsIana names c.t.v5Rec)
    | .v7 _ rs => rs.all (protoIsIana names c.t.v7Rec)
    | _ => true

theorem protoNamesOkPkts_fixed {c : Config} {names : List (Nat × String)} (v : FixedV) {h : List Nat}
    {rs : List (List Nat)} {ps : List Packet} (hn : protoNamesOkPkts c names (v.mk h rs :: ps) = true) :
    (∀ r ∈ rs, protoIsIana names (v.recLay c.t) r = true) ∧ protoNamesOkPkts c names ps = true := by
  rw [protoNamesOkPkts, List.all_cons, Bool.and_eq_true] at hn
  cases v <;> exact ⟨List.all_eq_true.mp hn.1, hn.2⟩

theorem protoNamesOkPkts_tail {c : Config} {names : List (Nat × String)} {p : Packet} {ps : List Packet}
    (h : protoNamesOkPkts c names (p :: ps) = true) : protoNamesOkPkts c names ps = true := by
  simp only [protoNamesOkPkts, List.all_cons, Bool.and_eq_true] at h ⊢
  exact h.2

theorem c03ok_of_no_version (c : Config) (names : List (Nat × String)) (n : Nat) (buf : Bytes) (pkts : List Packet)
    (hv : versionOf buf = none) : c03ok c names n buf pkts = true := by
  cases n with
  | zero => rfl
  | succ n => simp only [c03ok, hv]

theorem c03ok_fixed_complete (c : Config) (names : List (Nat × String)) (n : Nat) (v : FixedV) (buf : Bytes) (h : List Nat)
    (rs : List (List Nat)) (ps : List Packet) (hv : versionOf buf = some v.ver) (ha : c.allowed.contains v.ver = true)
    {H R : Nat} (hH : Spec.totalLen v.hdrSpec = H) (hR : Spec.totalLen v.recSpec = R)
    (hlen : H + R * beNat ((buf.drop 2).take 2) ≤ buf.length) :
    c03ok c names (n + 1) buf (v.mk h rs :: ps) =
      (fixedDecodes names (v.hdrLay c.t) (v.recLay c.t) v.hdrSpec v.recSpec buf h rs &&
        c03ok c names n (buf.drop (H + R * beNat ((buf.drop 2).take 2))) ps) := by
  subst hH hR
  have hn : ¬ (buf.length < Spec.totalLen v.hdrSpec ∨
      buf.length < Spec.totalLen v.hdrSpec + Spec.totalLen v.recSpec * beNat ((buf.drop 2).take 2)) := by omega
  cases v <;>
  · simp only [FixedV.ver, FixedV.hdrSpec, FixedV.recSpec, FixedV.mk, FixedV.hdrLay, FixedV.recLay] at hv ha hn ⊢
    simp only [c03ok, hv, ha]
    simp [hn]

theorem c03ok_fixed_short (c : Config) (names : List (Nat × String)) (n : Nat) (v : FixedV) (buf : Bytes) (e : ErrKind)
    (r : Bytes) (hv : versionOf buf = some v.ver) (ha : c.allowed.contains v.ver = true)
    {H R : Nat} (hH : Spec.totalLen v.hdrSpec = H) (hR : Spec.totalLen v.recSpec = R)
    (hs : buf.length < H ∨ buf.length < H + R * beNat ((buf.drop 2).take 2)) :
    c03ok c names (n + 1) buf [.error e r] = true := by
  subst hH hR
  cases v <;>
  · simp only [FixedV.ver, FixedV.hdrSpec, FixedV.recSpec] at hv ha hs ⊢
    simp only [c03ok, hv, ha]
    simp [hs]

theorem c03ok_other (c : Config) (names : List (Nat × String)) (n : Nat) (buf : Bytes) (v : Nat) (pkts : List Packet)
    (hv : versionOf buf = some v) (ha : c.allowed.contains v = true) (h5 : v ≠ 5) (h7 : v ≠ 7) :
    c03ok c names (n + 1) buf pkts =
      (match pkts with
       | p :: ps =>
         (match wireLen c p with
          | some m => if m = 0 then true else c03ok c names n (buf.drop m) ps
          | none => true)
       | [] => true) := by
  cases pkts with
  | nil => simp [c03ok, hv, h5, h7]
  | cons p ps =>
    simp only [c03ok, hv, ha, h5, h7]
    cases wireLen c p <;> simp

end Netflow
