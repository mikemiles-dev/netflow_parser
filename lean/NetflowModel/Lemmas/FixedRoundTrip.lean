/-
  Lemmas/FixedRoundTrip.lean — PRINT-THEN-PARSE for the Cisco fixed formats (V5 / V7): the bytes the
  specification writer `Spec.encFixed` produces for an abstract V5/V7 message are decoded by the
  model's layout parser into the values `Spec.expFixedVals` predicts — except that the symbolic
  protocol is `ProtocolTypes::from(n)` (`protoFromU8`) where the specification says "the variant
  carrying the IANA name" (`protoSpecDisc`).

  `Spec.expFixedVals` finds every value by NAME in the Cisco table, the parser produces them by
  POSITION.  The bridge (`parseFields_encNamed`) is one induction over an arbitrary layout whose wire
  carries, for each wire field, the value its name stands for; the two views of the four generated
  layouts then agree by decidable facts about the layouts alone (`layoutOk`, `wireSpec`).
-/
import NetflowModel.Lemmas.FixedLayout
import NetflowModel.Spec.Expected
import NetflowModel.Generated
import NetflowModel.Lemmas.GenTables
namespace Netflow.B4
open Netflow Netflow.Spec

/-- the wire fields of a layout as a Cisco-style table (name, width), in wire order -/
def wireSpec (lay : Layout) : List (String × Nat) :=
  lay.filterMap fun f => match f.kind with | .wire w => some (f.name, w) | _ => none

/-- the bytes of a struct whose field `n` holds `val n`, written field by field at the widths of `spec` -/
def encNamed (val : String → Nat) (spec : List (String × Nat)) : Bytes := spec.flatMap fun p => toBE p.2 (val p.1)

/-- the value the parser is expected to store for field `f` of layout `L`: its own value, or for a computed
    protocol field the image `pf` of the value of its source field -/
def fieldExp (pf : Nat → Nat) (val : String → Nat) (L : Layout) (f : LField) : Nat :=
  match f.kind with
  | .protoOf s => pf (val ((L.map (·.name)).getD s ""))
  | _ => val f.name

/-- the field is computed from another one and occupies no bytes -/
def FKind.computed : FKind → Bool
  | .protoOf _ => true
  | _ => false

/-- every computed field of the second layout reads a field that precedes it (`pre` = the fields already passed) and
    is not itself computed -/
def srcOk : Layout → Layout → Bool
  | _, [] => true
  | pre, f :: fs =>
    (match f.kind with
     | .protoOf s => (match pre[s]? with | some g => !FKind.computed g.kind | none => false)
     | _ => true) && srcOk (pre ++ [f]) fs

/-- print-then-parse of a layout, by field name: with `pre` the fields already decoded (the accumulator holds their
    expected values), parsing the bytes of the remaining fields `fs` yields the expected values of `pre ++ fs` -/
theorem parseFields_encNamed (proto : Nat → Nat) (val : String → Nat) (tail : Bytes) :
    ∀ (fs pre : Layout), srcOk pre fs = true → (∀ p ∈ wireSpec fs, val p.1 < 256 ^ p.2) →
      (∀ f ∈ fs, ∀ v, f.kind = .const v → val f.name = v) →
      parseFields proto fs (pre.map (fieldExp proto val (pre ++ fs))) (encNamed val (wireSpec fs) ++ tail) =
        some ((pre ++ fs).map (fieldExp proto val (pre ++ fs)), tail)
  | [], pre, _, _, _ => by simp [parseFields, wireSpec, encNamed]
  | f :: fs, pre, hs, hw, hc => by
    rw [srcOk, Bool.and_eq_true] at hs
    have ih := parseFields_encNamed proto val tail fs (pre ++ [f]) hs.2
    rw [List.append_assoc, List.singleton_append, List.map_append, List.map_singleton] at ih
    cases hk : f.kind with
    | wire w =>
      simp only [wireSpec, List.filterMap_cons, hk] at hw ⊢
      have e : fieldExp proto val (pre ++ f :: fs) f = val f.name := by rw [fieldExp, hk]
      simp only [parseFields, hk, encNamed, List.flatMap_cons, List.append_assoc,
        beU_toBE_append _ (hw _ List.mem_cons_self)]
      rw [← e]
      exact ih (fun p hp => hw p (List.mem_cons_of_mem _ hp)) fun g hg => hc g (List.mem_cons_of_mem _ hg)
    | const v =>
      simp only [wireSpec, List.filterMap_cons, hk] at hw ⊢
      have e : fieldExp proto val (pre ++ f :: fs) f = v := by rw [fieldExp, hk, hc f List.mem_cons_self v hk]
      simp only [parseFields, hk]
      rw [← e]
      exact ih hw fun g hg => hc g (List.mem_cons_of_mem _ hg)
    | protoOf s =>
      simp only [wireSpec, List.filterMap_cons, hk] at hw ⊢
      have hgc := hs.1
      rw [hk] at hgc
      cases hg : pre[s]? with
      | none => simp [hg] at hgc
      | some g =>
      simp only [hg, Bool.not_eq_true'] at hgc
      have e : fieldExp proto val (pre ++ f :: fs) f =
          proto ((pre.map (fieldExp proto val (pre ++ f :: fs))).getD s 0) := by
        have hlt : s < pre.length := (List.getElem?_eq_some_iff.mp hg).1
        have h1 : ((pre ++ f :: fs).map (·.name)).getD s "" = g.name := by
          rw [List.getD_eq_getElem?_getD, List.getElem?_map, List.getElem?_append_left hlt, hg]; rfl
        have h2 : (pre.map (fieldExp proto val (pre ++ f :: fs))).getD s 0 = val g.name := by
          rw [List.getD_eq_getElem?_getD, List.getElem?_map, hg, Option.map_some, Option.getD_some, fieldExp]
          cases hgk : g.kind with
          | protoOf _ => simp [hgk, FKind.computed] at hgc
          | wire _ => rfl
          | const _ => rfl
        rw [fieldExp, hk, h2]
        exact congrArg proto (congrArg val h1)
      simp only [parseFields, hk]
      rw [← e]
      exact ih hw fun g hg => hc g (List.mem_cons_of_mem _ hg)

theorem lookup_zip : ∀ (N : List String) (V : List Nat), N.Nodup → ∀ p ∈ N.zip V, ((N.zip V).lookup p.1).getD 0 = p.2
  | [], _, _, _, h => by simp at h
  | _ :: _, [], _, _, h => by simp at h
  | n :: N, v :: V, hN, p, h => by
    rw [List.nodup_cons] at hN
    rw [List.zip_cons_cons, List.mem_cons] at h
    rw [List.zip_cons_cons, List.lookup_cons]
    rcases h with rfl | h
    · simp
    · have : p.1 ≠ n := fun e => hN.1 (e ▸ (List.of_mem_zip h).1)
      rw [beq_false_of_ne this]
      exact lookup_zip N V hN.2 p h

theorem encNamed_eq (val : String → Nat) : ∀ (spec : List (String × Nat)) (vals : List Nat), vals.length = spec.length →
    (∀ p ∈ spec.zip vals, val p.1.1 = p.2 ∧ p.2 < 256 ^ p.1.2) →
    encNamed val spec = encByLayout spec vals ∧ ∀ p ∈ spec, val p.1 < 256 ^ p.2
  | [], [], _, _ => by simp [encNamed, encByLayout]
  | [], _ :: _, h, _ => by simp at h
  | _ :: _, [], h, _ => by simp at h
  | q :: spec, v :: vals, hl, h => by
    rw [List.zip_cons_cons] at h
    obtain ⟨e1, e2⟩ := h _ List.mem_cons_self
    obtain ⟨ih1, ih2⟩ := encNamed_eq val spec vals (by simpa using hl) fun p hp => h p (List.mem_cons_of_mem _ hp)
    simp only at e1 e2
    constructor
    · rw [encNamed, List.flatMap_cons, e1, ← encNamed, ih1, encByLayout, encByLayout, List.zip_cons_cons, List.flatMap_cons]
    · intro p hp
      rcases List.mem_cons.mp hp with rfl | hp
      · rw [e1]; exact e2
      · exact ih2 p hp

/-- `Spec.expFixedVals` with "number ↦ discriminant of the protocol variant" as a parameter -/
def expFixedValsP (pf : Nat → Nat) (lay : Layout) (spec : List (String × Nat)) (version count : Nat) (vals : List Nat) : List Nat :=
  let named : List (String × Nat) := ("version", version) :: ("count", count) :: (spec.map (·.1)).zip vals
  lay.map fun f =>
    match f.kind with
    | .protoOf src => pf ((named.lookup ((lay.map (·.name)).getD src "")).getD 0)
    | _ => (named.lookup f.name).getD 0

theorem expFixedVals_eq (names : List (Nat × String)) (lay : Layout) (spec : List (String × Nat)) (version count : Nat)
    (vals : List Nat) :
    expFixedVals names lay spec version count vals = expFixedValsP (protoSpecDisc names) lay spec version count vals := rfl

/-- as many values as the Cisco table has fields, each within its field width -/
def fitsSpec (spec : List (String × Nat)) (vals : List Nat) : Bool :=
  vals.length == spec.length && (spec.zip vals).all (fun p => decide (p.2 < 256 ^ p.1.2))

/-- the value `Spec.expFixedVals` finds under a name -/
def namedVal (spec : List (String × Nat)) (ver cnt : Nat) (vals : List Nat) (n : String) : Nat :=
  ((("version" :: "count" :: spec.map (·.1)).zip (ver :: cnt :: vals)).lookup n).getD 0

theorem expFixedValsP_eq (pf : Nat → Nat) (lay : Layout) (spec : List (String × Nat)) (ver cnt : Nat) (vals : List Nat) :
    expFixedValsP pf lay spec ver cnt vals = lay.map (fieldExp pf (namedVal spec ver cnt vals) lay) := rfl

/-- decidable facts tying a layout to the Cisco table `spec` of its values: computed fields take an
    earlier read field as source, the only injected constant is the version, names are distinct -/
def layoutOk (ver : Nat) (lay : Layout) (spec : List (String × Nat)) : Bool :=
  srcOk [] lay && (lay.all fun f => match f.kind with | .const v => f.name == "version" && v == ver | _ => true) &&
  decide ("version" :: "count" :: spec.map (·.1)).Nodup

theorem mem_named {spec : List (String × Nat)} {vals : List Nat} {p : (String × Nat) × Nat} (ver cnt : Nat)
    (h : p ∈ spec.zip vals) : (p.1.1, p.2) ∈ ("version" :: "count" :: spec.map (·.1)).zip (ver :: cnt :: vals) := by
  rw [List.zip_cons_cons, List.zip_cons_cons, List.zip_map_left]
  exact List.mem_cons_of_mem _ (List.mem_cons_of_mem _ (List.mem_map_of_mem (f := Prod.map Prod.fst id) h))

/-- the layout parser on written values: `wspec`/`wvals` are what is on the wire (for a header, `count`
    in front of the table's values), each a named value of `Spec.expFixedVals` within its width -/
theorem parseLayout_enc (proto : Nat → Nat) (ver cnt : Nat) (lay : Layout) (spec wspec : List (String × Nat))
    (vals wvals : List Nat) (tail : Bytes) (hok : layoutOk ver lay spec = true) (hw : wireSpec lay = wspec)
    (hwl : wvals.length = wspec.length)
    (hin : ∀ p ∈ wspec.zip wvals,
      (p.1.1, p.2) ∈ ("version" :: "count" :: spec.map (·.1)).zip (ver :: cnt :: vals) ∧ p.2 < 256 ^ p.1.2) :
    parseLayout proto lay (encByLayout wspec wvals ++ tail) = some (expFixedValsP proto lay spec ver cnt vals, tail) := by
  simp only [layoutOk, Bool.and_eq_true, decide_eq_true_eq, List.all_eq_true] at hok
  obtain ⟨⟨hsrc, hconst⟩, hnd⟩ := hok
  obtain ⟨e, hfit⟩ := encNamed_eq (namedVal spec ver cnt vals) wspec wvals hwl fun p hp =>
    ⟨lookup_zip _ _ hnd _ (hin p hp).1, (hin p hp).2⟩
  have := parseFields_encNamed proto (namedVal spec ver cnt vals) tail lay [] hsrc (hw ▸ hfit) fun f hf v hk => by
    have := hconst f hf
    rw [hk, Bool.and_eq_true, beq_iff_eq, beq_iff_eq] at this
    rw [this.1, this.2]; rfl
  rwa [hw, e] at this

theorem fitsSpec_iff {spec : List (String × Nat)} {vals : List Nat} :
    fitsSpec spec vals = true ↔ vals.length = spec.length ∧ ∀ p ∈ spec.zip vals, p.2 < 256 ^ p.1.2 := by
  simp [fitsSpec]

theorem parseLayout_enc_rec (proto : Nat → Nat) (ver cnt : Nat) (lay : Layout) (spec : List (String × Nat))
    (vals : List Nat) (tail : Bytes) (hok : layoutOk ver lay spec = true) (hw : wireSpec lay = spec)
    (hfit : fitsSpec spec vals = true) :
    parseLayout proto lay (encByLayout spec vals ++ tail) = some (expFixedValsP proto lay spec ver cnt vals, tail) :=
  have ⟨hl, hf⟩ := fitsSpec_iff.mp hfit
  parseLayout_enc proto ver cnt lay spec spec vals vals tail hok hw hl fun p hp => ⟨mem_named ver cnt hp, hf p hp⟩

theorem parseLayout_enc_hdr (proto : Nat → Nat) (ver cnt : Nat) (lay : Layout) (spec : List (String × Nat))
    (vals : List Nat) (tail : Bytes) (hok : layoutOk ver lay spec = true) (hw : wireSpec lay = ("count", 2) :: spec)
    (hcnt : cnt < 65536) (hfit : fitsSpec spec vals = true) :
    parseLayout proto lay (toBE 2 cnt ++ (encByLayout spec vals ++ tail)) =
      some (expFixedValsP proto lay spec ver cnt vals, tail) := by
  obtain ⟨hl, hf⟩ := fitsSpec_iff.mp hfit
  have := parseLayout_enc proto ver cnt lay spec (("count", 2) :: spec) vals (cnt :: vals) tail hok hw (by simp [hl])
    fun p hp => by
      rcases List.mem_cons.mp hp with rfl | hp
      · exact ⟨by simp, hcnt⟩
      · exact ⟨mem_named ver cnt hp, hf p hp⟩
  rwa [encByLayout, List.zip_cons_cons, List.flatMap_cons, List.append_assoc] at this

/-- a named value of the table is the value at its position -/
theorem namedVal_getD (spec : List (String × Nat)) (ver cnt : Nat) (vals : List Nat)
    (hnd : ("version" :: "count" :: spec.map (·.1)).Nodup) (hl : vals.length = spec.length) (j : Nat)
    (hj : j < spec.length) : namedVal spec ver cnt vals ((spec.map (·.1)).getD j "") = vals.getD j 0 := by
  have hm : (spec[j], vals[j]'(hl ▸ hj)) ∈ spec.zip vals := by
    rw [← List.getElem_zip (h := by simp [hl, hj])]
    exact List.getElem_mem _
  have := lookup_zip _ _ hnd _ (mem_named ver cnt hm)
  simpa [namedVal, List.getD_eq_getElem?_getD, hj, hl ▸ hj] using this

/-- the expected values depend on the protocol-name function only at the sources of computed fields -/
theorem expFixedValsP_congr (pf pg : Nat → Nat) (lay : Layout) (spec : List (String × Nat)) (ver cnt : Nat)
    (vals : List Nat)
    (h : ∀ f ∈ lay, ∀ s, f.kind = .protoOf s →
      pf (namedVal spec ver cnt vals ((lay.map (·.name)).getD s "")) =
        pg (namedVal spec ver cnt vals ((lay.map (·.name)).getD s ""))) :
    expFixedValsP pf lay spec ver cnt vals = expFixedValsP pg lay spec ver cnt vals := by
  rw [expFixedValsP_eq, expFixedValsP_eq]
  refine List.map_congr_left fun f hf => ?_
  cases hk : f.kind with
  | protoOf s => rw [fieldExp, fieldExp, hk]; exact h f hf s hk
  | wire w => rw [fieldExp, fieldExp, hk]
  | const v => rw [fieldExp, fieldExp, hk]

/-- the decidable facts about the tables that the V5/V7 print-then-parse lemmas use: the four
    `derive(Nom)` layouts are the generated ones and version words 5 / 7 dispatch to their parsers
    (`protoFromU8` and everything else is arbitrary) -/
def fixedTablesOk (t : Tables) : Bool :=
  decide (t.v5Hdr = Generated.v5Hdr) && decide (t.v5Rec = Generated.v5Rec) &&
  decide (t.v7Hdr = Generated.v7Hdr) && decide (t.v7Rec = Generated.v7Rec) &&
  (t.dispatch.lookup 5 == some 5) && (t.dispatch.lookup 7 == some 7)

theorem fixedTablesOk_generated : fixedTablesOk Generated.tables = true := by decide +kernel

theorem fixedTablesOk_inv {t : Tables} (h : fixedTablesOk t = true) (v : FixedV) :
    v.hdrLay t = v.hdrLay Generated.tables ∧ v.recLay t = v.recLay Generated.tables ∧
      t.dispatch.lookup v.ver = some v.ver := by
  simp only [fixedTablesOk, Bool.and_eq_true, decide_eq_true_eq, beq_iff_eq] at h
  obtain ⟨⟨⟨⟨⟨h5H, h5R⟩, h7H⟩, h7R⟩, d5⟩, d7⟩ := h
  cases v
  · exact ⟨h5H, h5R, d5⟩
  · exact ⟨h7H, h7R, d7⟩

/-- the generated layouts against the Cisco tables: the facts `parseLayout_enc` needs, that a header
    has no computed field, and that a record's computed fields take field 13 of the table as source
    (`protocol_number`, at index 13 of both Cisco record tables) -/
theorem generated_layoutOk (v : FixedV) :
    layoutOk v.ver (v.hdrLay Generated.tables) (v.hdrSpec.drop 2) = true ∧
    wireSpec (v.hdrLay Generated.tables) = ("count", 2) :: v.hdrSpec.drop 2 ∧
    ((v.hdrLay Generated.tables).all fun f => !FKind.computed f.kind) = true ∧
    layoutOk v.ver (v.recLay Generated.tables) v.recSpec = true ∧
    wireSpec (v.recLay Generated.tables) = v.recSpec ∧ 13 < v.recSpec.length ∧
    ((v.recLay Generated.tables).all fun f => match f.kind with
      | .protoOf s => ((v.recLay Generated.tables).map (·.name)).getD s "" == (v.recSpec.map (·.1)).getD 13 ""
      | _ => true) = true := by
  cases v <;> decide +kernel

theorem generated_count (v : FixedV) (pf : Nat → Nat) (spec : List (String × Nat)) (n : Nat) (hv : List Nat) :
    (v.hdrLay Generated.tables).get "count" (expFixedValsP pf (v.hdrLay Generated.tables) spec v.ver n hv) = n := by
  cases v <;> rfl

/-- `ProtocolTypes::from(n)` is the variant carrying the IANA name of protocol number `n` -/
def protoAgree (c : Config) (names : List (Nat × String)) (n : Nat) : Bool :=
  c.t.protoFromU8 n == protoSpecDisc names n

/-- one V5/V7 record: values within their widths, and a protocol number (field 13) whose
    `From<u8>` variant is the IANA one -/
def recConf (c : Config) (names : List (Nat × String)) (spec : List (String × Nat)) (r : List Nat) : Bool :=
  fitsSpec spec r && protoAgree c names (r.getD 13 0)

/-- conformance of an abstract V5/V7 message: header values (after `count`) and record values
    within their Cisco field widths, fewer than 65536 records, no record with a protocol number
    that `From<u8> for ProtocolTypes` names wrongly -/
def fixedConf (c : Config) (names : List (Nat × String)) (hdrSpec recSpec : List (String × Nat))
    (h : List Nat) (rs : List (List Nat)) : Bool :=
  fitsSpec (hdrSpec.drop 2) h && decide (rs.length < 65536) && rs.all (recConf c names recSpec)

theorem parseFixed_enc (c : Config) (names : List (Nat × String)) (v : FixedV) (hok : fixedTablesOk c.t = true)
    (h : List Nat) (rs : List (List Nat)) (rest : Bytes)
    (hconf : fixedConf c names v.hdrSpec v.recSpec h rs = true) :
    parseFixed c (v.hdrLay c.t) (v.recLay c.t)
        (toBE 2 rs.length ++ (encByLayout (v.hdrSpec.drop 2) h ++ (rs.flatMap (encByLayout v.recSpec) ++ rest))) =
      some ((expFixedVals names (v.hdrLay c.t) (v.hdrSpec.drop 2) v.ver rs.length h,
             rs.map (expFixedVals names (v.recLay c.t) v.recSpec v.ver 0)), rest) := by
  simp only [fixedConf, Bool.and_eq_true, decide_eq_true_eq, List.all_eq_true] at hconf
  obtain ⟨⟨hh, hn⟩, hr⟩ := hconf
  obtain ⟨hH, hR, -⟩ := fixedTablesOk_inv hok v
  obtain ⟨okH, wH, plainH, okR, wR, h13, src13⟩ := generated_layoutOk v
  rw [hH, hR]
  refine parseFixed_eq_some_iff.mpr ⟨rs.flatMap (encByLayout v.recSpec) ++ rest, ?_, ?_⟩
  · -- a header has no computed field, so the protocol-name function does not matter
    rw [parseLayout_enc_hdr c.t.protoFromU8 v.ver rs.length _ _ h _ okH wH hn hh, expFixedVals_eq]
    refine congrArg (fun x => some (x, _)) (expFixedValsP_congr _ _ _ _ _ _ _ fun f hf s hk => ?_)
    have := List.all_eq_true.mp plainH f hf
    simp [hk, FKind.computed] at this
  · rw [expFixedVals_eq, generated_count]
    refine countP_enc_map _ _ _ rest rs fun r hr' t => ?_
    have hc := hr r hr'
    simp only [recConf, Bool.and_eq_true, protoAgree, beq_iff_eq] at hc
    simp only [layoutOk, Bool.and_eq_true, decide_eq_true_eq] at okR
    rw [parseLayout_enc_rec c.t.protoFromU8 v.ver 0 _ _ r t (by simpa [layoutOk] using okR) wR hc.1, expFixedVals_eq]
    refine congrArg (fun x => some (x, t)) (expFixedValsP_congr _ _ _ _ _ _ _ fun f hf s hk => ?_)
    -- the source of a computed record field is field 13, whose protocol number is named as IANA says
    have := List.all_eq_true.mp src13 f hf
    rw [hk, beq_iff_eq] at this
    rw [this, namedVal_getD _ _ _ _ okR.2 (fitsSpec_iff.mp hc.1).1 13 h13]
    exact hc.2

/-- **print-then-parse, V5 / V7**: the bytes `Spec.enc` writes for a conformant V5 or V7 message,
    followed by anything, are decoded to exactly the packet `Spec.expMsg` expects; the caches are
    untouched and the trailing bytes are returned -/
theorem parsePacket_encFixed (c : Config) (names : List (Nat × String)) (v : FixedV) (hok : fixedTablesOk c.t = true)
    (ha : c.allowed.contains v.ver = true) (st : PState) (h : List Nat) (rs : List (List Nat)) (rest : Bytes)
    (hconf : fixedConf c names v.hdrSpec v.recSpec h rs = true) :
    parsePacket c st (encFixed v.ver v.hdrSpec v.recSpec h rs ++ rest) =
      (st, .ok (v.mk (expFixedVals names (v.hdrLay c.t) (v.hdrSpec.drop 2) v.ver rs.length h)
                     (rs.map (expFixedVals names (v.recLay c.t) v.recSpec v.ver 0))) rest) := by
  have hv : beU 2 (encFixed v.ver v.hdrSpec v.recSpec h rs ++ rest) = some (v.ver,
      toBE 2 rs.length ++ (encByLayout (v.hdrSpec.drop 2) h ++ (rs.flatMap (encByLayout v.recSpec) ++ rest))) := by
    simp only [encFixed, List.append_assoc]
    exact beU_toBE_append _ (by cases v <;> decide)
  rw [parsePacket_fixed st v hv ha (fixedTablesOk_inv hok v).2.2, parseFixed_enc c names v hok h rs rest hconf]

/-- with the generated tables every protocol number below 256 other than 0, 1, 144, 255 is named as IANA says -/
theorem protoAgree_generated (c : Config) (hc : c.t = Generated.tables) (n : Nat) (hn : n < 256)
    (hb : n ∉ [0, 1, 144, 255]) : protoAgree c Generated.protoNames n = true := by
  simp [protoAgree, hc, protoFromU8_generated hb, protoSpecDisc_generated n]

/-- KNOWN CRATE DEFECT: for 0, 1, 144, 255 `From<u8> for ProtocolTypes` is not the IANA variant -/
theorem protoAgree_generated_fails :
    ([0, 1, 144, 255].map fun n =>
      protoAgree { t := Generated.tables, allowed := [5] } Generated.protoNames n) = [false, false, false, false] := by
  decide +kernel

end Netflow.B4
