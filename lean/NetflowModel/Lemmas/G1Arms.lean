/-
  Lemmas/G1Arms.lean — the hand-written value codec of the model IS the interpretation of the arm tables that
  `tools/translate.py` regenerates from data_number.rs on every run (see Arms.lean).
-/
import NetflowModel.Arms
import NetflowModel.Generated
import NetflowModel.Common
namespace Netflow.G1
open Netflow

/-- `parseValue` = interpretation of the regenerated arms of `FieldValue::from_field_type` -/
theorem parseValue_eq_generated (c : ValueCfg) (ty : FType) (len : Nat) (i : Bytes) :
    parseValue c ty len i = parseValueBy Generated.valueArms c ty len i := by
  cases ty <;> rfl

/-- every library type has an arm (the Rust `match` is exhaustive) -/
theorem valueArms_total (ty : FType) : (valueArmOf Generated.valueArms ty).isSome = true := by
  cases ty <;> rfl

/-- `FieldValue.toBE` = interpretation of the regenerated arms of `FieldValue::to_be_bytes` -/
theorem toBE_eq_generated (c : ValueCfg) (v : FieldValue) :
    v.toBE c = toBEBy Generated.exportArms c v := by
  cases v <;> rfl

/-- `DataNumber.toBE` = interpretation of the regenerated arms of `DataNumber::to_be_bytes` -/
theorem dnToBE_eq_generated (d : DataNumber) : d.toBE = dnToBEBy Generated.dnExportArms d := by
  cases d <;> rfl

end Netflow.G1
