/-
  Lemmas/G2Ctl.lean — the hand-written control functions of V9.lean / Ipfix.lean / Parser.lean ARE the `…K` functions of
  Ctl.lean instantiated with the control skeleton regenerated from the Rust source (`Generated.ctl`).
  Every proof here is re-checked against what translate.py read from /repo on this run.
-/
import NetflowModel.Ctl
import NetflowModel.GeneratedCtl
import NetflowModel.Lemmas.Inversion
namespace Netflow.G2
open Netflow

abbrev gk : Ctl := Generated.ctl

theorem gk_ipEntCmp : gk.ipEntCmp = .gt := rfl
theorem gk_ipEntThr : gk.ipEntThr = 32767 := rfl
theorem gk_ipEntSub : gk.ipEntSub = 32768 := rfl
theorem gk_ipValidCmp : gk.ipValidCmp = .gt := rfl
theorem gk_ipValidThr : gk.ipValidThr = 0 := rfl
theorem gk_ipVarLen : gk.ipVarLen = 65535 := rfl
theorem gk_ipVarEscCmp : gk.ipVarEscCmp = .eq := rfl
theorem gk_ipVarEsc : gk.ipVarEsc = 255 := rfl
theorem gk_ipBreakCmp1 : gk.ipBreakCmp1 = .eq := rfl
theorem gk_ipBreakVal : gk.ipBreakVal = 0 := rfl
theorem gk_ipBreakCmp2 : gk.ipBreakCmp2 = .lt := rfl
theorem gk_v9SkipEmpty : gk.v9SkipEmpty = true := rfl
theorem gk_gateFirst : gk.gateFirst = true := rfl

theorem parseV9OptTemplate_ctl : parseV9OptTemplateK gk = parseV9OptTemplate := by
  funext i; rfl

theorem v9TotalSize_ctl : v9TotalSizeK gk = v9TotalSize := by
  funext fs; rfl

/-- stopping at the first record that does not decode (`stop = true`, what the source does) and going on give the same result:
    a record that does not decode leaves the input where it was, so every further iteration fails too -/
theorem v9RecLoopK_eq (stop : Bool) (c : Config) (fs : List TField) (n : Nat) (i : Bytes) (acc : List Rec) :
    v9RecLoopK stop c fs n i acc = v9RecLoop c fs n i acc := by
  induction n generalizing i acc with
  | zero => rfl
  | succ n ih =>
    cases h : v9ParseRec c fs 0 i with
    | none =>
      cases stop with
      | true => simp only [v9RecLoopK, h, if_true]; exact (v9RecLoop_none h (n + 1) acc).symm
      | false => simp only [v9RecLoopK, v9RecLoop, h, Bool.false_eq_true, if_false]; exact ih i acc
    | some p =>
      obtain ⟨r, i'⟩ := p
      simp only [v9RecLoopK, v9RecLoop, h]; exact ih i' (acc ++ [r])

theorem find4 {α : Type} (p : α → Bool) (a b c d : α) :
    [a, b, c, d].find? p = if p a then some a else if p b then some b else if p c then some c else if p d then some d else none := by
  simp only [List.find?]
  cases p a <;> cases p b <;> cases p c <;> cases p d <;> rfl

theorem v9ParseBody_ctl (c : Config) (st : PState) (id : Nat) (body : Bytes) :
    v9ParseBodyK gk c st id body = v9ParseBody c st id body := by
  unfold v9ParseBodyK v9ParseBody
  rw [show gk.v9Arms = [.tmpl, .optTmpl, .optData, .data] from rfl, find4]
  simp only [v9ArmGuard, decide_eq_true_eq]
  by_cases h1 : id = c.t.v9TemplateId
  · rw [if_pos h1, if_pos h1]; rfl
  · rw [if_neg h1, if_neg h1]
    by_cases h2 : id = c.t.v9OptTemplateId
    · rw [if_pos h2, if_pos h2]; rfl
    · rw [if_neg h2, if_neg h2]
      obtain h3 | ⟨ot, h3⟩ := Option.eq_none_or_eq_some (amLookup id st.v9O)
      · obtain h4 | ⟨t, h4⟩ := Option.eq_none_or_eq_some (amLookup id st.v9T)
        · simp only [h3, h4, Option.isSome_none, Bool.false_eq_true, if_false]
        · simp only [h3, h4, Option.isSome_none, Option.isSome_some, Bool.false_eq_true, if_false, if_true, v9ArmRun,
            v9RecLoopK_eq]
          rfl
      · simp only [h3, Option.isSome_some, if_true, v9ArmRun]
        rfl

theorem v9ParseSet_ctl (c : Config) (st : PState) (i : Bytes) :
    v9ParseSetK gk c st i = v9ParseSet c st i := by
  unfold v9ParseSetK v9ParseSet
  simp only [v9ParseBody_ctl]
  rfl

theorem v9ParseSets_ctl (c : Config) (n : Nat) (st : PState) (i : Bytes) :
    v9ParseSetsK gk c n st i = v9ParseSets c n st i := by
  induction n generalizing st i with
  | zero => rfl
  | succ n ih =>
    unfold v9ParseSetsK v9ParseSets
    simp only [gk_v9SkipEmpty, Bool.true_and, v9ParseSet_ctl, ih]
    rfl

theorem parseV9_ctl (c : Config) (st : PState) (i : Bytes) : parseV9K gk c st i = parseV9 c st i := by
  unfold parseV9K parseV9
  simp only [v9ParseSets_ctl]
  rfl

theorem parseIpTField_ctl : parseIpTFieldK gk = parseIpTField := by
  funext i
  unfold parseIpTFieldK parseIpTField
  simp only [gk_ipEntCmp, gk_ipEntThr, gk_ipEntSub, Cmp.eval, decide_eq_true_eq]
  rfl

theorem ipValid_ctl : ipValidK gk = ipValid := by
  funext fs
  unfold ipValidK ipValid
  simp only [gk_ipValidCmp, gk_ipValidThr, Cmp.eval]

theorem parseIpTemplate_ctl : parseIpTemplateK gk = parseIpTemplate := by
  funext body
  unfold parseIpTemplateK parseIpTemplate
  simp only [parseIpTField_ctl]
  rfl

theorem parseIpOptTemplate_ctl : parseIpOptTemplateK gk = parseIpOptTemplate := by
  funext body
  unfold parseIpOptTemplateK parseIpOptTemplate
  simp only [parseIpTField_ctl]
  rfl

theorem ipFieldLength_ctl (f : IpTField) : ipFieldLengthK gk f = ipFieldLength f := by
  funext i
  unfold ipFieldLengthK ipFieldLength
  simp only [gk_ipVarLen, gk_ipVarEscCmp, gk_ipVarEsc, Cmp.eval, decide_eq_true_eq]
  rfl

theorem ipParseValue_ctl (c : Config) (f : IpTField) : ipParseValueK gk c f = ipParseValue c f := by
  funext i
  unfold ipParseValueK ipParseValue
  simp only [ipFieldLength_ctl]
  rfl

theorem ipParseRec_ctl (c : Config) (fs : List IpTField) (idx : Nat) (i : Bytes) :
    ipParseRecK gk c fs idx i = ipParseRec c fs idx i := by
  induction fs generalizing idx i with
  | nil => rfl
  | cons f fs ih =>
    unfold ipParseRecK ipParseRec
    simp only [ipParseValue_ctl, ih]
    rfl

theorem ipRecLoop_ctl (c : Config) (fs : List IpTField) (fuel : Nat) (i : Bytes) :
    ipRecLoopK gk c fs fuel i = ipRecLoop c fs fuel i := by
  induction fuel generalizing i with
  | zero => rfl
  | succ fuel ih =>
    unfold ipRecLoopK ipRecLoop
    simp only [ipParseRec_ctl, gk_ipBreakCmp1, gk_ipBreakVal, gk_ipBreakCmp2, Cmp.eval, decide_eq_true_eq, Bool.not_eq_true',
      decide_eq_false_iff_not, Nat.not_lt, ih, ge_iff_le]
    rfl

theorem ipParseBody_ctl (c : Config) (st : PState) (id : Nat) (body : Bytes) :
    ipParseBodyK gk c st id body = ipParseBody c st id body := by
  unfold ipParseBodyK ipParseBody
  have hg : ipArmGuard gk c st id .tmpl = decide (id < c.t.ipSetMinRange ∧ id ≠ c.t.ipOptTemplateId) := by
    show (Cmp.eval .lt id c.t.ipSetMinRange && Cmp.eval .ne id c.t.ipOptTemplateId) = _
    simp only [Cmp.eval, Bool.decide_and]
  rw [show gk.ipArms = [.tmpl, .optTmpl, .data, .optData] from rfl, find4, hg]
  simp only [ipArmGuard, decide_eq_true_eq]
  by_cases h1 : id < c.t.ipSetMinRange ∧ id ≠ c.t.ipOptTemplateId
  · rw [if_pos h1, if_pos h1]
    simp only [ipArmRun, parseIpTemplate_ctl, ipValid_ctl]
    rfl
  · rw [if_neg h1, if_neg h1]
    by_cases h2 : id = c.t.ipOptTemplateId
    · rw [if_pos h2, if_pos h2]
      simp only [ipArmRun, parseIpOptTemplate_ctl, ipValid_ctl]
      rfl
    · rw [if_neg h2, if_neg h2]
      obtain h3 | ⟨t, h3⟩ := Option.eq_none_or_eq_some (amLookup id st.ipT)
      · obtain h4 | ⟨t, h4⟩ := Option.eq_none_or_eq_some (amLookup id st.ipO)
        · simp only [h3, h4, Option.isSome_none, Bool.false_eq_true, if_false]
        · simp only [h3, h4, Option.isSome_none, Option.isSome_some, Bool.false_eq_true, if_false, if_true, ipArmRun,
            ipRecLoop_ctl]
          rfl
      · simp only [h3, Option.isSome_some, if_true, ipArmRun, ipRecLoop_ctl]
        rfl

theorem ipParseSet_ctl (c : Config) (st : PState) (i : Bytes) : ipParseSetK gk c st i = ipParseSet c st i := by
  unfold ipParseSetK ipParseSet
  simp only [ipParseBody_ctl]
  rfl

theorem ipParseSets_ctl (c : Config) (fuel : Nat) (st : PState) (i : Bytes) :
    ipParseSetsK gk c fuel st i = ipParseSets c fuel st i := by
  induction fuel generalizing st i with
  | zero => rfl
  | succ fuel ih =>
    unfold ipParseSetsK ipParseSets
    simp only [ipParseSet_ctl, ih]
    rfl

theorem parseIpfix_ctl (c : Config) (st : PState) (i : Bytes) : parseIpfixK gk c st i = parseIpfix c st i := by
  unfold parseIpfixK parseIpfix
  simp only [ipParseSets_ctl]
  rfl

theorem parseVersioned_ctl (c : Config) (st : PState) (kind : Nat) (body : Bytes) :
    parseVersionedK gk c st kind body = parseVersioned c st kind body := by
  unfold parseVersionedK parseVersioned
  simp only [parseV9_ctl, parseIpfix_ctl]
  rfl

theorem parsePacket_ctl (c : Config) (st : PState) (buf : Bytes) : parsePacketK gk c st buf = parsePacket c st buf := by
  unfold parsePacketK parsePacket
  simp only [parseVersioned_ctl, gk_gateFirst, if_true]
  rfl

theorem parseBytesF_ctl (c : Config) (fuel : Nat) (st : PState) (buf : Bytes) :
    parseBytesFK gk c fuel st buf = parseBytesF c fuel st buf := by
  induction fuel generalizing st buf with
  | zero => rfl
  | succ fuel ih =>
    unfold parseBytesFK parseBytesF
    simp only [parsePacket_ctl, ih]
    rfl

theorem parseBytes_ctl (c : Config) (st : PState) (buf : Bytes) : parseBytesK gk c st buf = parseBytes c st buf := by
  unfold parseBytesK parseBytes
  exact parseBytesF_ctl c _ st buf

theorem parseBytesK_gk : parseBytesK gk = parseBytes := by
  funext c st buf; exact parseBytes_ctl c st buf

end Netflow.G2
