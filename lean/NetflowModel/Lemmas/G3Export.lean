/-
  Lemmas/G3Export.lean — the interpretation of the exporter programs regenerated from `V9::to_be_bytes` / `IPFix::to_be_bytes`
  (GeneratedExport.lean) over the tree view of a model packet IS the hand-written exporter of Export.lean.
-/
import NetflowModel.ExportProg
import NetflowModel.GeneratedExport
import NetflowModel.Generated
import NetflowModel.Lemmas.ExportBytes
namespace Netflow.G3
open Netflow

theorem append_ok_ok (a b : Bytes) : (Out.ok a).append (Out.ok b) = .ok (a ++ b) := rfl

/-! one equation per statement form, the path fact as a hypothesis -/
theorem runL_cons (vc : ValueCfg) (e : Emit) (es : List Emit) (env : EEnv) :
    runL vc (e :: es) env = (runE vc e env).append (runL vc es env) := by simp [runL]
theorem runL_nil (vc : ValueCfg) (env : EEnv) : runL vc [] env = .ok [] := by simp [runL]
theorem runE_num (vc : ValueCfg) (p : List String) (w v : Nat) (env : EEnv) (hp : env.path p = some (.num v)) :
    runE vc (.num p w) env = .ok (toBE w v) := by simp [runE, hp]
theorem runE_bytes (vc : ValueCfg) (p : List String) (b : Bytes) (env : EEnv) (hp : env.path p = some (.bytes b)) :
    runE vc (.bytes p) env = .ok b := by simp [runE, hp]
theorem runE_value (vc : ValueCfg) (p : List String) (v : FieldValue) (env : EEnv) (hp : env.path p = some (.value v)) :
    runE vc (.value p) env = v.toBE vc := by simp [runE, hp]
theorem runE_each {α : Type} (vc : ValueCfg) (p : List String) (x : String) (body : List Emit) (env : EEnv)
    (as : List α) (tr : α → ETree) (hp : env.path p = some (.list (as.map tr))) :
    runE vc (.each p x body) env = Out.concat (as.map fun a => runL vc body ((x, tr a) :: env)) := by
  simp [runE, hp, List.map_map, Function.comp_def]
theorem runE_variant (vc : ValueCfg) (p : List String) (variant name x : String) (body : List Emit) (env : EEnv) (t : ETree)
    (hp : env.path p = some (.variant name t)) :
    runE vc (.whenVariant p variant x body) env = if name = variant then runL vc body ((x, t) :: env) else .ok [] := by
  simp [runE, hp]
theorem runE_some (vc : ValueCfg) (p : List String) (x : String) (body : List Emit) (env : EEnv) (t : ETree)
    (hp : env.path p = some (.some t)) : runE vc (.whenSome p x body) env = runL vc body ((x, t) :: env) := by simp [runE, hp]
theorem runE_none (vc : ValueCfg) (p : List String) (x : String) (body : List Emit) (env : EEnv)
    (hp : env.path p = some .none) : runE vc (.whenSome p x body) env = .ok [] := by simp [runE, hp]
theorem runE_payload (vc : ValueCfg) (p : List String) (env : EEnv) (n : String) (b : Bytes)
    (hp : env.path p = some (.variant n (.bytes b))) : runE vc (.payload p) env = .ok b := by simp [runE, hp]

/-- the variant names the set programs test for are pairwise distinct -/
theorem variant_names_ne : "Template" ≠ "OptionsTemplate" ∧ "Template" ≠ "Data" ∧ "Template" ≠ "OptionsData" ∧
    "OptionsTemplate" ≠ "Data" ∧ "OptionsTemplate" ≠ "OptionsData" ∧ "Data" ≠ "OptionsData" := by
  decide +kernel

macro "path_simp" : tactic => `(tactic|
  simp [EEnv.path, ETree.walk, ETree.field, List.lookup, treeOfTField, treeOfV9Template, treeOfV9OptTemplate, treeOfV9Body, treeOfV9Set,
        treeOfIpTField, treeOfIpBody, treeOfIpSet, treeOfRec])

theorem tfield_prog (vc : ValueCfg) (f : TField) (env : EEnv) :
    runL vc tfieldProg (("b3", treeOfTField f) :: env) = .ok (exportTField f) := by
  rw [tfieldProg, runL_cons, runL_cons, runL_nil, runE_num vc _ 2 f.typ _ (by path_simp),
    runE_num vc _ 2 f.len _ (by path_simp)]
  simp [Out.append, exportTField]

theorem v9template_prog (vc : ValueCfg) (t : V9Template) (env : EEnv) :
    runL vc [.num ["b2", "template_id"] 2, .num ["b2", "field_count"] 2, .each ["b2", "fields"] "b3" tfieldProg]
        (("b2", treeOfV9Template t) :: env)
      = .ok (exportV9Template t) := by
  rw [runL_cons, runL_cons, runL_cons, runL_nil,
      runE_num vc _ 2 t.id _ (by path_simp), runE_num vc _ 2 t.fieldCount _ (by path_simp),
      runE_each vc _ _ _ _ t.fields treeOfTField (by path_simp)]
  simp only [tfield_prog, Out.concat_map_ok]
  simp [Out.append, exportV9Template]

theorem v9opttemplate_prog (vc : ValueCfg) (t : V9OptTemplate) (env : EEnv) :
    runL vc [.num ["b2", "template_id"] 2, .num ["b2", "options_scope_length"] 2, .num ["b2", "options_length"] 2,
             .each ["b2", "scope_fields"] "b3" tfieldProg, .each ["b2", "option_fields"] "b3" tfieldProg]
        (("b2", treeOfV9OptTemplate t) :: env)
      = .ok (exportV9OptTemplate t) := by
  rw [runL_cons, runL_cons, runL_cons, runL_cons, runL_cons, runL_nil,
      runE_num vc _ 2 t.id _ (by path_simp), runE_num vc _ 2 t.scopeLen _ (by path_simp), runE_num vc _ 2 t.optLen _ (by path_simp),
      runE_each vc _ _ _ _ t.scope treeOfTField (by path_simp), runE_each vc _ _ _ _ t.opts treeOfTField (by path_simp)]
  simp only [tfield_prog, Out.concat_map_ok]
  simp [Out.append, exportV9OptTemplate]

/-- one decoded record: every value in template order -/
theorem rec_prog (vc : ValueCfg) (x y : String) (r : Rec) (env : EEnv) :
    runL vc [.each [x] y [.value [y]]] ((x, treeOfRec r) :: env) = exportRec vc r := by
  rw [runL_cons, runL_nil, runE_each vc _ _ _ _ r (fun e => ETree.value e.2.2) (by path_simp), Out.append_ok_nil]
  unfold exportRec
  congr 1
  apply List.map_congr_left
  intro e _
  rw [runL_cons, runL_nil, runE_value vc _ e.2.2 _ (by path_simp), Out.append_ok_nil]

theorem v9templates_prog (vc : ValueCfg) (ts : List V9Template) (pad : Bytes) (env : EEnv) :
    runL vc v9TemplatesProg (("b1", .struct [("templates", .list (ts.map treeOfV9Template)), ("padding", .bytes pad)]) :: env)
      = .ok (ts.flatMap exportV9Template ++ pad) := by
  rw [v9TemplatesProg, runL_cons, runL_cons, runL_nil, runE_each vc _ _ _ _ ts treeOfV9Template (by path_simp),
    runE_bytes vc _ pad _ (by path_simp)]
  simp only [v9template_prog, Out.concat_map_ok]
  simp [Out.append]

theorem v9opttemplates_prog (vc : ValueCfg) (ts : List V9OptTemplate) (pad : Bytes) (env : EEnv) :
    runL vc v9OptTemplatesProg (("b1", .struct [("templates", .list (ts.map treeOfV9OptTemplate)), ("padding", .bytes pad)]) :: env)
      = .ok (ts.flatMap exportV9OptTemplate ++ pad) := by
  rw [v9OptTemplatesProg, runL_cons, runL_cons, runL_nil, runE_each vc _ _ _ _ ts treeOfV9OptTemplate (by path_simp),
    runE_bytes vc _ pad _ (by path_simp)]
  simp only [v9opttemplate_prog, Out.concat_map_ok]
  simp [Out.append]

/-- `v9DataProg` and `ipDataProg` -/
theorem data_prog (vc : ValueCfg) (recs : List Rec) (pad : Bytes) (env : EEnv) :
    runL vc [.each ["b1", "fields"] "b2" [.each ["b2"] "b3" [.value ["b3"]]], .bytes ["b1", "padding"]]
        (("b1", .struct [("fields", .list (recs.map treeOfRec)), ("padding", .bytes pad)]) :: env)
      = (exportRecs vc recs).append (.ok pad) := by
  rw [runL_cons, runL_cons, runL_nil, runE_each vc _ _ _ _ recs treeOfRec (by path_simp), runE_bytes vc _ pad _ (by path_simp),
    Out.append_ok_nil]
  simp only [rec_prog]
  rfl

theorem v9optdata_prog (vc : ValueCfg) (ss os : List (Nat × Bytes)) (pad : Bytes) (env : EEnv) :
    runL vc v9OptDataProg
        (("b1", .struct [("scope_fields", .list (ss.map fun s => .variant (scopeVariantName s.1) (.bytes s.2))),
                                   ("options_fields", .list (os.map fun o => .struct [("field_value", .bytes o.2)])),
                                   ("padding", .bytes pad)]) :: env)
      = .ok (ss.flatMap (·.2) ++ os.flatMap (·.2) ++ pad) := by
  have hs : ∀ (s : Nat × Bytes) env, runL vc [.payload ["b2"]] (("b2", .variant (scopeVariantName s.1) (.bytes s.2)) :: env) = .ok s.2 :=
    fun s env => by rw [runL_cons, runL_nil, runE_payload vc _ _ (scopeVariantName s.1) s.2 (by path_simp), Out.append_ok_nil]
  have ho : ∀ (o : Nat × Bytes) env, runL vc [.bytes ["b2", "field_value"]] (("b2", .struct [("field_value", .bytes o.2)]) :: env) = .ok o.2 :=
    fun o env => by rw [runL_cons, runL_nil, runE_bytes vc _ o.2 _ (by path_simp), Out.append_ok_nil]
  rw [v9OptDataProg, runL_cons, runL_cons, runL_cons, runL_nil,
      runE_each vc _ _ _ _ ss (fun s => ETree.variant (scopeVariantName s.1) (.bytes s.2)) (by path_simp),
      runE_each vc _ _ _ _ os (fun o => ETree.struct [("field_value", .bytes o.2)]) (by path_simp),
      runE_bytes vc _ pad _ (by path_simp)]
  simp only [hs, ho, Out.concat_map_ok]
  simp [Out.append]

theorem v9set_body_path (s : V9Set) (env : EEnv) :
    EEnv.path (("b0", treeOfV9Set s) :: env) ["b0", "body"] = some (treeOfV9Body s.body) := by path_simp

theorem v9set_prog (vc : ValueCfg) (s : V9Set) (env : EEnv) :
    runL vc v9SetProg (("b0", treeOfV9Set s) :: env) = exportV9Set vc s := by
  obtain ⟨n12, n13, n14, n23, n24, n34⟩ := variant_names_ne
  rw [v9SetProg, exportV9Set, runL_cons, runL_cons, runL_cons, runL_cons, runL_cons, runL_cons, runL_nil,
      runE_num vc _ 2 s.id _ (by path_simp), runE_num vc _ 2 s.len _ (by path_simp)]
  cases hb : s.body with
  | templates ts pad =>
    have hp := v9set_body_path s env
    rw [hb, treeOfV9Body] at hp
    simp only [runE_variant vc _ _ _ _ _ _ _ hp, n12, n13, n14, ↓reduceIte, v9templates_prog]
    simp [Out.append, exportV9Body]
  | optTemplates ts pad =>
    have hp := v9set_body_path s env
    rw [hb, treeOfV9Body] at hp
    simp only [runE_variant vc _ _ _ _ _ _ _ hp, n12.symm, n23, n24, ↓reduceIte, v9opttemplates_prog]
    simp [Out.append, exportV9Body]
  | data recs pad =>
    have hp := v9set_body_path s env
    rw [hb, treeOfV9Body] at hp
    simp only [runE_variant vc _ _ _ _ _ _ _ hp, n13.symm, n23.symm, n34, ↓reduceIte, v9DataProg, data_prog]
    cases h : exportRecs vc recs <;> simp [Out.append, exportV9Body, h]
  | optData ss os pad =>
    have hp := v9set_body_path s env
    rw [hb, treeOfV9Body] at hp
    simp only [runE_variant vc _ _ _ _ _ _ _ hp, n14.symm, n24.symm, n34.symm, ↓reduceIte, v9optdata_prog]
    simp [Out.append, exportV9Body]

/-- the program regenerated from `V9::to_be_bytes` is: the six header fields, then `v9SetProg` for every flowset -/
theorem v9ExportProg_shape : Generated.v9ExportProg = v9StdProg := rfl

theorem v9hdr_path (c : Config) (hc : c.t.v9Hdr = Generated.v9Hdr) (h : List Nat) (sets : List V9Set) (n : String)
    (hn : n ∈ ["version", "count", "sys_up_time", "unix_secs", "sequence_number", "source_id"]) :
    EEnv.path [("self", treeOfV9 c h sets)] ["self", "header", n] = some (.num (Generated.v9Hdr.get n h)) := by
  simp only [List.mem_cons, List.mem_nil_iff, or_false] at hn
  rcases hn with rfl | rfl | rfl | rfl | rfl | rfl <;>
    simp [EEnv.path, ETree.walk, ETree.field, List.lookup, treeOfV9, treeOfHeader, hc, Generated.v9Hdr]

/-- **V9 exporter**: the regenerated program, run on the tree view of a model packet, is `exportV9` -/
theorem v9_prog (c : Config) (hc : c.t.v9Hdr = Generated.v9Hdr) (ho : c.t.v9HdrOrder = Generated.v9HdrOrder)
    (h : List Nat) (sets : List V9Set) :
    runL c.vc Generated.v9ExportProg [("self", treeOfV9 c h sets)] = exportV9 c h sets := by
  rw [v9ExportProg_shape, v9StdProg, runL_cons, runL_cons, runL_cons, runL_cons, runL_cons, runL_cons, runL_cons, runL_nil,
      runE_num c.vc _ 2 _ _ (v9hdr_path c hc h sets "version" (by simp)),
      runE_num c.vc _ 2 _ _ (v9hdr_path c hc h sets "count" (by simp)),
      runE_num c.vc _ 4 _ _ (v9hdr_path c hc h sets "sys_up_time" (by simp)),
      runE_num c.vc _ 4 _ _ (v9hdr_path c hc h sets "unix_secs" (by simp)),
      runE_num c.vc _ 4 _ _ (v9hdr_path c hc h sets "sequence_number" (by simp)),
      runE_num c.vc _ 4 _ _ (v9hdr_path c hc h sets "source_id" (by simp)),
      runE_each c.vc _ _ _ _ sets treeOfV9Set (by simp [EEnv.path, ETree.walk, ETree.field, List.lookup, treeOfV9])]
  simp only [v9set_prog]
  unfold exportV9
  rw [hc, ho]
  simp [Out.append, exportByOrder, Generated.v9HdrOrder, Layout.widthOf, Generated.v9Hdr, List.find?]
  cases Out.concat (List.map (exportV9Set c.vc) sets) <;> simp

theorem ipfield_prog (vc : ValueCfg) (f : IpTField) (env : EEnv) :
    runL vc ipFieldProg (("b2", treeOfIpTField f) :: env) = .ok (exportIpTField f) := by
  obtain ⟨typ, len, ent⟩ := f
  rw [ipFieldProg, runL_cons, runL_cons, runL_cons, runL_nil, runE_num vc _ 2 typ _ (by path_simp),
    runE_num vc _ 2 len _ (by path_simp)]
  cases ent with
  | none =>
    rw [runE_none vc _ _ _ _ (by path_simp)]
    simp [Out.append, exportIpTField]
  | some e =>
    rw [runE_some vc _ _ _ _ (.num e) (by path_simp), runL_cons, runL_nil, runE_num vc _ 4 e _ (by path_simp)]
    simp [Out.append, exportIpTField]

theorem iptemplate_prog (vc : ValueCfg) (t : IpTemplate) (env : EEnv) :
    runL vc ipTemplateProg
        (("b1", .struct [("template_id", .num t.id), ("field_count", .num t.fieldCount),
            ("fields", .list (t.fields.map treeOfIpTField)), ("padding", .bytes t.pad)]) :: env)
      = .ok (toBE 2 t.id ++ toBE 2 t.fieldCount ++ t.fields.flatMap exportIpTField ++ t.pad) := by
  rw [ipTemplateProg, runL_cons, runL_cons, runL_cons, runL_cons, runL_nil, runE_num vc _ 2 t.id _ (by path_simp),
      runE_num vc _ 2 t.fieldCount _ (by path_simp),
      runE_each vc _ _ _ _ t.fields treeOfIpTField (by path_simp), runE_bytes vc _ t.pad _ (by path_simp)]
  simp only [ipfield_prog, Out.concat_map_ok]
  simp [Out.append]

theorem ipopttemplate_prog (vc : ValueCfg) (t : IpOptTemplate) (env : EEnv) :
    runL vc ipOptTemplateProg
        (("b1", .struct [("template_id", .num t.id), ("field_count", .num t.fieldCount), ("scope_field_count", .num t.scopeCount),
            ("fields", .list (t.fields.map treeOfIpTField)), ("padding", .bytes t.pad)]) :: env)
      = .ok (toBE 2 t.id ++ toBE 2 t.fieldCount ++ toBE 2 t.scopeCount ++ t.fields.flatMap exportIpTField ++ t.pad) := by
  rw [ipOptTemplateProg, runL_cons, runL_cons, runL_cons, runL_cons, runL_cons, runL_nil, runE_num vc _ 2 t.id _ (by path_simp),
      runE_num vc _ 2 t.fieldCount _ (by path_simp), runE_num vc _ 2 t.scopeCount _ (by path_simp),
      runE_each vc _ _ _ _ t.fields treeOfIpTField (by path_simp), runE_bytes vc _ t.pad _ (by path_simp)]
  simp only [ipfield_prog, Out.concat_map_ok]
  simp [Out.append]

theorem ipset_body_path (s : IpSet) (env : EEnv) :
    EEnv.path (("b0", treeOfIpSet s) :: env) ["b0", "body"] = some (treeOfIpBody s.body) := by path_simp

theorem ipset_prog (vc : ValueCfg) (s : IpSet) (env : EEnv) :
    runL vc ipSetProg (("b0", treeOfIpSet s) :: env) = exportIpSet vc s := by
  obtain ⟨n12, n13, n14, n23, n24, n34⟩ := variant_names_ne
  rw [ipSetProg, exportIpSet, runL_cons, runL_cons, runL_cons, runL_cons, runL_cons, runL_cons, runL_nil,
      runE_num vc _ 2 s.id _ (by path_simp), runE_num vc _ 2 s.len _ (by path_simp)]
  cases hb : s.body with
  | template t =>
    have hp := ipset_body_path s env
    rw [hb, treeOfIpBody] at hp
    simp only [runE_variant vc _ _ _ _ _ _ _ hp, n12, n13, n14, ↓reduceIte, iptemplate_prog]
    simp [Out.append, exportIpBody]
  | optTemplate t =>
    have hp := ipset_body_path s env
    rw [hb, treeOfIpBody] at hp
    simp only [runE_variant vc _ _ _ _ _ _ _ hp, n12.symm, n23, n24, ↓reduceIte, ipopttemplate_prog]
    simp [Out.append, exportIpBody]
  | data recs pad =>
    have hp := ipset_body_path s env
    rw [hb, treeOfIpBody] at hp
    simp only [runE_variant vc _ _ _ _ _ _ _ hp, n13.symm, n23.symm, n34, ↓reduceIte, ipDataProg, data_prog]
    cases h : exportRecs vc recs <;> simp [Out.append, exportIpBody, h]
  | optData recs pad =>
    have hp := ipset_body_path s env
    rw [hb, treeOfIpBody] at hp
    simp only [runE_variant vc _ _ _ _ _ _ _ hp, n14.symm, n24.symm, n34.symm, ↓reduceIte, ipDataProg, data_prog]
    cases h : exportRecs vc recs <;> simp [Out.append, exportIpBody, h]

theorem ipExportProg_shape : Generated.ipExportProg = ipStdProg := rfl

theorem iphdr_path (c : Config) (hc : c.t.ipHdr = Generated.ipHdr) (h : List Nat) (sets : List IpSet) (n : String)
    (hn : n ∈ ["version", "length", "export_time", "sequence_number", "observation_domain_id"]) :
    EEnv.path [("self", treeOfIpfix c h sets)] ["self", "header", n] = some (.num (Generated.ipHdr.get n h)) := by
  simp only [List.mem_cons, List.mem_nil_iff, or_false] at hn
  rcases hn with rfl | rfl | rfl | rfl | rfl <;>
    simp [EEnv.path, ETree.walk, ETree.field, List.lookup, treeOfIpfix, treeOfHeader, hc, Generated.ipHdr]

/-- **IPFIX exporter**: the regenerated program, run on the tree view of a model message, is `exportIpfix` -/
theorem ipfix_prog (c : Config) (hc : c.t.ipHdr = Generated.ipHdr) (ho : c.t.ipHdrOrder = Generated.ipHdrOrder)
    (h : List Nat) (sets : List IpSet) :
    runL c.vc Generated.ipExportProg [("self", treeOfIpfix c h sets)] = exportIpfix c h sets := by
  rw [ipExportProg_shape, ipStdProg, runL_cons, runL_cons, runL_cons, runL_cons, runL_cons, runL_cons, runL_nil,
      runE_num c.vc _ 2 _ _ (iphdr_path c hc h sets "version" (by simp)),
      runE_num c.vc _ 2 _ _ (iphdr_path c hc h sets "length" (by simp)),
      runE_num c.vc _ 4 _ _ (iphdr_path c hc h sets "export_time" (by simp)),
      runE_num c.vc _ 4 _ _ (iphdr_path c hc h sets "sequence_number" (by simp)),
      runE_num c.vc _ 4 _ _ (iphdr_path c hc h sets "observation_domain_id" (by simp)),
      runE_each c.vc _ _ _ _ sets treeOfIpSet (by simp [EEnv.path, ETree.walk, ETree.field, List.lookup, treeOfIpfix])]
  simp only [ipset_prog]
  unfold exportIpfix
  rw [hc, ho]
  simp [Out.append, exportByOrder, Generated.ipHdrOrder, Layout.widthOf, Generated.ipHdr, List.find?]
  cases Out.concat (List.map (exportIpSet c.vc) sets) <;> simp

end Netflow.G3
