/-
  Lemmas/G4Nom.lean — the interpretation (`structP`) of the derive(Nom) field programs regenerated from v9.rs / ipfix.rs IS the hand-written
  template-record parser of V9.lean / Ipfix.lean, up to the tree view of ExportProg.lean.  Here: what is common to all structs;
  the structs themselves are in Props/NomGen.lean.
-/
import NetflowModel.NomProg
import NetflowModel.GeneratedNom
import NetflowModel.Lemmas.Basic
namespace Netflow.G4
open Netflow

abbrev tbl := Generated.nomStructs

/-- a parser post-composed with a map on its value -/
def pmap {α β : Type} (f : α → β) (p : P α) : P β := fun i =>
  match p i with
  | none => none
  | some (a, r) => some (f a, r)

theorem pmap_apply {α β : Type} (f : α → β) (p : P α) (i : Bytes) :
    pmap f p i = (match p i with | none => none | some (a, r) => some (f a, r)) := rfl

theorem countP_pmap {α β : Type} (f : α → β) (p : P α) (n : Nat) (i : Bytes) :
    countP (pmap f p) n i = (match countP p n i with | none => none | some (as, r) => some (as.map f, r)) := by
  induction n generalizing i with
  | zero => rfl
  | succ n ih =>
    simp only [countP, pmap_apply, ih]
    rcases p i with _ | ⟨a, r⟩
    · rfl
    dsimp only
    rcases countP p n r with _ | ⟨as, r'⟩ <;> rfl

theorem many0F_pmap {α β : Type} (f : α → β) (p : P α) (fuel : Nat) (i : Bytes) :
    many0F (pmap f p) fuel i =
      (match many0F p fuel i with | .ok (as, r) => .ok (as.map f, r) | .err => .err | .outOfFuel => .outOfFuel) := by
  induction fuel generalizing i with
  | zero => rfl
  | succ fuel ih =>
    simp only [many0F, pmap_apply, ih]
    rcases p i with _ | ⟨a, r⟩
    · rfl
    dsimp only
    split
    · rfl
    · rcases many0F p fuel r with ⟨as, r'⟩ | _ | _ <;> rfl

theorem many0_pmap {α β : Type} (f : α → β) (p : P α) (i : Bytes) :
    many0 (pmap f p) i =
      (match many0 p i with | .ok (as, r) => .ok (as.map f, r) | .err => .err | .outOfFuel => .outOfFuel) :=
  many0F_pmap f p _ i

/-- `S::parse` runs the fields the table lists for `S` -/
theorem structP_of_lookup {t : List (String × List NomField)} {s : String} {fs : List NomField} (h : t.lookup s = some fs)
    (k : Nat) (i : Bytes) :
    structP t (k + 1) s i =
      (match runFields (structP t k) fs [] i with | none => none | some (env, r) => some (.struct env, r)) := by
  simp only [structP, h]
  rfl

theorem tbl_nodup : (tbl.map (·.1)).Nodup := by decide +kernel

/-- the entry at a known position of the regenerated table is what `lookup` finds (no name is compared) -/
theorem lookup_at {j : Nat} {s : String} {fs : List NomField} (h : tbl[j]? = some (s, fs)) : tbl.lookup s = some fs :=
  lookup_of_mem tbl_nodup (List.mem_of_getElem? h)

/-- a struct of a greedy list of `s` and the rest as padding (`v9::Templates`, `v9::OptionsTemplates`) -/
theorem many0_rest_struct {t : List (String × List NomField)} {S s n₁ n₂ : String} {α : Type} {tr : α → ETree} {p : P α} {k : Nat}
    (hl : t.lookup S = some [.many0 n₁ s, .rest n₂]) (hs : structP t k s = pmap tr p) (i : Bytes) :
    structP t (k + 1) S i =
      (loopToOpt (many0 p i)).map fun x => (.struct [(n₁, .list (x.1.map tr)), (n₂, .bytes x.2)], []) := by
  rw [structP_of_lookup hl]
  simp only [runFields, hs, many0_pmap]
  rcases many0 p i with ⟨ts, pad⟩ | _ | _ <;> rfl

def treeOfIpTemplate (t : IpTemplate) : ETree :=
  .struct [("template_id", .num t.id), ("field_count", .num t.fieldCount), ("fields", .list (t.fields.map treeOfIpTField)), ("padding", .bytes t.pad)]

def treeOfIpOptTemplate (t : IpOptTemplate) : ETree :=
  .struct [("template_id", .num t.id), ("field_count", .num t.fieldCount), ("scope_field_count", .num t.scopeCount),
           ("fields", .list (t.fields.map treeOfIpTField)), ("padding", .bytes t.pad)]

/-- these are the payloads of the `Template` / `OptionsTemplate` variants in the exporter's tree view -/
theorem treeOfIpBody_template (t : IpTemplate) : treeOfIpBody (.template t) = .variant "Template" (treeOfIpTemplate t) := rfl
theorem treeOfIpBody_optTemplate (t : IpOptTemplate) : treeOfIpBody (.optTemplate t) = .variant "OptionsTemplate" (treeOfIpOptTemplate t) := rfl

end Netflow.G4
