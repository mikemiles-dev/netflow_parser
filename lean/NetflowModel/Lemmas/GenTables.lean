/-
  Lemmas/GenTables.lean — facts about the generated tables, evaluated once.  The protocol tables of
  `protocol.rs` against the IANA registry (`Spec/Iana.lean`): `ianaDisc n` is the variant that carries
  the IANA name of `n` (`protoDiscOf_generated`), what `From<u8> for ProtocolTypes` returns
  (`protoFromU8_generated`), which numbers the derived enum parser accepts (`protoParse_generated`).
  Two facts the property files cite: the IPFIX set header occupies bytes (`generated_ipSetHdr_pos`) and the
  crate declares no global state (`generated_noGlobals`).  The rest is table lookup in general: a
  duplicate-freeness test by bit mask (`nodupMask`, linear in the table), `lookupD_mem` and `lookupD_of_all`.
-/
import NetflowModel.Generated
import NetflowModel.Lemmas.Basic
import NetflowModel.Spec.Expected
namespace Netflow
open Spec

theorem lookupD_of_mem {β : Type} {tbl : List (Nat × β)} (hk : (tbl.map (·.1)).Nodup) {n : Nat} {v : β}
    (h : (n, v) ∈ tbl) (d : β) : Generated.lookupD tbl d n = v := by
  rw [Generated.lookupD, lookup_of_mem hk h]; rfl

theorem lookupD_of_not_mem {β : Type} {tbl : List (Nat × β)} {n : Nat} (h : n ∉ tbl.map (·.1)) (d : β) :
    Generated.lookupD tbl d n = d := by
  induction tbl with
  | nil => rfl
  | cons p ps ih =>
    simp only [List.map_cons, List.mem_cons, not_or] at h
    have : (n == p.1) = false := beq_false_of_ne h.1
    simpa [Generated.lookupD, List.lookup, this] using ih h.2

/-- discriminant of the `ProtocolTypes` variant that carries the IANA name of protocol number `n`:
    the enum declares `Hopopt = 0 … Aggfrag = 144`, `Unknown = 145`, `Reserved = 255` -/
def ianaDisc (n : Nat) : Nat := if n ≤ 144 ∨ n = 255 then n else 145

/-- 145..254 are not assigned -/
theorem ianaName_unassigned {n : Nat} (h : 145 ≤ n) (h' : n ≠ 255) : ianaName n = "Unknown" := by
  have hl : ianaAssigned.length = 145 := by decide +kernel
  simp [ianaName, h', List.getElem?_eq_none (hl ▸ h)]

theorem protoDiscOf_generated (n : Nat) : protoDiscOf Generated.protoNames n = some (ianaDisc n) :=
  -- the name search over the generated table, for the numbers that have a name of their own
  have named : (∀ n, n < 146 → protoDiscOf Generated.protoNames n = some n) ∧
      protoDiscOf Generated.protoNames 255 = some 255 := by decide +kernel
  by
    unfold ianaDisc
    split
    · next h =>
      rcases h with h | rfl
      · exact named.1 n (by omega)
      · exact named.2
    · next h =>
      have := named.1 145 (Nat.lt_succ_self _)
      rw [protoDiscOf, ianaName_unassigned (Nat.le_refl _) (by decide)] at this
      rw [protoDiscOf, ianaName_unassigned (by omega) (by omega)]
      exact this

theorem protoDiscOf_mem {names : List (Nat × String)} {n d : Nat} (h : protoDiscOf names n = some d) :
    (d, ianaName n) ∈ names := by
  unfold protoDiscOf at h
  split at h
  · next p hp =>
    have := List.find?_some hp
    simp only [beq_iff_eq] at this
    cases h
    exact this ▸ List.mem_of_find?_eq_some hp
  · cases h

theorem protoNames_keys_nodup : (Generated.protoNames.map (·.1)).Nodup := by
  have : Generated.protoNames.map (·.1) = List.range 146 ++ [255] := by decide +kernel
  rw [this]
  exact List.nodup_append.mpr ⟨List.nodup_range, by simp, by simp; omega⟩

/-- the variant name of the discriminant `ianaDisc n` is the IANA name of `n` -/
theorem protoNames_lookup_ianaDisc (n : Nat) :
    Generated.protoNames.lookup (ianaDisc n) = some (ianaName n) :=
  lookup_of_mem protoNames_keys_nodup (protoDiscOf_mem (protoDiscOf_generated n))

theorem protoSpecDisc_generated (n : Nat) : protoSpecDisc Generated.protoNames n = ianaDisc n := by
  rw [protoSpecDisc, protoDiscOf_generated n]; rfl

/-- `From<u8> for ProtocolTypes` has an arm `k => k` for 2..143 and the wrong arms `1 => Hopopt`,
    `144 => Reserved`; everything else, 0 and 255 included, falls through to `Unknown` -/
theorem protoFromU8_generated {n : Nat} (hb : n ∉ [0, 1, 144, 255]) :
    Generated.tables.protoFromU8 n = ianaDisc n := by
  have keys : Generated.protoFromU8Tbl.map (·.1) = List.range' 1 144 := by decide +kernel
  have vals : ∀ p ∈ Generated.protoFromU8Tbl, p.1 ∈ [0, 1, 144, 255] ∨ p.2 = p.1 := by decide +kernel
  simp only [List.mem_cons, List.not_mem_nil, or_false, not_or] at hb
  show Generated.lookupD Generated.protoFromU8Tbl 145 n = ianaDisc n
  by_cases h : n ≤ 144
  · have : n ∈ Generated.protoFromU8Tbl.map (·.1) := by rw [keys, List.mem_range']; exact ⟨n - 1, by omega, by omega⟩
    obtain ⟨⟨k, v⟩, hp, rfl⟩ := List.mem_map.mp this
    rw [lookupD_of_mem (keys ▸ List.nodup_range') hp, ianaDisc, if_pos (Or.inl h)]
    exact (vals _ hp).resolve_left (by simp [hb])
  · rw [lookupD_of_not_mem (by rw [keys, List.mem_range']; omega), ianaDisc, if_neg (by omega)]

/-- the derived `ProtocolTypes::parse` accepts exactly the declared discriminants -/
theorem protoParse_generated (n : Nat) :
    Generated.tables.protoParse n = if n ≤ 145 ∨ n = 255 then some n else none := by
  have discs : Generated.protoDiscs = List.range 146 ++ [255] := by decide +kernel
  show (if Generated.protoDiscs.contains n then some n else none) = _
  simp only [discs, List.contains_iff_mem, List.mem_append, List.mem_range, List.mem_singleton]
  congr 1
  exact propext ⟨fun h => by omega, fun h => by omega⟩

/-- the IPFIX set header occupies bytes, so every set the loop accepts makes progress -/
theorem generated_ipSetHdr_pos : 0 < Generated.tables.ipSetHdr.wireLen := by decide +kernel

/-! ### sets of small numbers as bit masks: a membership test is one step of kernel arithmetic -/

def maskOf (ks : List Nat) : Nat := ks.foldl (fun m k => m ||| 1 <<< k) 0

theorem testBit_foldl_mask {ks : List Nat} {m k : Nat}
    (h : (ks.foldl (fun m k => m ||| 1 <<< k) m).testBit k = true) : m.testBit k = true ∨ k ∈ ks := by
  induction ks generalizing m with
  | nil => exact Or.inl h
  | cons j js ih =>
    rcases ih h with h | h
    · rw [Nat.testBit_or, Nat.one_shiftLeft, Nat.testBit_two_pow, Bool.or_eq_true, decide_eq_true_eq] at h
      rcases h with h | rfl
      · exact Or.inl h
      · exact Or.inr List.mem_cons_self
    · exact Or.inr (List.mem_cons_of_mem _ h)

theorem mem_of_testBit_maskOf {ks : List Nat} {k : Nat} (h : (maskOf ks).testBit k = true) : k ∈ ks :=
  (testBit_foldl_mask h).resolve_left (by simp)

/-- no number occurs twice in `ks`: each is tested against the mask of those before it -/
def nodupMask (m : Nat) : List Nat → Bool
  | [] => true
  | k :: ks => !m.testBit k && nodupMask (m ||| 1 <<< k) ks

theorem nodupMask_sound {ks : List Nat} {m : Nat} (h : nodupMask m ks = true) :
    ks.Nodup ∧ ∀ k ∈ ks, m.testBit k = false := by
  induction ks generalizing m with
  | nil => simp
  | cons j js ih =>
    simp only [nodupMask, Bool.and_eq_true, Bool.not_eq_eq_eq_not, Bool.not_true] at h
    obtain ⟨hn, hm⟩ := ih h.2
    refine ⟨List.nodup_cons.mpr ⟨fun hj => ?_, hn⟩, fun k hk => ?_⟩
    · simpa [Nat.testBit_or, Nat.one_shiftLeft, Nat.testBit_two_pow] using hm j hj
    · rcases List.mem_cons.mp hk with rfl | hk
      · exact h.1
      · have := hm k hk
        rw [Nat.testBit_or, Bool.or_eq_false_iff] at this
        exact this.1

/-- every value a table-driven conversion can return is in `ks` -/
theorem lookupD_mem {tbl : List (Nat × Nat)} {d : Nat} {ks : List Nat}
    (h : (d :: tbl.map (·.2)).all (maskOf ks).testBit = true) (x : Nat) : Generated.lookupD tbl d x ∈ ks := by
  simp only [List.all_cons, List.all_map, Bool.and_eq_true, List.all_eq_true, Function.comp] at h
  unfold Generated.lookupD
  cases hl : tbl.lookup x with
  | none => exact mem_of_testBit_maskOf h.1
  | some v => exact mem_of_testBit_maskOf (h.2 _ (lookup_mem hl))

theorem lookupD_of_all {β : Type} (tbl : List (Nat × β)) (dflt : β) (q : β → Bool)
    (hall : tbl.all (fun p => q p.2) = true) (hd : q dflt = true) (n : Nat) : q (Generated.lookupD tbl dflt n) = true := by
  unfold Generated.lookupD
  cases hl : tbl.lookup n with
  | none => simpa using hd
  | some b =>
    have := List.all_eq_true.mp hall (n, b) (lookup_mem hl)
    simpa using this

/-- (regenerated from the source on every run) the library declares no mutable global or per-thread state
    (`static mut`, `thread_local!`, `OnceLock`/`OnceCell`/`lazy_static!`, `static … : Mutex|RwLock|Atomic…`), as the model
    assumes by making `parseBytes` a function of `(config, parser state, buffer)` -/
theorem generated_noGlobals : Generated.noGlobals = true := by decide

end Netflow
