/-
  Lemmas/History.lean — HISTORIES of `parse_bytes` calls on one parser value in which the caller may
  change the public field `allowed_versions` between calls.

  A `Call` is the allowed set in force during the call plus the buffer handed over.  `runHistory` threads
  the template caches through the calls and collects each call's outcome; `stateBefore … k` is the cache
  state at the start of the k-th call (0-based).  The one workhorse is `call_eq`: the k-th call of a
  history IS the per-call function `parseBytes` applied at `stateBefore … k` under the k-th call's own
  configuration — so every per-call theorem that is quantified over the start state and the
  configuration lifts to every point of every history.  No parser function is unfolded here.
-/
import NetflowModel.Lemmas.JsonFaithful
namespace Netflow.H1
open Netflow

/-- one `parse_bytes` call: the value of `allowed_versions` in force, and the buffer -/
structure Call where
  allowed : List Nat
  buf : Bytes
  deriving Repr, DecidableEq

/-- the configuration of one call: the tables and the compile-time feature are fixed for the whole history,
    the allowed set is the call's own -/
def cfgOf (t : Tables) (uf : Bool) (call : Call) : Config :=
  { t := t, allowed := call.allowed, unknownFields := uf }

@[simp] theorem cfgOf_t (t : Tables) (uf : Bool) (call : Call) : (cfgOf t uf call).t = t := rfl
@[simp] theorem cfgOf_allowed (t : Tables) (uf : Bool) (call : Call) : (cfgOf t uf call).allowed = call.allowed := rfl
@[simp] theorem cfgOf_uf (t : Tables) (uf : Bool) (call : Call) : (cfgOf t uf call).unknownFields = uf := rfl

/-- run a history from cache state `st`: final caches and the list of the calls' outcomes -/
def runHistory (t : Tables) (uf : Bool) : PState → List Call → PState × List Outcome
  | st, [] => (st, [])
  | st, call :: rest =>
    ((runHistory t uf (parseBytes (cfgOf t uf call) st call.buf).1 rest).1,
     (parseBytes (cfgOf t uf call) st call.buf).2 ::
       (runHistory t uf (parseBytes (cfgOf t uf call) st call.buf).1 rest).2)

/-- the caches at the start of the k-th call (k ≥ length: the final caches) -/
def stateBefore (t : Tables) (uf : Bool) : PState → List Call → Nat → PState
  | st, _, 0 => st
  | st, [], _ + 1 => st
  | st, call :: rest, k + 1 => stateBefore t uf (parseBytes (cfgOf t uf call) st call.buf).1 rest k

@[simp] theorem stateBefore_zero (t : Tables) (uf : Bool) (st : PState) (hist : List Call) :
    stateBefore t uf st hist 0 = st := by
  cases hist <;> rfl

@[simp] theorem stateBefore_nil (t : Tables) (uf : Bool) (st : PState) (k : Nat) :
    stateBefore t uf st [] k = st := by
  cases k <;> rfl

theorem runHistory_length (t : Tables) (uf : Bool) (st : PState) (hist : List Call) :
    (runHistory t uf st hist).2.length = hist.length := by
  induction hist generalizing st with
  | nil => rfl
  | cons call rest ih => simp only [runHistory, List.length_cons, ih]

/-- **the workhorse**: the k-th call of a history is `parseBytes` under the k-th call's configuration,
    started in `stateBefore … k`; it ends in `stateBefore … (k+1)` and its outcome is the k-th collected one -/
theorem call_eq (t : Tables) (uf : Bool) (st : PState) (hist : List Call) (k : Nat) (call : Call)
    (hk : hist[k]? = some call) :
    ∃ o, (runHistory t uf st hist).2[k]? = some o ∧
      parseBytes (cfgOf t uf call) (stateBefore t uf st hist k) call.buf = (stateBefore t uf st hist (k + 1), o) := by
  induction hist generalizing st k with
  | nil => simp at hk
  | cons c rest ih =>
    cases k with
    | zero =>
      simp only [List.getElem?_cons_zero, Option.some.injEq] at hk
      subst hk
      exact ⟨(parseBytes (cfgOf t uf c) st c.buf).2, by simp only [runHistory, List.getElem?_cons_zero],
        by simp only [stateBefore, stateBefore_zero]⟩
    | succ k =>
      simp only [List.getElem?_cons_succ] at hk
      obtain ⟨o, h1, h2⟩ := ih (parseBytes (cfgOf t uf c) st c.buf).1 k hk
      exact ⟨o, by simp only [runHistory, List.getElem?_cons_succ, h1], by simp only [stateBefore]; exact h2⟩

/-- the k-th collected outcome -/
theorem outcome_eq (t : Tables) (uf : Bool) (st : PState) (hist : List Call) (k : Nat) (call : Call)
    (hk : hist[k]? = some call) :
    (runHistory t uf st hist).2[k]? =
      some (parseBytes (cfgOf t uf call) (stateBefore t uf st hist k) call.buf).2 := by
  obtain ⟨o, h1, h2⟩ := call_eq t uf st hist k call hk
  rw [h1, h2]

/-- the caches after the k-th call -/
theorem stateBefore_succ (t : Tables) (uf : Bool) (st : PState) (hist : List Call) (k : Nat) (call : Call)
    (hk : hist[k]? = some call) :
    stateBefore t uf st hist (k + 1) =
      (parseBytes (cfgOf t uf call) (stateBefore t uf st hist k) call.buf).1 := by
  obtain ⟨o, _, h2⟩ := call_eq t uf st hist k call hk
  rw [h2]

/-- the final caches are the caches "before the call after the last one" -/
theorem runHistory_final (t : Tables) (uf : Bool) (st : PState) (hist : List Call) :
    (runHistory t uf st hist).1 = stateBefore t uf st hist hist.length := by
  induction hist generalizing st with
  | nil => rfl
  | cons call rest ih => simp only [runHistory, stateBefore, List.length_cons, ih]

/-- `stateBefore … k` is the final state of the history cut after `k` calls -/
theorem stateBefore_eq_take (t : Tables) (uf : Bool) (st : PState) (hist : List Call) (k : Nat) :
    stateBefore t uf st hist k = (runHistory t uf st (hist.take k)).1 := by
  induction hist generalizing st k with
  | nil => simp [runHistory]
  | cons call rest ih =>
    cases k with
    | zero => simp [runHistory]
    | succ k => simp only [stateBefore, List.take_succ_cons, runHistory, ih]

/-- beyond the end of the history nothing changes any more -/
theorem stateBefore_ge (t : Tables) (uf : Bool) (st : PState) (hist : List Call) (k : Nat) (h : hist.length ≤ k) :
    stateBefore t uf st hist k = (runHistory t uf st hist).1 := by
  rw [stateBefore_eq_take, List.take_of_length_le h]

/-- an invariant of single calls (under every allowed set) is an invariant of histories -/
theorem stateBefore_inv {I : PState → Prop} (t : Tables) (uf : Bool)
    (hstep : ∀ (call : Call) (st : PState), I st → I (parseBytes (cfgOf t uf call) st call.buf).1)
    (st : PState) (hist : List Call) (k : Nat) (h : I st) : I (stateBefore t uf st hist k) := by
  induction hist generalizing st k with
  | nil => simpa using h
  | cons call rest ih =>
    cases k with
    | zero => simpa using h
    | succ k => simp only [stateBefore]; exact ih _ k (hstep call st h)

/-- a property of single outcomes (under every allowed set, from every state) holds of every collected outcome -/
theorem outcomes_all {Q : Outcome → Prop} (t : Tables) (uf : Bool)
    (hall : ∀ (call : Call) (st : PState), Q (parseBytes (cfgOf t uf call) st call.buf).2)
    (st : PState) (hist : List Call) : ∀ o ∈ (runHistory t uf st hist).2, Q o := by
  induction hist generalizing st with
  | nil => intro o ho; simp [runHistory] at ho
  | cons call rest ih =>
    intro o ho
    simp only [runHistory, List.mem_cons] at ho
    rcases ho with rfl | ho
    · exact hall call st
    · exact ih _ o ho

/-- appending calls: the second part runs from the state the first part reached -/
theorem runHistory_append (t : Tables) (uf : Bool) (st : PState) (h1 h2 : List Call) :
    runHistory t uf st (h1 ++ h2) =
      ((runHistory t uf (runHistory t uf st h1).1 h2).1,
       (runHistory t uf st h1).2 ++ (runHistory t uf (runHistory t uf st h1).1 h2).2) := by
  induction h1 generalizing st with
  | nil => rfl
  | cons call rest ih => simp only [List.cons_append, runHistory, ih]

/-! ### the JSON of a decoded packet does not depend on the allowed set (only on the tables) -/

theorem v9BodyJ_tables (c1 c2 : Config) (h : c1.t = c2.t) (nm : JNames) (b : V9Body) :
    v9BodyJ c1 nm b = v9BodyJ c2 nm b := by
  cases b <;> simp only [v9BodyJ, h]

theorem ipTFieldJ_tables (c1 c2 : Config) (h : c1.t = c2.t) (nm : JNames) (f : IpTField) :
    ipTFieldJ c1 nm f = ipTFieldJ c2 nm f := by
  simp only [ipTFieldJ, ipFieldDisc, h]

theorem ipBodyJ_tables (c1 c2 : Config) (h : c1.t = c2.t) (nm : JNames) (b : IpBody) :
    ipBodyJ c1 nm b = ipBodyJ c2 nm b := by
  have : ipTFieldJ c1 nm = ipTFieldJ c2 nm := funext (ipTFieldJ_tables c1 c2 h nm)
  cases b <;> simp only [ipBodyJ, this]

/-- `toJ` reads the configuration only through its tables -/
theorem toJ_tables (c1 c2 : Config) (h : c1.t = c2.t) (nm : JNames) (p : Packet) : toJ c1 nm p = toJ c2 nm p := by
  have h9 : v9BodyJ c1 nm = v9BodyJ c2 nm := funext (v9BodyJ_tables c1 c2 h nm)
  have h10 : ipBodyJ c1 nm = ipBodyJ c2 nm := funext (ipBodyJ_tables c1 c2 h nm)
  cases p <;> simp only [toJ, h, h9, h10]

/-- … and so does the well-formedness predicate of C16 -/
theorem pktWf_tables (c1 c2 : Config) (h : c1.t = c2.t) (nm : JNames) (p : Packet) :
    B1.pktWf c1 nm p = B1.pktWf c2 nm p := by
  cases p <;> simp only [B1.pktWf, h]

end Netflow.H1
