/-
  Lemmas/Inversion.lean — what each parser function does, stated once: equations and inversions for every
  level of the call tower (record, body, set, set loop, packet, dispatcher), the exact number of
  bytes the primitives consume, and `Run`, the trace of one `parse_bytes` call, whose induction
  principle stands in for induction on the fuel of `parseBytesF`.  Whole-call facts are proved about `Run`
  (`Run.forall`, `Run.inv`, …) and reach `parseBytes` through `parseBytes_done_iff`; the `parseBytesF_…`
  forms exist for statements that are indexed by the fuel.
-/
import NetflowModel.Lemmas.Basic
namespace Netflow

/-! ## exact length consumed -/

/-- the number of consumed bytes is a function `f` of the decoded value -/
def Sized {α : Type} (p : P α) (f : α → Nat) : Prop :=
  ∀ i v r, p i = some (v, r) → f v + r.length = i.length

theorem Consumes.sized {α : Type} {p : P α} {n : Nat} (h : Consumes p n) : Sized p (fun _ => n) := by
  intro i v r hp
  obtain ⟨h1, h2⟩ := h i v r hp
  show n + r.length = i.length
  rw [h2, List.length_drop]; omega

theorem Sized.le {α : Type} {p : P α} {f : α → Nat} (h : Sized p f) {i r : Bytes} {v : α}
    (hp : p i = some (v, r)) : r.length ≤ i.length := by
  have := h i v r hp; omega

theorem takeN_sized (n : Nat) : Sized (takeN n) (fun v => v.length) := by
  intro i v r h
  obtain ⟨h1, h2, h3⟩ := takeN_some h
  subst h2 h3
  simp only [List.length_take, List.length_drop]; omega

theorem beU_sized (w : Nat) : Sized (beU w) (fun _ => w) := (beU_consumes w).sized

theorem beU_lt {w : Nat} {i r : Bytes} {v : Nat} (h : beU w i = some (v, r)) : v < 256 ^ w := by
  obtain ⟨h1, h2, _⟩ := beU_some h
  subst h2
  have := beNat_lt (i.take w)
  rwa [List.length_take, Nat.min_eq_left h1] at this

theorem parseLayout_sized (proto : Nat → Nat) (lay : Layout) :
    Sized (parseLayout proto lay) (fun _ => lay.wireLen) := (parseLayout_consumes proto lay).sized

/-- `count` of a parser that always consumes `n` bytes: the size is `n *` the number of results -/
theorem countP_sized {α : Type} {p : P α} {n : Nat} (hp : Consumes p n) (k : Nat) :
    Sized (countP p k) (fun as => n * as.length) := by
  intro i v r h
  obtain ⟨h1, h2, h3⟩ := countP_consumes hp k i v r h
  subst h2
  simp only [List.length_drop, h3]; omega

theorem parseFixed_some {c : Config} {hdr rec : Layout} {i : Bytes} {h : List Nat} {rs : List (List Nat)} {r : Bytes}
    (hp : parseFixed c hdr rec i = some ((h, rs), r)) :
    ∃ r1, parseLayout c.t.protoFromU8 hdr i = some (h, r1) ∧
      countP (parseLayout c.t.protoFromU8 rec) (hdr.get "count" h) r1 = some (rs, r) := by
  unfold parseFixed at hp
  split at hp
  · cases hp
  · split at hp
    · cases hp
    · cases hp; exact ⟨_, by assumption, by assumption⟩

theorem parseFixed_eq_some_iff {c : Config} {hdr rec : Layout} {i : Bytes} {h : List Nat} {rs : List (List Nat)}
    {r : Bytes} :
    parseFixed c hdr rec i = some ((h, rs), r) ↔
      ∃ r1, parseLayout c.t.protoFromU8 hdr i = some (h, r1) ∧
        countP (parseLayout c.t.protoFromU8 rec) (hdr.get "count" h) r1 = some (rs, r) :=
  ⟨parseFixed_some, fun ⟨_, hh, hc⟩ => by simp only [parseFixed, hh, hc]⟩

theorem parseFixed_consumes (c : Config) (hdr rec : Layout) (i : Bytes) (h : List Nat) (rs : List (List Nat)) (r : Bytes)
    (hp : parseFixed c hdr rec i = some ((h, rs), r)) :
    hdr.wireLen + rec.wireLen * hdr.get "count" h ≤ i.length ∧
    r = i.drop (hdr.wireLen + rec.wireLen * hdr.get "count" h) ∧ rs.length = hdr.get "count" h := by
  obtain ⟨r1, hh, hc⟩ := parseFixed_some hp
  obtain ⟨a1, a2⟩ := parseLayout_consumes _ _ _ _ _ hh
  obtain ⟨b1, b2, b3⟩ := countP_consumes (parseLayout_consumes c.t.protoFromU8 rec) _ _ _ _ hc
  subst a2
  rw [List.length_drop] at b1
  exact ⟨by omega, by rw [b2, List.drop_drop], b3⟩

theorem parseFixed_sized (c : Config) (hdr rec : Layout) :
    Sized (parseFixed c hdr rec) (fun v => hdr.wireLen + rec.wireLen * hdr.get "count" v.1) := by
  intro i v r hp
  obtain ⟨a1, a2, _⟩ := parseFixed_consumes c hdr rec i v.1 v.2 r hp
  subst a2
  simp only [List.length_drop]; omega

theorem parseTField_consumes : Consumes parseTField 4 := by
  intro i a r h
  unfold parseTField at h
  split at h
  · cases h
  · next h1 =>
    split at h
    · cases h
    · next h2 =>
      cases h
      obtain ⟨a1, rfl⟩ := beU_consumes 2 _ _ _ h1
      obtain ⟨a2, rfl⟩ := beU_consumes 2 _ _ _ h2
      rw [List.length_drop] at a2
      exact ⟨by omega, List.drop_drop ..⟩

/-- a V9 template record: id, field count, four bytes per field -/
theorem parseV9Template_sized : Sized parseV9Template (fun t => 4 + 4 * t.fields.length) := by
  intro i t r h
  unfold parseV9Template at h
  split at h
  · cases h
  · next h1 =>
    split at h
    · cases h
    · next h2 =>
      split at h
      · cases h
      · next h3 =>
        cases h
        have := beU_sized 2 _ _ _ h1
        have := beU_sized 2 _ _ _ h2
        have := countP_sized parseTField_consumes _ _ _ _ h3
        simp only at *
        omega

/-- a V9 options template record: id, the two lengths, four bytes per scope and option field -/
theorem parseV9OptTemplate_sized :
    Sized parseV9OptTemplate (fun t => 6 + 4 * (t.scope.length + t.opts.length)) := by
  intro i t r h
  unfold parseV9OptTemplate at h
  split at h
  · cases h
  · next h1 =>
    split at h
    · cases h
    · next h2 =>
      split at h
      · cases h
      · next h3 =>
        split at h
        · cases h
        · next h4 =>
          split at h
          · cases h
          · next h5 =>
            cases h
            have := beU_sized 2 _ _ _ h1
            have := beU_sized 2 _ _ _ h2
            have := beU_sized 2 _ _ _ h3
            have := countP_sized parseTField_consumes _ _ _ _ h4
            have := countP_sized parseTField_consumes _ _ _ _ h5
            simp only at *
            omega

/-- an IPFIX template field: four bytes, eight with an enterprise number -/
theorem parseIpTField_sized : Sized parseIpTField (fun f => if f.ent.isSome then 8 else 4) := by
  intro i f r h
  unfold parseIpTField at h
  split at h
  · cases h
  · next h1 =>
    split at h
    · cases h
    · next h2 =>
      have := beU_sized 2 _ _ _ h1
      have := beU_sized 2 _ _ _ h2
      split at h
      · split at h
        · cases h
        · next h3 =>
          simp only [Option.some.injEq, Prod.mk.injEq] at h
          obtain ⟨rfl, rfl⟩ := h
          have := beU_sized 4 _ _ _ h3
          simp only [Option.isSome_some, ↓reduceIte] at *
          omega
      · simp only [Option.some.injEq, Prod.mk.injEq] at h
        obtain ⟨rfl, rfl⟩ := h
        simp only [Option.isSome_none, Bool.false_eq_true, ↓reduceIte] at *
        omega

theorem parseIpTField_len {i r : Bytes} {f : IpTField} (h : parseIpTField i = some (f, r)) :
    r.length + 4 ≤ i.length := by
  have := parseIpTField_sized i f r h
  simp only at this
  split at this <;> omega

/-! ## suffix property -/

/-- a parser that only ever returns a suffix-length remainder -/
def Suffix {α : Type} (p : P α) : Prop := ∀ i a r, p i = some (a, r) → r.length ≤ i.length

theorem Sized.suffix {α : Type} {p : P α} {f : α → Nat} (h : Sized p f) : Suffix p :=
  fun _ _ _ hp => h.le hp

theorem Consumes.suffix {α : Type} {p : P α} {n : Nat} (h : Consumes p n) : Suffix p :=
  h.sized.suffix

theorem beU_suffix (w : Nat) : Suffix (beU w) := (beU_sized w).suffix

theorem countP_suffix {α : Type} {p : P α} (hp : Suffix p) (n : Nat) : Suffix (countP p n) :=
  countP_rec (fun i _ r => r.length ≤ i.length) (fun _ => Nat.le_refl _)
    (fun _ _ _ _ _ h1 h2 => Nat.le_trans h2 (hp _ _ _ h1)) n

theorem parseTField_suffix : Suffix parseTField := parseTField_consumes.suffix

theorem parseV9Template_suffix : Suffix parseV9Template := parseV9Template_sized.suffix
theorem parseV9OptTemplate_suffix : Suffix parseV9OptTemplate := parseV9OptTemplate_sized.suffix
theorem parseIpTField_suffix : Suffix parseIpTField := parseIpTField_sized.suffix

/-- `many0` never runs out of fuel with the fuel the model gives it -/
theorem many0F_fuel {α : Type} {p : P α} (hp : Suffix p) :
    ∀ (f : Nat) (i : Bytes), i.length < f → many0F p f i ≠ .outOfFuel := by
  intro f
  induction f with
  | zero => intro i h; omega
  | succ f ih =>
    intro i h
    unfold many0F
    cases h1 : p i with
    | none => simp
    | some ar =>
      obtain ⟨a, r⟩ := ar
      simp only
      have := hp _ _ _ h1
      by_cases he : r.length = i.length
      · simp [he]
      · simp only [he, ↓reduceIte]
        have := ih r (by omega)
        grind

theorem many0_fuel {α : Type} {p : P α} (hp : Suffix p) (i : Bytes) : many0 p i ≠ .outOfFuel :=
  many0F_fuel hp _ _ (Nat.lt_succ_self _)

/-! ## the dispatcher -/

theorem liftRes_ok {v : Nat} {b : Bytes} {x : Res (Packet × Bytes)} {p : Packet} {r : Bytes} :
    liftRes v b x = .ok p r ↔ x = .ok (p, r) := by
  cases x with
  | ok a => obtain ⟨p', r'⟩ := a; simp [liftRes]
  | _ => simp [liftRes]

theorem liftRes_fail {v : Nat} {b : Bytes} {x : Res (Packet × Bytes)} {e : ErrKind} :
    liftRes v b x = .fail e ↔ x = .err ∧ e = .partialParse v b := by
  cases x with
  | ok a => obtain ⟨p', r'⟩ := a; simp [liftRes]
  | err => simp [liftRes, eq_comm]
  | _ => simp [liftRes]

theorem liftRes_panic {v : Nat} {b : Bytes} {x : Res (Packet × Bytes)} : liftRes v b x = .panic ↔ x = .panic := by
  cases x with
  | ok a => obtain ⟨p', r'⟩ := a; simp [liftRes]
  | _ => simp [liftRes]

theorem liftRes_overflow {v : Nat} {b : Bytes} {x : Res (Packet × Bytes)} : liftRes v b x = .overflow ↔ x = .overflow := by
  cases x with
  | ok a => obtain ⟨p', r'⟩ := a; simp [liftRes]
  | _ => simp [liftRes]

theorem liftRes_ne_unallowed {v : Nat} {b : Bytes} {x : Res (Packet × Bytes)} : liftRes v b x ≠ .unallowed := by
  cases x with
  | ok a => obtain ⟨p', r'⟩ := a; simp [liftRes]
  | _ => simp [liftRes]

theorem parseVersioned_5_some {c : Config} {st : PState} {body : Bytes} {h : List Nat} {rs : List (List Nat)} {r : Bytes}
    (hp : parseFixed c c.t.v5Hdr c.t.v5Rec body = some ((h, rs), r)) :
    parseVersioned c st 5 body = (st, .ok (.v5 h rs) r) := by
  simp [parseVersioned, hp]

theorem parseVersioned_5_none {c : Config} {st : PState} {body : Bytes}
    (hp : parseFixed c c.t.v5Hdr c.t.v5Rec body = none) :
    parseVersioned c st 5 body = (st, .fail (.partialParse 5 body)) := by
  simp [parseVersioned, hp]

theorem parseVersioned_7_some {c : Config} {st : PState} {body : Bytes} {h : List Nat} {rs : List (List Nat)} {r : Bytes}
    (hp : parseFixed c c.t.v7Hdr c.t.v7Rec body = some ((h, rs), r)) :
    parseVersioned c st 7 body = (st, .ok (.v7 h rs) r) := by
  simp [parseVersioned, hp]

theorem parseVersioned_7_none {c : Config} {st : PState} {body : Bytes}
    (hp : parseFixed c c.t.v7Hdr c.t.v7Rec body = none) :
    parseVersioned c st 7 body = (st, .fail (.partialParse 7 body)) := by
  simp [parseVersioned, hp]

theorem parseVersioned_9 (c : Config) (st : PState) (body : Bytes) :
    parseVersioned c st 9 body = ((parseV9 c st body).1, liftRes 9 body (parseV9 c st body).2) := by
  simp [parseVersioned]

theorem parseVersioned_10 (c : Config) (st : PState) (body : Bytes) :
    parseVersioned c st 10 body = ((parseIpfix c st body).1, liftRes 10 body (parseIpfix c st body).2) := by
  simp [parseVersioned]

theorem parseVersioned_other {c : Config} {st : PState} {kind : Nat} {body : Bytes}
    (h5 : kind ≠ 5) (h7 : kind ≠ 7) (h9 : kind ≠ 9) (h10 : kind ≠ 10) :
    parseVersioned c st kind body = (st, .fail (.unknownVersion body)) := by
  simp [parseVersioned, h5, h7, h9, h10]

/-- the arms of `parseVersioned`, as a case split on `kind` that rewrites the call -/
theorem parseVersioned_cases (c : Config) (st : PState) (kind : Nat) (body : Bytes) :
    (kind = 5 ∧ ((∃ h rs r, parseFixed c c.t.v5Hdr c.t.v5Rec body = some ((h, rs), r) ∧
          parseVersioned c st kind body = (st, .ok (.v5 h rs) r)) ∨
        (parseFixed c c.t.v5Hdr c.t.v5Rec body = none ∧
          parseVersioned c st kind body = (st, .fail (.partialParse 5 body))))) ∨
    (kind = 7 ∧ ((∃ h rs r, parseFixed c c.t.v7Hdr c.t.v7Rec body = some ((h, rs), r) ∧
          parseVersioned c st kind body = (st, .ok (.v7 h rs) r)) ∨
        (parseFixed c c.t.v7Hdr c.t.v7Rec body = none ∧
          parseVersioned c st kind body = (st, .fail (.partialParse 7 body))))) ∨
    (kind = 9 ∧ parseVersioned c st kind body = ((parseV9 c st body).1, liftRes 9 body (parseV9 c st body).2)) ∨
    (kind = 10 ∧
      parseVersioned c st kind body = ((parseIpfix c st body).1, liftRes 10 body (parseIpfix c st body).2)) ∨
    (kind ≠ 5 ∧ kind ≠ 7 ∧ kind ≠ 9 ∧ kind ≠ 10 ∧
      parseVersioned c st kind body = (st, .fail (.unknownVersion body))) := by
  by_cases h5 : kind = 5
  · subst h5
    cases hp : parseFixed c c.t.v5Hdr c.t.v5Rec body with
    | none => exact Or.inl ⟨rfl, Or.inr ⟨rfl, parseVersioned_5_none hp⟩⟩
    | some x => obtain ⟨⟨h, rs⟩, r⟩ := x; exact Or.inl ⟨rfl, Or.inl ⟨h, rs, r, rfl, parseVersioned_5_some hp⟩⟩
  by_cases h7 : kind = 7
  · subst h7
    cases hp : parseFixed c c.t.v7Hdr c.t.v7Rec body with
    | none => exact Or.inr (Or.inl ⟨rfl, Or.inr ⟨rfl, parseVersioned_7_none hp⟩⟩)
    | some x =>
      obtain ⟨⟨h, rs⟩, r⟩ := x
      exact Or.inr (Or.inl ⟨rfl, Or.inl ⟨h, rs, r, rfl, parseVersioned_7_some hp⟩⟩)
  by_cases h9 : kind = 9
  · subst h9; exact Or.inr (Or.inr (Or.inl ⟨rfl, parseVersioned_9 c st body⟩))
  by_cases h10 : kind = 10
  · subst h10; exact Or.inr (Or.inr (Or.inr (Or.inl ⟨rfl, parseVersioned_10 c st body⟩)))
  exact Or.inr (Or.inr (Or.inr (Or.inr ⟨h5, h7, h9, h10, parseVersioned_other h5 h7 h9 h10⟩)))

theorem parseVersioned_ok_inv {c : Config} {st st' : PState} {kind : Nat} {body : Bytes} {pkt : Packet} {rest : Bytes}
    (h : parseVersioned c st kind body = (st', .ok pkt rest)) :
    (kind = 5 ∧ st' = st ∧ ∃ hd rs, parseFixed c c.t.v5Hdr c.t.v5Rec body = some ((hd, rs), rest) ∧ pkt = .v5 hd rs) ∨
    (kind = 7 ∧ st' = st ∧ ∃ hd rs, parseFixed c c.t.v7Hdr c.t.v7Rec body = some ((hd, rs), rest) ∧ pkt = .v7 hd rs) ∨
    (kind = 9 ∧ parseV9 c st body = (st', .ok (pkt, rest))) ∨
    (kind = 10 ∧ parseIpfix c st body = (st', .ok (pkt, rest))) := by
  rcases parseVersioned_cases c st kind body with
    ⟨hk, ⟨hd, rs, r, hp, e⟩ | ⟨_, e⟩⟩ | ⟨hk, ⟨hd, rs, r, hp, e⟩ | ⟨_, e⟩⟩ | ⟨hk, e⟩ | ⟨hk, e⟩ | ⟨_, _, _, _, e⟩
  all_goals rw [e] at h
  · cases h; exact Or.inl ⟨hk, rfl, hd, rs, hp, rfl⟩
  · cases h
  · cases h; exact Or.inr (Or.inl ⟨hk, rfl, hd, rs, hp, rfl⟩)
  · cases h
  · simp only [Prod.mk.injEq, liftRes_ok] at h
    exact Or.inr (Or.inr (Or.inl ⟨hk, Prod.ext h.1 h.2⟩))
  · simp only [Prod.mk.injEq, liftRes_ok] at h
    exact Or.inr (Or.inr (Or.inr ⟨hk, Prod.ext h.1 h.2⟩))
  · cases h

/-- a failing version-specific parse: which arm, what it reports, what happened to the state -/
theorem parseVersioned_fail_inv {c : Config} {st st' : PState} {kind : Nat} {body : Bytes} {e : ErrKind}
    (h : parseVersioned c st kind body = (st', .fail e)) :
    (kind = 5 ∧ st' = st ∧ parseFixed c c.t.v5Hdr c.t.v5Rec body = none ∧ e = .partialParse 5 body) ∨
    (kind = 7 ∧ st' = st ∧ parseFixed c c.t.v7Hdr c.t.v7Rec body = none ∧ e = .partialParse 7 body) ∨
    (kind = 9 ∧ parseV9 c st body = (st', .err) ∧ e = .partialParse 9 body) ∨
    (kind = 10 ∧ parseIpfix c st body = (st', .err) ∧ e = .partialParse 10 body) ∨
    (kind ≠ 5 ∧ kind ≠ 7 ∧ kind ≠ 9 ∧ kind ≠ 10 ∧ st' = st ∧ e = .unknownVersion body) := by
  rcases parseVersioned_cases c st kind body with
    ⟨hk, ⟨hd, rs, r, hp, e'⟩ | ⟨hp, e'⟩⟩ | ⟨hk, ⟨hd, rs, r, hp, e'⟩ | ⟨hp, e'⟩⟩ | ⟨hk, e'⟩ | ⟨hk, e'⟩ |
      ⟨h5, h7, h9, h10, e'⟩
  all_goals rw [e'] at h
  · cases h
  · cases h; exact Or.inl ⟨hk, rfl, hp, rfl⟩
  · cases h
  · cases h; exact Or.inr (Or.inl ⟨hk, rfl, hp, rfl⟩)
  · simp only [Prod.mk.injEq, liftRes_fail] at h
    exact Or.inr (Or.inr (Or.inl ⟨hk, Prod.ext h.1 h.2.1, h.2.2⟩))
  · simp only [Prod.mk.injEq, liftRes_fail] at h
    exact Or.inr (Or.inr (Or.inr (Or.inl ⟨hk, Prod.ext h.1 h.2.1, h.2.2⟩)))
  · cases h; exact Or.inr (Or.inr (Or.inr (Or.inr ⟨h5, h7, h9, h10, rfl, rfl⟩)))

theorem parseVersioned_ne_unallowed (c : Config) (st : PState) (kind : Nat) (body : Bytes) :
    (parseVersioned c st kind body).2 ≠ .unallowed := by
  rcases parseVersioned_cases c st kind body with
    ⟨_, ⟨_, _, _, _, e⟩ | ⟨_, e⟩⟩ | ⟨_, ⟨_, _, _, _, e⟩ | ⟨_, e⟩⟩ | ⟨_, e⟩ | ⟨_, e⟩ | ⟨_, _, _, _, e⟩
  all_goals rw [e]
  any_goals exact liftRes_ne_unallowed
  all_goals exact Step.noConfusion

/-- kinds other than 9 and 10 never touch the caches -/
theorem parseVersioned_frame (c : Config) (st : PState) (kind : Nat) (body : Bytes) (h9 : kind ≠ 9) (h10 : kind ≠ 10) :
    (parseVersioned c st kind body).1 = st := by
  rcases parseVersioned_cases c st kind body with
    ⟨_, ⟨_, _, _, _, e⟩ | ⟨_, e⟩⟩ | ⟨_, ⟨_, _, _, _, e⟩ | ⟨_, e⟩⟩ | ⟨hk, _⟩ | ⟨hk, _⟩ | ⟨_, _, _, _, e⟩
  · rw [e]
  · rw [e]
  · rw [e]
  · rw [e]
  · exact absurd hk h9
  · exact absurd hk h10
  · rw [e]

/-- the call reached the dispatcher -/
theorem parsePacket_versioned (c : Config) (st : PState) {buf body : Bytes} {v kind : Nat}
    (hv : beU 2 buf = some (v, body)) (ha : c.allowed.contains v = true) (hd : c.t.dispatch.lookup v = some kind) :
    parsePacket c st buf = parseVersioned c st kind body := by
  unfold parsePacket
  simp only [hv, ha, ↓reduceIte, hd]

/-- inversion of `parsePacket`: the four ways a call can go -/
theorem parsePacket_inv (c : Config) (st st' : PState) (buf : Bytes) (s : Step)
    (h : parsePacket c st buf = (st', s)) :
    (buf.length < 2 ∧ st' = st ∧ s = .fail .incomplete) ∨
    (∃ v, beU 2 buf = some (v, buf.drop 2) ∧ c.allowed.contains v = false ∧ st' = st ∧ s = .unallowed) ∨
    (∃ v, beU 2 buf = some (v, buf.drop 2) ∧ c.allowed.contains v = true ∧ c.t.dispatch.lookup v = none ∧
        st' = st ∧ s = .fail (.unknownVersion (buf.drop 2))) ∨
    (∃ v kind, beU 2 buf = some (v, buf.drop 2) ∧ c.allowed.contains v = true ∧ c.t.dispatch.lookup v = some kind ∧
        parseVersioned c st kind (buf.drop 2) = (st', s)) := by
  unfold parsePacket at h
  cases hv : beU 2 buf with
  | none =>
    simp only [hv, Prod.mk.injEq] at h
    exact Or.inl ⟨beU_none hv, h.1.symm, h.2.symm⟩
  | some vb =>
    obtain ⟨v, body⟩ := vb
    obtain ⟨_, _, hb⟩ := beU_some hv
    subst hb
    simp only [hv] at h
    cases ha : c.allowed.contains v with
    | false =>
      simp only [ha, Bool.false_eq_true, ↓reduceIte, Prod.mk.injEq] at h
      exact Or.inr (Or.inl ⟨v, rfl, ha, h.1.symm, h.2.symm⟩)
    | true =>
      simp only [ha, ↓reduceIte] at h
      cases hd : c.t.dispatch.lookup v with
      | none =>
        simp only [hd, Prod.mk.injEq] at h
        exact Or.inr (Or.inr (Or.inl ⟨v, rfl, ha, hd, h.1.symm, h.2.symm⟩))
      | some kind =>
        simp only [hd] at h
        exact Or.inr (Or.inr (Or.inr ⟨v, kind, rfl, ha, hd, h⟩))

theorem parsePacket_incomplete {c : Config} {st : PState} {buf : Bytes} (h : beU 2 buf = none) :
    parsePacket c st buf = (st, .fail .incomplete) := by
  simp only [parsePacket, h]

theorem parsePacket_unallowed {c : Config} {st : PState} {buf body : Bytes} {v : Nat}
    (hv : beU 2 buf = some (v, body)) (ha : c.allowed.contains v = false) :
    parsePacket c st buf = (st, .unallowed) := by
  simp only [parsePacket, hv, ha, Bool.false_eq_true, ↓reduceIte]

theorem parsePacket_unknown {c : Config} {st : PState} {buf body : Bytes} {v : Nat}
    (hv : beU 2 buf = some (v, body)) (ha : c.allowed.contains v = true) (hd : c.t.dispatch.lookup v = none) :
    parsePacket c st buf = (st, .fail (.unknownVersion body)) := by
  simp only [parsePacket, hv, ha, ↓reduceIte, hd]

theorem parsePacket_ok_versioned {c : Config} {st st' : PState} {buf : Bytes} {pkt : Packet} {rest : Bytes}
    (h : parsePacket c st buf = (st', .ok pkt rest)) :
    ∃ v kind, beU 2 buf = some (v, buf.drop 2) ∧ c.allowed.contains v = true ∧ c.t.dispatch.lookup v = some kind ∧
      parseVersioned c st kind (buf.drop 2) = (st', .ok pkt rest) := by
  rcases parsePacket_inv c st st' buf _ h with ⟨_, _, hs⟩ | ⟨_, _, _, _, hs⟩ | ⟨_, _, _, _, _, hs⟩ | h4
  · cases hs
  · cases hs
  · cases hs
  · exact h4

/-- `UnallowedVersion` comes from the gate only: the version word is not in the allowed set, nothing changed -/
theorem parsePacket_unallowed_inv {c : Config} {st st' : PState} {buf : Bytes}
    (h : parsePacket c st buf = (st', .unallowed)) :
    st' = st ∧ ∃ v, beU 2 buf = some (v, buf.drop 2) ∧ c.allowed.contains v = false := by
  rcases parsePacket_inv c st st' buf _ h with ⟨_, _, hs⟩ | ⟨v, hv, ha, e, _⟩ | ⟨_, _, _, _, _, hs⟩ | ⟨_, k, _, _, _, hp⟩
  · cases hs
  · exact ⟨e, v, hv, ha⟩
  · cases hs
  · exact absurd (congrArg Prod.snd hp) (parseVersioned_ne_unallowed c st k _)

/-! ## records -/

theorem v9ParseRec_nil (c : Config) (idx : Nat) (i : Bytes) : v9ParseRec c [] idx i = some ([], i) := rfl

theorem v9ParseRec_cons {c : Config} {f : TField} {fs : List TField} {idx : Nat} {i r : Bytes} {es : Rec} :
    v9ParseRec c (f :: fs) idx i = some (es, r) ↔
      ∃ v r1 es', parseValue c.vc (c.t.v9Ty (c.t.v9Field f.typ)) f.len i = some (v, r1) ∧
        v9ParseRec c fs (idx + 1) r1 = some (es', r) ∧ es = (idx, c.t.v9Field f.typ, v) :: es' := by
  simp only [v9ParseRec]
  constructor
  · intro h
    split at h
    · cases h
    · split at h
      · cases h
      · cases h; exact ⟨_, _, _, by assumption, by assumption, rfl⟩
  · rintro ⟨v, r1, es', h1, h2, rfl⟩
    simp only [h1, h2]

theorem ipParseRec_nil (c : Config) (idx : Nat) (i : Bytes) : ipParseRec c [] idx i = some ([], i) := rfl

theorem ipParseRec_cons {c : Config} {f : IpTField} {fs : List IpTField} {idx : Nat} {i r : Bytes} {es : List Rec} :
    ipParseRec c (f :: fs) idx i = some (es, r) ↔
      ∃ v r1 es', ipParseValue c f i = some (v, r1) ∧
        ipParseRec c fs (idx + 1) r1 = some (es', r) ∧ es = [(idx, ipFieldDisc c f, v)] :: es' := by
  simp only [ipParseRec]
  constructor
  · intro h
    split at h
    · cases h
    · split at h
      · cases h
      · cases h; exact ⟨_, _, _, by assumption, by assumption, rfl⟩
  · rintro ⟨v, r1, es', h1, h2, rfl⟩
    simp only [h1, h2]

theorem v9RecLoop_zero (c : Config) (fs : List TField) (i : Bytes) (acc : List Rec) :
    v9RecLoop c fs 0 i acc = (acc, i) := rfl

theorem v9RecLoop_succ_none {c : Config} {fs : List TField} {i : Bytes} (h : v9ParseRec c fs 0 i = none)
    (n : Nat) (acc : List Rec) : v9RecLoop c fs (n + 1) i acc = v9RecLoop c fs n i acc := by
  simp only [v9RecLoop, h]

/-- a record that does not decode leaves the input where it was, so every remaining iteration fails again -/
theorem v9RecLoop_none {c : Config} {fs : List TField} {i : Bytes} (h : v9ParseRec c fs 0 i = none) :
    ∀ (n : Nat) (acc : List Rec), v9RecLoop c fs n i acc = (acc, i)
  | 0, _ => rfl
  | n + 1, acc => by rw [v9RecLoop_succ_none h, v9RecLoop_none h n]

theorem v9RecLoop_succ_some {c : Config} {fs : List TField} {i i' : Bytes} {r : Rec}
    (h : v9ParseRec c fs 0 i = some (r, i')) (n : Nat) (acc : List Rec) :
    v9RecLoop c fs (n + 1) i acc = v9RecLoop c fs n i' (acc ++ [r]) := by
  simp only [v9RecLoop, h]

/-- the accumulator is only ever appended to -/
theorem v9RecLoop_acc (c : Config) (fs : List TField) : ∀ (n : Nat) (i : Bytes) (acc : List Rec),
    v9RecLoop c fs n i acc = (acc ++ (v9RecLoop c fs n i []).1, (v9RecLoop c fs n i []).2) := by
  intro n
  induction n with
  | zero => intro i acc; simp [v9RecLoop]
  | succ n ih =>
    intro i acc
    cases h : v9ParseRec c fs 0 i with
    | none => rw [v9RecLoop_succ_none h, v9RecLoop_succ_none h]; exact ih i acc
    | some x =>
      obtain ⟨r, i'⟩ := x
      rw [v9RecLoop_succ_some h, v9RecLoop_succ_some h, ih i' (acc ++ [r]), ih i' ([] ++ [r])]
      simp

theorem ipRecLoop_succ_none {c : Config} {fs : List IpTField} {i : Bytes} (h : ipParseRec c fs 0 i = none)
    (fuel : Nat) : ipRecLoop c fs (fuel + 1) i = .err := by
  simp only [ipRecLoop, h]

/-- one record was decoded and the loop stops: nothing was consumed, or less is left than was consumed -/
theorem ipRecLoop_succ_stop {c : Config} {fs : List IpTField} {i r : Bytes} {es : List Rec}
    (h : ipParseRec c fs 0 i = some (es, r)) (hs : i.length - r.length = 0 ∨ r.length < i.length - r.length)
    (fuel : Nat) : ipRecLoop c fs (fuel + 1) i = .ok (es, r) := by
  simp only [ipRecLoop, h]
  rcases hs with hs | hs
  · simp only [hs, ↓reduceIte]
  · have h1 : ¬ (i.length - r.length = 0) := by omega
    have h2 : ¬ (r.length ≥ i.length - r.length) := by omega
    simp only [h1, h2, ↓reduceIte]

theorem ipRecLoop_succ_more {c : Config} {fs : List IpTField} {i r : Bytes} {es : List Rec}
    (h : ipParseRec c fs 0 i = some (es, r)) (h1 : i.length - r.length ≠ 0) (h2 : i.length - r.length ≤ r.length)
    (fuel : Nat) :
    ipRecLoop c fs (fuel + 1) i =
      match ipRecLoop c fs fuel r with
      | .ok (more, r') => .ok (es ++ more, r')
      | .err => .err
      | .panic => .panic
      | .overflow => .overflow := by
  have h2' : r.length ≥ i.length - r.length := h2
  simp only [ipRecLoop, h, h1, h2', ↓reduceIte]
  rfl

theorem ipRecLoop_ok_inv {c : Config} {fs : List IpTField} {fuel : Nat} {i pad : Bytes} {recs : List Rec}
    (h : ipRecLoop c fs (fuel + 1) i = .ok (recs, pad)) :
    ∃ es r, ipParseRec c fs 0 i = some (es, r) ∧
      (((i.length - r.length = 0 ∨ r.length < i.length - r.length) ∧ recs = es ∧ pad = r) ∨
       (i.length - r.length ≠ 0 ∧ i.length - r.length ≤ r.length ∧
          ∃ more, ipRecLoop c fs fuel r = .ok (more, pad) ∧ recs = es ++ more)) := by
  cases hp : ipParseRec c fs 0 i with
  | none => rw [ipRecLoop_succ_none hp] at h; cases h
  | some x =>
    obtain ⟨es, r⟩ := x
    refine ⟨es, r, rfl, ?_⟩
    by_cases hs : i.length - r.length = 0 ∨ r.length < i.length - r.length
    · rw [ipRecLoop_succ_stop hp hs] at h
      cases h; exact Or.inl ⟨hs, rfl, rfl⟩
    · have h1 : i.length - r.length ≠ 0 := by omega
      have h2 : i.length - r.length ≤ r.length := by omega
      rw [ipRecLoop_succ_more hp h1 h2] at h
      split at h
      · cases h; exact Or.inr ⟨h1, h2, _, by assumption, rfl⟩
      all_goals cases h

/-! ## set bodies -/

theorem v9ParseBody_ok_inv {c : Config} {st st' : PState} {id : Nat} {body : Bytes} {b : V9Body}
    (h : v9ParseBody c st id body = (st', .ok b)) :
    (id = c.t.v9TemplateId ∧ ∃ ts pad, many0 parseV9Template body = .ok (ts, pad) ∧
        st' = insertV9Templates st ts ∧ b = .templates ts pad) ∨
    (id ≠ c.t.v9TemplateId ∧ id = c.t.v9OptTemplateId ∧ ∃ ts pad, many0 parseV9OptTemplate body = .ok (ts, pad) ∧
        st' = insertV9OptTemplates st ts ∧ b = .optTemplates ts pad) ∨
    (id ≠ c.t.v9TemplateId ∧ id ≠ c.t.v9OptTemplateId ∧ st' = st ∧ ∃ ot ss r os pad,
        amLookup id st.v9O = some ot ∧ v9ScopeLoop c ot.scope body = some (ss, r) ∧
        v9OptLoop c ot.opts r = some (os, pad) ∧ b = .optData ss os pad) ∨
    (id ≠ c.t.v9TemplateId ∧ id ≠ c.t.v9OptTemplateId ∧ st' = st ∧ amLookup id st.v9O = none ∧ ∃ t,
        amLookup id st.v9T = some t ∧ v9TotalSize t.fields ≠ 0 ∧
        b = .data (v9RecLoop c t.fields (body.length / v9TotalSize t.fields) body []).1
              (v9RecLoop c t.fields (body.length / v9TotalSize t.fields) body []).2) := by
  unfold v9ParseBody at h
  split at h
  · rename_i h1
    split at h
    · cases h; exact Or.inl ⟨h1, _, _, by assumption, rfl, rfl⟩
    all_goals cases h
  · rename_i h1
    split at h
    · rename_i h2
      split at h
      · cases h; exact Or.inr (Or.inl ⟨h1, h2, _, _, by assumption, rfl, rfl⟩)
      all_goals cases h
    · rename_i h2
      split at h
      · rename_i ot ho
        split at h
        · cases h
        · split at h
          · cases h
          · cases h
            exact Or.inr (Or.inr (Or.inl ⟨h1, h2, rfl, ot, _, _, _, _, ho, by assumption, by assumption, rfl⟩))
      · rename_i ho
        split at h
        · rename_i t ht
          dsimp only at h
          split at h
          · cases h
          · rename_i hz
            cases h
            exact Or.inr (Or.inr (Or.inr ⟨h1, h2, rfl, ho, t, ht, hz, rfl⟩))
        · cases h

/-- an id that is neither a template-set id nor cached: the flowset is an error, nothing changes -/
theorem v9ParseBody_unknown {c : Config} {st : PState} {id : Nat} (h1 : id ≠ c.t.v9TemplateId)
    (h2 : id ≠ c.t.v9OptTemplateId) (ho : amLookup id st.v9O = none) (ht : amLookup id st.v9T = none)
    (body : Bytes) : v9ParseBody c st id body = (st, .err) := by
  simp only [v9ParseBody, h1, h2, ↓reduceIte, ho, ht]

/-- the state is changed only by a body that parsed -/
theorem v9ParseBody_err_frame (c : Config) (st : PState) (id : Nat) (b : Bytes)
    (h : ∀ x, (v9ParseBody c st id b).2 ≠ .ok x) : (v9ParseBody c st id b).1 = st := by
  unfold v9ParseBody at h ⊢
  grind

/-- a data flowset (any id other than the two template-set ids) never changes the state -/
theorem v9ParseBody_data_frame (c : Config) (st : PState) (id : Nat) (b : Bytes)
    (h1 : id ≠ c.t.v9TemplateId) (h2 : id ≠ c.t.v9OptTemplateId) : (v9ParseBody c st id b).1 = st := by
  cases hb : v9ParseBody c st id b with
  | mk st' res =>
    cases res with
    | ok x =>
      rcases v9ParseBody_ok_inv hb with ⟨e, _⟩ | ⟨_, e, _⟩ | ⟨_, _, e, _⟩ | ⟨_, _, e, _⟩
      · exact absurd e h1
      · exact absurd e h2
      · exact e
      · exact e
    | _ =>
      have := v9ParseBody_err_frame c st id b (by rw [hb]; intro x hx; cases hx)
      rwa [hb] at this

/-- what a flowset body does to the caches: nothing, or it installs the templates it reports -/
theorem v9ParseBody_state {I : PState → Prop} (c : Config) (st : PState) (id : Nat) (body : Bytes) (h : I st)
    (hT : ∀ ts, I (insertV9Templates st ts)) (hO : ∀ ts, I (insertV9OptTemplates st ts)) :
    I (v9ParseBody c st id body).1 := by
  cases hb : v9ParseBody c st id body with
  | mk st' res =>
    cases res with
    | ok b =>
      rcases v9ParseBody_ok_inv hb with ⟨_, ts, _, _, e, _⟩ | ⟨_, _, ts, _, _, e, _⟩ | ⟨_, _, e, _⟩ | ⟨_, _, e, _⟩
      · rw [e]; exact hT ts
      · rw [e]; exact hO ts
      · rw [e]; exact h
      · rw [e]; exact h
    | _ =>
      have := v9ParseBody_err_frame c st id body (by rw [hb]; intro x hx; cases hx)
      rw [hb] at this
      rw [this]; exact h

theorem ipParseBody_ok_inv {c : Config} {st st' : PState} {id : Nat} {body : Bytes} {b : IpBody}
    (h : ipParseBody c st id body = (st', .ok b)) :
    (id < c.t.ipSetMinRange ∧ id ≠ c.t.ipOptTemplateId ∧ ∃ t, parseIpTemplate body = .ok t ∧ ipValid t.fields = true ∧
        st' = { st with ipT := amInsert t.id t st.ipT, ipO := amErase t.id st.ipO } ∧ b = .template t) ∨
    (id = c.t.ipOptTemplateId ∧ ∃ t, parseIpOptTemplate body = .ok t ∧ ipValid t.fields = true ∧
        st' = { st with ipO := amInsert t.id t st.ipO, ipT := amErase t.id st.ipT } ∧ b = .optTemplate t) ∨
    (c.t.ipSetMinRange ≤ id ∧ id ≠ c.t.ipOptTemplateId ∧ st' = st ∧ ∃ fs recs pad,
        fs.isEmpty = false ∧ ipRecLoop c fs (body.length + 1) body = .ok (recs, pad) ∧
        ((∃ t, amLookup id st.ipT = some t ∧ fs = t.fields ∧ b = .data recs pad) ∨
         (amLookup id st.ipT = none ∧ ∃ t, amLookup id st.ipO = some t ∧ fs = t.fields ∧ b = .optData recs pad))) := by
  unfold ipParseBody at h
  split at h
  · rename_i h1
    split at h
    · split at h
      · cases h; exact Or.inl ⟨h1.1, h1.2, _, by assumption, by assumption, rfl, rfl⟩
      · cases h
    all_goals cases h
  · rename_i h1
    split at h
    · rename_i h2
      split at h
      · split at h
        · cases h; exact Or.inr (Or.inl ⟨h2, _, by assumption, by assumption, rfl, rfl⟩)
        · cases h
      all_goals cases h
    · rename_i h2
      have hr : c.t.ipSetMinRange ≤ id := by
        by_cases hl : id < c.t.ipSetMinRange
        · exact absurd ⟨hl, h2⟩ h1
        · omega
      split at h
      · rename_i t ht
        split at h
        · cases h
        · rename_i he
          split at h
          · cases h
            exact Or.inr (Or.inr ⟨hr, h2, rfl, t.fields, _, _, by simpa using he, by assumption,
              Or.inl ⟨t, ht, rfl, rfl⟩⟩)
          all_goals cases h
      · rename_i ht
        split at h
        · rename_i t ho
          split at h
          · cases h
          · rename_i he
            split at h
            · cases h
              exact Or.inr (Or.inr ⟨hr, h2, rfl, t.fields, _, _, by simpa using he, by assumption,
                Or.inr ⟨ht, t, ho, rfl, rfl⟩⟩)
            all_goals cases h
        · cases h

theorem ipParseBody_unknown {c : Config} {st : PState} {id : Nat} (h1 : c.t.ipSetMinRange ≤ id)
    (h2 : id ≠ c.t.ipOptTemplateId) (ht : amLookup id st.ipT = none) (ho : amLookup id st.ipO = none)
    (body : Bytes) : ipParseBody c st id body = (st, .err) := by
  have : ¬ (id < c.t.ipSetMinRange) := by omega
  simp only [ipParseBody, this, false_and, h2, ↓reduceIte, ht, ho]

theorem ipParseBody_err_frame (c : Config) (st : PState) (id : Nat) (b : Bytes)
    (h : ∀ x, (ipParseBody c st id b).2 ≠ .ok x) : (ipParseBody c st id b).1 = st := by
  unfold ipParseBody at h ⊢
  grind

/-- what a set body does to the caches: nothing, or it installs the one valid template it reports -/
theorem ipParseBody_state {I : PState → Prop} (c : Config) (st : PState) (id : Nat) (body : Bytes) (h : I st)
    (hT : ∀ t : IpTemplate, ipValid t.fields = true →
      I { st with ipT := amInsert t.id t st.ipT, ipO := amErase t.id st.ipO })
    (hO : ∀ t : IpOptTemplate, ipValid t.fields = true →
      I { st with ipO := amInsert t.id t st.ipO, ipT := amErase t.id st.ipT }) :
    I (ipParseBody c st id body).1 := by
  cases hb : ipParseBody c st id body with
  | mk st' res =>
    cases res with
    | ok b =>
      rcases ipParseBody_ok_inv hb with ⟨_, _, t, _, hv, e, _⟩ | ⟨_, t, _, hv, e, _⟩ | ⟨_, _, e, _⟩
      · rw [e]; exact hT t hv
      · rw [e]; exact hO t hv
      · rw [e]; exact h
    | _ =>
      have := ipParseBody_err_frame c st id body (by rw [hb]; intro x hx; cases hx)
      rw [hb] at this
      rw [this]; exact h

theorem ipParseBody_data_frame (c : Config) (st : PState) (id : Nat) (b : Bytes)
    (h1 : c.t.ipSetMinRange ≤ id) (h2 : id ≠ c.t.ipOptTemplateId) : (ipParseBody c st id b).1 = st := by
  cases hb : ipParseBody c st id b with
  | mk st' res =>
    cases res with
    | ok x =>
      rcases ipParseBody_ok_inv hb with ⟨hl, _⟩ | ⟨e, _⟩ | ⟨_, _, e, _⟩
      · omega
      · exact absurd e h2
      · exact e
    | _ =>
      have := ipParseBody_err_frame c st id b (by rw [hb]; intro x hx; cases hx)
      rwa [hb] at this

/-! ## sets -/

theorem v9ParseSet_ok_iff {c : Config} {st st' : PState} {i : Bytes} {s : V9Set} {r : Bytes} :
    v9ParseSet c st i = (st', .ok (s, r)) ↔
    ∃ h r1 body b, parseLayout c.t.protoFromU8 c.t.v9SetHdr i = some (h, r1) ∧
      takeN (c.t.v9SetHdr.get "length" h - 4) r1 = some (body, r) ∧
      v9ParseBody c st (c.t.v9SetHdr.get "flowset_id" h) body = (st', .ok b) ∧
      s = { id := c.t.v9SetHdr.get "flowset_id" h, len := c.t.v9SetHdr.get "length" h, body := b } := by
  constructor
  · intro hp
    unfold v9ParseSet at hp
    split at hp
    · cases hp
    · dsimp only at hp
      split at hp
      · cases hp
      · split at hp
        · cases hp; exact ⟨_, _, _, _, by assumption, by assumption, by assumption, rfl⟩
        all_goals cases hp
  · rintro ⟨h, r1, body, b, hh, ht, hb, rfl⟩
    simp only [v9ParseSet, hh, ht, hb]

theorem v9ParseSet_ok_inv {c : Config} {st st' : PState} {i : Bytes} {s : V9Set} {r : Bytes}
    (hp : v9ParseSet c st i = (st', .ok (s, r))) :
    ∃ h r1 body b, parseLayout c.t.protoFromU8 c.t.v9SetHdr i = some (h, r1) ∧
      takeN (c.t.v9SetHdr.get "length" h - 4) r1 = some (body, r) ∧
      v9ParseBody c st (c.t.v9SetHdr.get "flowset_id" h) body = (st', .ok b) ∧
      s = { id := c.t.v9SetHdr.get "flowset_id" h, len := c.t.v9SetHdr.get "length" h, body := b } :=
  v9ParseSet_ok_iff.1 hp

/-- a flowset that does not parse: the header or the `take` failed (state untouched), or the body did -/
theorem v9ParseSet_err_inv {c : Config} {st st' : PState} {i : Bytes} (hp : v9ParseSet c st i = (st', .err)) :
    (st' = st ∧ (parseLayout c.t.protoFromU8 c.t.v9SetHdr i = none ∨
      ∃ h r1, parseLayout c.t.protoFromU8 c.t.v9SetHdr i = some (h, r1) ∧
        takeN (c.t.v9SetHdr.get "length" h - 4) r1 = none)) ∨
    ∃ h r1 body r, parseLayout c.t.protoFromU8 c.t.v9SetHdr i = some (h, r1) ∧
      takeN (c.t.v9SetHdr.get "length" h - 4) r1 = some (body, r) ∧
      v9ParseBody c st (c.t.v9SetHdr.get "flowset_id" h) body = (st', .err) := by
  unfold v9ParseSet at hp
  split at hp
  · cases hp; exact Or.inl ⟨rfl, Or.inl (by assumption)⟩
  · dsimp only at hp
    split at hp
    · cases hp; exact Or.inl ⟨rfl, Or.inr ⟨_, _, by assumption, by assumption⟩⟩
    · split at hp
      · cases hp
      · cases hp; exact Or.inr ⟨_, _, _, _, by assumption, by assumption, by assumption⟩
      all_goals cases hp

/-- a flowset that is reported as an error leaves the caches alone -/
theorem v9ParseSet_err_state {c : Config} {st st' : PState} {i : Bytes} (h : v9ParseSet c st i = (st', .err)) :
    st' = st := by
  rcases v9ParseSet_err_inv h with ⟨e, _⟩ | ⟨_, _, body, _, _, _, hb⟩
  · exact e
  · have := v9ParseBody_err_frame c st _ body (by rw [hb]; intro x hx; cases hx)
    rwa [hb] at this

theorem ipParseSet_ok_iff {c : Config} {st st' : PState} {i : Bytes} {s : IpSet} {r : Bytes} :
    ipParseSet c st i = (st', .ok (s, r)) ↔
    ∃ h r1 body b, parseLayout c.t.protoFromU8 c.t.ipSetHdr i = some (h, r1) ∧
      takeN (c.t.ipSetHdr.get "length" h - 4) r1 = some (body, r) ∧
      ipParseBody c st (c.t.ipSetHdr.get "header_id" h) body = (st', .ok b) ∧
      s = { id := c.t.ipSetHdr.get "header_id" h, len := c.t.ipSetHdr.get "length" h, body := b } := by
  constructor
  · intro hp
    unfold ipParseSet at hp
    split at hp
    · cases hp
    · dsimp only at hp
      split at hp
      · cases hp
      · split at hp
        · cases hp; exact ⟨_, _, _, _, by assumption, by assumption, by assumption, rfl⟩
        all_goals cases hp
  · rintro ⟨h, r1, body, b, hh, ht, hb, rfl⟩
    simp only [ipParseSet, hh, ht, hb]

theorem ipParseSet_ok_inv {c : Config} {st st' : PState} {i : Bytes} {s : IpSet} {r : Bytes}
    (hp : ipParseSet c st i = (st', .ok (s, r))) :
    ∃ h r1 body b, parseLayout c.t.protoFromU8 c.t.ipSetHdr i = some (h, r1) ∧
      takeN (c.t.ipSetHdr.get "length" h - 4) r1 = some (body, r) ∧
      ipParseBody c st (c.t.ipSetHdr.get "header_id" h) body = (st', .ok b) ∧
      s = { id := c.t.ipSetHdr.get "header_id" h, len := c.t.ipSetHdr.get "length" h, body := b } :=
  ipParseSet_ok_iff.1 hp

theorem ipParseSet_err_inv {c : Config} {st st' : PState} {i : Bytes} (hp : ipParseSet c st i = (st', .err)) :
    (st' = st ∧ (parseLayout c.t.protoFromU8 c.t.ipSetHdr i = none ∨
      ∃ h r1, parseLayout c.t.protoFromU8 c.t.ipSetHdr i = some (h, r1) ∧
        takeN (c.t.ipSetHdr.get "length" h - 4) r1 = none)) ∨
    ∃ h r1 body r, parseLayout c.t.protoFromU8 c.t.ipSetHdr i = some (h, r1) ∧
      takeN (c.t.ipSetHdr.get "length" h - 4) r1 = some (body, r) ∧
      ipParseBody c st (c.t.ipSetHdr.get "header_id" h) body = (st', .err) := by
  unfold ipParseSet at hp
  split at hp
  · cases hp; exact Or.inl ⟨rfl, Or.inl (by assumption)⟩
  · dsimp only at hp
    split at hp
    · cases hp; exact Or.inl ⟨rfl, Or.inr ⟨_, _, by assumption, by assumption⟩⟩
    · split at hp
      · cases hp
      · cases hp; exact Or.inr ⟨_, _, _, _, by assumption, by assumption, by assumption⟩
      all_goals cases hp

theorem ipParseSet_err_state {c : Config} {st st' : PState} {i : Bytes} (h : ipParseSet c st i = (st', .err)) :
    st' = st := by
  rcases ipParseSet_err_inv h with ⟨e, _⟩ | ⟨_, _, body, _, _, _, hb⟩
  · exact e
  · have := ipParseBody_err_frame c st _ body (by rw [hb]; intro x hx; cases hx)
    rwa [hb] at this

/-! ## the set loops -/

theorem v9ParseSets_zero (c : Config) (st : PState) (i : Bytes) : v9ParseSets c 0 st i = (st, .ok ([], i)) := rfl

/-- iterations on exhausted input are skipped -/
theorem v9ParseSets_nil (c : Config) : ∀ (n : Nat) (st : PState), v9ParseSets c n st [] = (st, .ok ([], [])) := by
  intro n
  induction n with
  | zero => intro st; rfl
  | succ n ih => intro st; simp [v9ParseSets, ih]

theorem v9ParseSets_succ_ok_iff {c : Config} {n : Nat} {st st' : PState} {i : Bytes} {ss : List V9Set} {r : Bytes}
    (hne : i ≠ []) :
    v9ParseSets c (n + 1) st i = (st', .ok (ss, r)) ↔
    ∃ st1 s r1 ss', v9ParseSet c st i = (st1, .ok (s, r1)) ∧ v9ParseSets c n st1 r1 = (st', .ok (ss', r)) ∧
      ss = s :: ss' := by
  have he : i.isEmpty = false := List.isEmpty_eq_false_iff.2 hne
  constructor
  · intro hp
    unfold v9ParseSets at hp
    simp only [he, Bool.false_eq_true, ↓reduceIte] at hp
    split at hp
    · split at hp
      · cases hp; exact ⟨_, _, _, _, by assumption, by assumption, rfl⟩
      all_goals cases hp
    all_goals cases hp
  · rintro ⟨st1, s, r1, ss', hs, hrest, rfl⟩
    unfold v9ParseSets
    simp only [he, Bool.false_eq_true, ↓reduceIte, hs, hrest]

theorem v9ParseSets_succ_ok_inv {c : Config} {n : Nat} {st st' : PState} {i : Bytes} {ss : List V9Set} {r : Bytes}
    (hne : i ≠ []) (hp : v9ParseSets c (n + 1) st i = (st', .ok (ss, r))) :
    ∃ st1 s r1 ss', v9ParseSet c st i = (st1, .ok (s, r1)) ∧ v9ParseSets c n st1 r1 = (st', .ok (ss', r)) ∧
      ss = s :: ss' :=
  (v9ParseSets_succ_ok_iff hne).1 hp

theorem v9ParseSets_succ_ok_intro {c : Config} {n : Nat} {st st1 st' : PState} {i : Bytes} {s : V9Set} {r1 : Bytes}
    {ss' : List V9Set} {r : Bytes} (hne : i ≠ [])
    (hs : v9ParseSet c st i = (st1, .ok (s, r1))) (hrest : v9ParseSets c n st1 r1 = (st', .ok (ss', r))) :
    v9ParseSets c (n + 1) st i = (st', .ok (s :: ss', r)) :=
  (v9ParseSets_succ_ok_iff hne).2 ⟨st1, s, r1, ss', hs, hrest, rfl⟩

theorem v9ParseSets_succ_err_intro {c : Config} {n : Nat} {st st1 st' : PState} {i : Bytes} {s : V9Set} {r1 : Bytes}
    (hne : i ≠ [])
    (hs : v9ParseSet c st i = (st1, .ok (s, r1))) (hrest : v9ParseSets c n st1 r1 = (st', .err)) :
    v9ParseSets c (n + 1) st i = (st', .err) := by
  have he : i.isEmpty = false := List.isEmpty_eq_false_iff.2 hne
  unfold v9ParseSets
  simp only [he, Bool.false_eq_true, ↓reduceIte, hs, hrest]

theorem v9ParseSets_succ_err_here {c : Config} {n : Nat} {st st1 : PState} {i : Bytes}
    (hne : i ≠ []) (hs : v9ParseSet c st i = (st1, .err)) :
    v9ParseSets c (n + 1) st i = (st1, .err) := by
  have he : i.isEmpty = false := List.isEmpty_eq_false_iff.2 hne
  unfold v9ParseSets
  simp only [he, Bool.false_eq_true, ↓reduceIte, hs]

/-- the flowset loop fails exactly where a flowset fails -/
theorem v9ParseSets_succ_err_inv {c : Config} {n : Nat} {st st' : PState} {i : Bytes} (hne : i ≠ [])
    (hp : v9ParseSets c (n + 1) st i = (st', .err)) :
    v9ParseSet c st i = (st', .err) ∨
    ∃ st1 s r1, v9ParseSet c st i = (st1, .ok (s, r1)) ∧ v9ParseSets c n st1 r1 = (st', .err) := by
  have he : i.isEmpty = false := List.isEmpty_eq_false_iff.2 hne
  unfold v9ParseSets at hp
  simp only [he, Bool.false_eq_true, ↓reduceIte] at hp
  split at hp
  · split at hp
    · cases hp
    · cases hp; exact Or.inr ⟨_, _, _, by assumption, by assumption⟩
    all_goals cases hp
  · cases hp; exact Or.inl (by assumption)
  all_goals cases hp

/-- the IPFIX set loop returns sets in two ways: the next set does not parse (end of the list), or
    it parses, made progress, and the loop goes on behind it -/
theorem ipParseSets_succ_ok_iff {c : Config} {f : Nat} {st st' : PState} {i : Bytes} {ss : List IpSet} :
    ipParseSets c (f + 1) st i = (st', .ok ss) ↔
    (ipParseSet c st i = (st', .err) ∧ ss = []) ∨
    ∃ st1 s r ss', ipParseSet c st i = (st1, .ok (s, r)) ∧ r.length ≠ i.length ∧
      ipParseSets c f st1 r = (st', .ok ss') ∧ ss = s :: ss' := by
  constructor
  · intro hp
    unfold ipParseSets at hp
    split at hp
    · rename_i hs
      split at hp
      · cases hp
      · rename_i hl
        split at hp
        · cases hp; exact Or.inr ⟨_, _, _, _, hs, hl, by assumption, rfl⟩
        all_goals cases hp
    · cases hp; exact Or.inl ⟨by assumption, rfl⟩
    all_goals cases hp
  · rintro (⟨hs, rfl⟩ | ⟨st1, s, r, ss', hs, hl, hrest, rfl⟩)
    · simp only [ipParseSets, hs]
    · simp only [ipParseSets, hs, hl, ↓reduceIte, hrest]

/-- the loop reports `Many0` only for a set that parsed without consuming anything -/
theorem ipParseSets_succ_err_inv {c : Config} {f : Nat} {st st' : PState} {i : Bytes}
    (hp : ipParseSets c (f + 1) st i = (st', .err)) :
    ∃ st1 s r, ipParseSet c st i = (st1, .ok (s, r)) ∧
      ((r.length = i.length ∧ st' = st1) ∨ (r.length ≠ i.length ∧ ipParseSets c f st1 r = (st', .err))) := by
  unfold ipParseSets at hp
  split at hp
  · rename_i hs
    split at hp
    · rename_i hl
      cases hp; exact ⟨_, _, _, hs, Or.inl ⟨hl, rfl⟩⟩
    · rename_i hl
      split at hp
      · cases hp
      · cases hp; exact ⟨_, _, _, hs, Or.inr ⟨hl, by assumption⟩⟩
      all_goals cases hp
  all_goals cases hp

theorem ipParseSet_le {c : Config} {st st' : PState} {i : Bytes} {s : IpSet} {r : Bytes}
    (h : ipParseSet c st i = (st', .ok (s, r))) : r.length ≤ i.length := by
  obtain ⟨hd, r1, body, b, hh, ht, _, _⟩ := ipParseSet_ok_inv h
  have := (parseLayout_sized _ _).le hh
  have := (takeN_sized _).le ht
  omega

/-- a set that parses consumed its header -/
theorem ipParseSet_progress (c : Config) (hw : 0 < c.t.ipSetHdr.wireLen) (st st' : PState) (i : Bytes) (s : IpSet) (r : Bytes)
    (h : ipParseSet c st i = (st', .ok (s, r))) : r.length < i.length := by
  obtain ⟨hd, r1, body, b, hh, ht, _, _⟩ := ipParseSet_ok_inv h
  have a := parseLayout_sized _ _ _ _ _ hh
  have b := (takeN_sized _).le ht
  simp only at a
  omega

/-- the set loop reports `Many0` only if some set parses without consuming anything -/
theorem ipParseSets_no_err_of_progress (c : Config)
    (hp : ∀ st st' i s r, ipParseSet c st i = (st', .ok (s, r)) → r.length < i.length) :
    ∀ (f : Nat) (st : PState) (i : Bytes), (ipParseSets c f st i).2 ≠ .err := by
  intro f
  induction f with
  | zero => intro st i; simp [ipParseSets]
  | succ f ih =>
    intro st i h
    obtain ⟨st1, s, r, hs, ⟨hl, _⟩ | ⟨_, hrest⟩⟩ := ipParseSets_succ_err_inv (Prod.ext rfl h)
    · have := hp _ _ _ _ _ hs; omega
    · exact ih st1 r (by rw [hrest])

theorem ipParseSets_no_err (c : Config) (hw : 0 < c.t.ipSetHdr.wireLen) : ∀ (f : Nat) (st : PState) (i : Bytes),
    (ipParseSets c f st i).2 ≠ .err :=
  ipParseSets_no_err_of_progress c (ipParseSet_progress c hw)

/-! ## V9 packet, IPFIX message -/

theorem parseV9_ok_iff {c : Config} {st st' : PState} {i : Bytes} {pkt : Packet} {r : Bytes} :
    parseV9 c st i = (st', .ok (pkt, r)) ↔
    ∃ h r1 ss, parseLayout c.t.protoFromU8 c.t.v9Hdr i = some (h, r1) ∧
      v9ParseSets c (c.t.v9Hdr.get "count" h) st r1 = (st', .ok (ss, r)) ∧ pkt = .v9 h ss := by
  constructor
  · intro hp
    unfold parseV9 at hp
    split at hp
    · cases hp
    · split at hp
      · cases hp; exact ⟨_, _, _, by assumption, by assumption, rfl⟩
      all_goals cases hp
  · rintro ⟨h, r1, ss, hh, hs, rfl⟩
    simp only [parseV9, hh, hs]

theorem parseV9_ok_inv {c : Config} {st st' : PState} {i : Bytes} {pkt : Packet} {r : Bytes}
    (hp : parseV9 c st i = (st', .ok (pkt, r))) :
    ∃ h r1 ss, parseLayout c.t.protoFromU8 c.t.v9Hdr i = some (h, r1) ∧
      v9ParseSets c (c.t.v9Hdr.get "count" h) st r1 = (st', .ok (ss, r)) ∧ pkt = .v9 h ss :=
  parseV9_ok_iff.1 hp

theorem parseV9_ok_intro {c : Config} {st st' : PState} {i : Bytes} {r : Bytes}
    {h : List Nat} {r1 : Bytes} {ss : List V9Set}
    (hh : parseLayout c.t.protoFromU8 c.t.v9Hdr i = some (h, r1))
    (hs : v9ParseSets c (c.t.v9Hdr.get "count" h) st r1 = (st', .ok (ss, r))) :
    parseV9 c st i = (st', .ok (.v9 h ss, r)) :=
  parseV9_ok_iff.2 ⟨h, r1, ss, hh, hs, rfl⟩

/-- a V9 packet fails in its header (state untouched) or in its flowset loop -/
theorem parseV9_err_inv {c : Config} {st st' : PState} {i : Bytes} (hp : parseV9 c st i = (st', .err)) :
    (st' = st ∧ parseLayout c.t.protoFromU8 c.t.v9Hdr i = none) ∨
    ∃ h r1, parseLayout c.t.protoFromU8 c.t.v9Hdr i = some (h, r1) ∧
      v9ParseSets c (c.t.v9Hdr.get "count" h) st r1 = (st', .err) := by
  unfold parseV9 at hp
  split at hp
  · cases hp; exact Or.inl ⟨rfl, by assumption⟩
  · split at hp
    · cases hp
    · cases hp; exact Or.inr ⟨_, _, by assumption, by assumption⟩
    all_goals cases hp

theorem parseIpfix_ok_iff {c : Config} {st st' : PState} {i : Bytes} {pkt : Packet} {r : Bytes} :
    parseIpfix c st i = (st', .ok (pkt, r)) ↔
    ∃ h r1 body ss, parseLayout c.t.protoFromU8 c.t.ipHdr i = some (h, r1) ∧
      takeN (c.t.ipHdr.get "length" h - 16) r1 = some (body, r) ∧
      ipParseSets c (body.length + 1) st body = (st', .ok ss) ∧ pkt = .ipfix h ss := by
  constructor
  · intro hp
    unfold parseIpfix at hp
    split at hp
    · cases hp
    · split at hp
      · cases hp
      · split at hp
        · cases hp; exact ⟨_, _, _, _, by assumption, by assumption, by assumption, rfl⟩
        all_goals cases hp
  · rintro ⟨h, r1, body, ss, hh, ht, hs, rfl⟩
    simp only [parseIpfix, hh, ht, hs]

theorem parseIpfix_ok_inv {c : Config} {st st' : PState} {i : Bytes} {pkt : Packet} {r : Bytes}
    (hp : parseIpfix c st i = (st', .ok (pkt, r))) :
    ∃ h r1 body ss, parseLayout c.t.protoFromU8 c.t.ipHdr i = some (h, r1) ∧
      takeN (c.t.ipHdr.get "length" h - 16) r1 = some (body, r) ∧
      ipParseSets c (body.length + 1) st body = (st', .ok ss) ∧ pkt = .ipfix h ss :=
  parseIpfix_ok_iff.1 hp

theorem parseIpfix_ok_intro {c : Config} {st st' : PState} {i : Bytes} {r : Bytes}
    {h : List Nat} {r1 body : Bytes} {ss : List IpSet}
    (hh : parseLayout c.t.protoFromU8 c.t.ipHdr i = some (h, r1))
    (ht : takeN (c.t.ipHdr.get "length" h - 16) r1 = some (body, r))
    (hs : ipParseSets c (body.length + 1) st body = (st', .ok ss)) :
    parseIpfix c st i = (st', .ok (.ipfix h ss, r)) :=
  parseIpfix_ok_iff.2 ⟨h, r1, body, ss, hh, ht, hs, rfl⟩

/-- an IPFIX message fails before any set is looked at (state untouched), or in the set loop -/
theorem parseIpfix_err_inv {c : Config} {st st' : PState} {i : Bytes} (hp : parseIpfix c st i = (st', .err)) :
    (st' = st ∧ (parseLayout c.t.protoFromU8 c.t.ipHdr i = none ∨
      ∃ h r1, parseLayout c.t.protoFromU8 c.t.ipHdr i = some (h, r1) ∧
        takeN (c.t.ipHdr.get "length" h - 16) r1 = none)) ∨
    ∃ h r1 body r, parseLayout c.t.protoFromU8 c.t.ipHdr i = some (h, r1) ∧
      takeN (c.t.ipHdr.get "length" h - 16) r1 = some (body, r) ∧
      ipParseSets c (body.length + 1) st body = (st', .err) := by
  unfold parseIpfix at hp
  split at hp
  · cases hp; exact Or.inl ⟨rfl, Or.inl (by assumption)⟩
  · split at hp
    · cases hp; exact Or.inl ⟨rfl, Or.inr ⟨_, _, by assumption, by assumption⟩⟩
    · split at hp
      · cases hp
      · cases hp; exact Or.inr ⟨_, _, _, _, by assumption, by assumption, by assumption⟩
      all_goals cases hp

/-! ## no successful stage hands back more bytes than it was given -/

theorem v9ParseSet_le {c : Config} {st st' : PState} {i : Bytes} {s : V9Set} {r : Bytes}
    (h : v9ParseSet c st i = (st', .ok (s, r))) : r.length ≤ i.length := by
  obtain ⟨hd, r1, body, b, hh, ht, _, _⟩ := v9ParseSet_ok_inv h
  have := (parseLayout_sized _ _).le hh
  have := (takeN_sized _).le ht
  omega

theorem v9ParseSets_le {c : Config} : ∀ {n : Nat} {st st' : PState} {i : Bytes} {ss : List V9Set} {r : Bytes},
    v9ParseSets c n st i = (st', .ok (ss, r)) → r.length ≤ i.length := by
  intro n
  induction n with
  | zero => intro st st' i ss r h; cases h; exact Nat.le_refl _
  | succ n ih =>
    intro st st' i ss r h
    by_cases hne : i = []
    · subst hne; rw [v9ParseSets_nil] at h; cases h; exact Nat.le_refl _
    · obtain ⟨st1, s, r1, ss', h1, h2, _⟩ := v9ParseSets_succ_ok_inv hne h
      have := v9ParseSet_le h1
      have := ih h2
      omega

theorem parseV9_le {c : Config} {st st' : PState} {i : Bytes} {p : Packet} {r : Bytes}
    (h : parseV9 c st i = (st', .ok (p, r))) : r.length ≤ i.length := by
  obtain ⟨hd, r1, ss, hh, hs, _⟩ := parseV9_ok_inv h
  have := (parseLayout_sized _ _).le hh
  have := v9ParseSets_le hs
  omega

theorem parseIpfix_le {c : Config} {st st' : PState} {i : Bytes} {p : Packet} {r : Bytes}
    (h : parseIpfix c st i = (st', .ok (p, r))) : r.length ≤ i.length := by
  obtain ⟨hd, r1, body, ss, hh, ht, _, _⟩ := parseIpfix_ok_inv h
  have := (parseLayout_sized _ _).le hh
  have := (takeN_sized _).le ht
  omega

theorem parseVersioned_le {c : Config} {st st' : PState} {k : Nat} {i : Bytes} {p : Packet} {r : Bytes}
    (h : parseVersioned c st k i = (st', .ok p r)) : r.length ≤ i.length := by
  rcases parseVersioned_ok_inv h with ⟨_, _, _, _, hp, _⟩ | ⟨_, _, _, _, hp, _⟩ | ⟨_, hp⟩ | ⟨_, hp⟩
  · exact (parseFixed_sized c _ _).le hp
  · exact (parseFixed_sized c _ _).le hp
  · exact parseV9_le hp
  · exact parseIpfix_le hp

/-- a successfully parsed packet consumed at least its 2-byte version word -/
theorem parsePacket_progress (c : Config) (st st' : PState) (buf : Bytes) (p : Packet) (r : Bytes)
    (h : parsePacket c st buf = (st', .ok p r)) : r.length + 2 ≤ buf.length := by
  obtain ⟨v, k, hv, _, _, hp⟩ := parsePacket_ok_versioned h
  have h1 := parseVersioned_le hp
  have := (beU_some hv).1
  rw [List.length_drop] at h1
  omega

/-! ## one call of `parse_bytes` as a trace -/

/-- `Run c st buf st' ps`: from state `st` the packet loop walks through `buf`, returns `ps` and ends
    in `st'`.  The loop stops at the end of the buffer, at the first packet that fails (reported as
    the last element) and, silently, in front of a version that is not allowed.  It describes the calls
    that return `.done`; every call does (`parseBytes_done` in State). -/
inductive Run (c : Config) : PState → Bytes → PState → List Packet → Prop
  | nil (st : PState) : Run c st [] st []
  | ok {st st1 st' : PState} {buf rest : Bytes} {pkt : Packet} {ps : List Packet} :
      parsePacket c st buf = (st1, .ok pkt rest) → Run c st1 rest st' ps → Run c st buf st' (pkt :: ps)
  | fail {st st' : PState} {buf : Bytes} {e : ErrKind} :
      buf ≠ [] → parsePacket c st buf = (st', .fail e) → Run c st buf st' [.error e buf]
  | unallowed {st st' : PState} {buf : Bytes} :
      buf ≠ [] → parsePacket c st buf = (st', .unallowed) → Run c st buf st' []

/-- one unfolding of the packet loop that ended with a list -/
theorem parseBytesF_succ_done {c : Config} {fuel : Nat} {st st' : PState} {buf : Bytes} {ps : List Packet}
    (h : parseBytesF c (fuel + 1) st buf = (st', .done ps)) :
    (buf = [] ∧ st' = st ∧ ps = []) ∨
    (∃ pkt, buf ≠ [] ∧ parsePacket c st buf = (st', .ok pkt []) ∧ ps = [pkt]) ∨
    (∃ st1 pkt rest ps', buf ≠ [] ∧ rest ≠ [] ∧ parsePacket c st buf = (st1, .ok pkt rest) ∧
      parseBytesF c fuel st1 rest = (st', .done ps') ∧ ps = pkt :: ps') ∨
    (∃ e, buf ≠ [] ∧ parsePacket c st buf = (st', .fail e) ∧ ps = [.error e buf]) ∨
    (buf ≠ [] ∧ parsePacket c st buf = (st', .unallowed) ∧ ps = []) := by
  unfold parseBytesF at h
  cases buf with
  | nil => cases h; exact Or.inl ⟨rfl, rfl, rfl⟩
  | cons x xs =>
    have hne : x :: xs ≠ [] := List.cons_ne_nil _ _
    simp only [List.isEmpty_cons, Bool.false_eq_true, ↓reduceIte] at h
    split at h
    · rename_i hp
      split at h
      · rename_i hr
        cases h
        rw [List.isEmpty_iff.1 hr] at hp
        exact Or.inr (Or.inl ⟨_, hne, hp, rfl⟩)
      · rename_i hr
        cases hrec : parseBytesF c fuel _ _ with
        | mk st2 out =>
          rw [hrec] at h
          cases out with
          | done ps' =>
            cases h
            exact Or.inr (Or.inr (Or.inl ⟨_, _, _, _, hne, fun e => hr (by rw [e]; rfl), hp, hrec, rfl⟩))
          | panic _ => cases h
          | overflow _ => cases h
    · cases h; exact Or.inr (Or.inr (Or.inr (Or.inl ⟨_, hne, by assumption, rfl⟩)))
    · cases h; exact Or.inr (Or.inr (Or.inr (Or.inr ⟨hne, by assumption, rfl⟩)))
    all_goals cases h

theorem parseBytesF_run (c : Config) : ∀ (fuel : Nat) (st st' : PState) (buf : Bytes) (ps : List Packet),
    parseBytesF c fuel st buf = (st', .done ps) → Run c st buf st' ps := by
  intro fuel
  induction fuel with
  | zero => intro st st' buf ps h; cases h
  | succ fuel ih =>
    intro st st' buf ps h
    rcases parseBytesF_succ_done h with ⟨rfl, rfl, rfl⟩ | ⟨pkt, _, hp, rfl⟩ | ⟨st1, pkt, rest, ps', _, _, hp, hrec, rfl⟩ |
      ⟨e, hne, hp, rfl⟩ | ⟨hne, hp, rfl⟩
    · exact .nil _
    · exact .ok hp (.nil _)
    · exact .ok hp (ih _ _ _ _ hrec)
    · exact .fail hne hp
    · exact .unallowed hne hp

theorem parsePacket_ok_ne_error {c : Config} {st st' : PState} {buf : Bytes} {pkt : Packet} {rest : Bytes}
    (h : parsePacket c st buf = (st', .ok pkt rest)) (e : ErrKind) (b : Bytes) : pkt ≠ .error e b := by
  obtain ⟨_, _, _, _, _, hv⟩ := parsePacket_ok_versioned h
  rcases parseVersioned_ok_inv hv with ⟨_, _, _, _, _, rfl⟩ | ⟨_, _, _, _, _, rfl⟩ | ⟨_, hp⟩ | ⟨_, hp⟩
  · exact Packet.noConfusion
  · exact Packet.noConfusion
  · obtain ⟨_, _, _, _, _, rfl⟩ := parseV9_ok_inv hp; exact Packet.noConfusion
  · obtain ⟨_, _, _, _, _, _, _, rfl⟩ := parseIpfix_ok_inv hp; exact Packet.noConfusion

/-- an error element is the last one, carries the buffer the failing step saw, and that step failed -/
theorem Run.error_inv {c : Config} {st st' : PState} {buf b : Bytes} {e : ErrKind} {ps : List Packet}
    (h : Run c st buf st' (.error e b :: ps)) :
    ps = [] ∧ b = buf ∧ buf ≠ [] ∧ parsePacket c st buf = (st', .fail e) := by
  cases h with
  | ok hp _ => exact absurd rfl (parsePacket_ok_ne_error hp e b)
  | fail hne hp => exact ⟨rfl, rfl, hne, hp⟩

theorem parseBytes_run {c : Config} {st st' : PState} {buf : Bytes} {ps : List Packet}
    (h : parseBytes c st buf = (st', .done ps)) : Run c st buf st' ps :=
  parseBytesF_run c _ _ _ _ _ h

/-- with more fuel than bytes the loop computes the trace -/
theorem Run.toParseBytesF {c : Config} {st st' : PState} {buf : Bytes} {ps : List Packet} (h : Run c st buf st' ps) :
    ∀ fuel, buf.length < fuel → parseBytesF c fuel st buf = (st', .done ps) := by
  induction h with
  | nil st => intro fuel hf; cases fuel with | zero => omega | succ f => simp [parseBytesF]
  | @ok st st1 st' buf rest pkt ps hp _ ih =>
    intro fuel hf
    have hl := parsePacket_progress c _ _ _ _ _ hp
    cases fuel with
    | zero => omega
    | succ f =>
      have he : buf.isEmpty = false := List.isEmpty_eq_false_iff.2 (by intro e; subst e; simp at hl)
      unfold parseBytesF
      simp only [he, Bool.false_eq_true, ↓reduceIte, hp]
      split
      · rename_i hr
        rw [List.isEmpty_iff.1 hr] at ih
        have := ih 1 (by simp)
        simp only [parseBytesF, List.isEmpty_nil, ↓reduceIte, Prod.mk.injEq, Outcome.done.injEq] at this
        rw [this.1, this.2]
      · rw [ih f (by omega)]; rfl
  | @fail st st' buf e hne hp =>
    intro fuel hf
    cases fuel with
    | zero => omega
    | succ f =>
      have he : buf.isEmpty = false := List.isEmpty_eq_false_iff.2 hne
      simp only [parseBytesF, he, Bool.false_eq_true, ↓reduceIte, hp]
  | @unallowed st st' buf hne hp =>
    intro fuel hf
    cases fuel with
    | zero => omega
    | succ f =>
      have he : buf.isEmpty = false := List.isEmpty_eq_false_iff.2 hne
      simp only [parseBytesF, he, Bool.false_eq_true, ↓reduceIte, hp]

theorem parseBytes_done_iff {c : Config} {st st' : PState} {buf : Bytes} {ps : List Packet} :
    parseBytes c st buf = (st', .done ps) ↔ Run c st buf st' ps :=
  ⟨parseBytes_run, fun h => h.toParseBytesF _ (Nat.lt_succ_self _)⟩

theorem parseBytes_nil (c : Config) (st : PState) : parseBytes c st [] = (st, .done []) :=
  parseBytes_done_iff.2 (.nil st)

theorem parseBytes_fail (c : Config) {st st' : PState} {buf : Bytes} {e : ErrKind} (hne : buf ≠ [])
    (h : parsePacket c st buf = (st', .fail e)) :
    parseBytes c st buf = (st', .done [.error e buf]) :=
  parseBytes_done_iff.2 (.fail hne h)

/-- a property of every packet `parse_packet_by_version` accepts and of every error element holds of
    every element of the list `parse_bytes` returns -/
theorem Run.forall {c : Config} {Q : Packet → Prop}
    (hok : ∀ st st' i p r, parsePacket c st i = (st', .ok p r) → Q p) (herr : ∀ e b, Q (.error e b))
    {st st' : PState} {buf : Bytes} {ps : List Packet} (h : Run c st buf st' ps) : ∀ p ∈ ps, Q p := by
  induction h with
  | nil => intro p hp; cases hp
  | ok hp _ ih =>
    intro p hm
    rcases List.mem_cons.1 hm with rfl | hm
    · exact hok _ _ _ _ _ hp
    · exact ih p hm
  | fail => intro p hm; rw [List.mem_singleton.1 hm]; exact herr _ _
  | unallowed => intro p hp; cases hp

theorem parseBytesF_forall {c : Config} {Q : Packet → Prop}
    (hok : ∀ st st' i p r, parsePacket c st i = (st', .ok p r) → Q p) (herr : ∀ e b, Q (.error e b))
    (f : Nat) (st st' : PState) (buf : Bytes) (ps : List Packet)
    (h : parseBytesF c f st buf = (st', .done ps)) : ∀ p ∈ ps, Q p :=
  (parseBytesF_run c f st st' buf ps h).forall hok herr

/-- an invariant of the packet step is an invariant of the call -/
theorem Run.inv {c : Config} {I : PState → Prop} (hstep : ∀ st i, I st → I (parsePacket c st i).1)
    {st st' : PState} {buf : Bytes} {ps : List Packet} (h : Run c st buf st' ps) : I st → I st' := by
  induction h with
  | nil => exact id
  | @ok st _ _ buf _ _ _ hp _ ih =>
    intro hI
    apply ih
    have := hstep st buf hI
    rwa [hp] at this
  | @fail st _ buf _ _ hp =>
    intro hI
    have := hstep st buf hI
    rwa [hp] at this
  | @unallowed st _ buf _ hp =>
    intro hI
    have := hstep st buf hI
    rwa [hp] at this

end Netflow
