/-
  Lemmas/IpfixFindings.lean — the record-loop condition `recLoopOk` of the C05 proof excludes the
  known-finding class `Findings.varlenTail` ("ipfix-varlen-tail").
-/
import NetflowModel.Lemmas.IpfixMsg
namespace Netflow
open Spec

theorem recSize_eq_sum (r : List FieldBytes) : recSize r = (r.map Findings.fieldBytesSize).sum := by
  induction r with
  | nil => rfl
  | cons f fs ih =>
    simp only [recSize, List.flatMap_cons, List.length_append, List.map_cons, List.sum_cons,
      Findings.fieldBytesSize] at ih ⊢
    rw [ih]

theorem recLoopOk_go (pad : Bytes) : ∀ (sizes : List Nat), recLoopOk sizes pad.length = true →
    Findings.varlenTail.go pad sizes = false := by
  intro sizes
  induction sizes with
  | nil => intro h; simp [recLoopOk] at h
  | cons s rest ih =>
    intro h
    cases rest with
    | nil => simp [Findings.varlenTail.go]
    | cons s2 rest' =>
      simp only [recLoopOk, Bool.and_eq_true, decide_eq_true_eq] at h
      obtain ⟨⟨_, h2⟩, h3⟩ := h
      simp only [Findings.varlenTail.go, Bool.or_eq_false_iff, decide_eq_false_iff_not]
      exact ⟨by omega, ih h3⟩

/-- a data set that satisfies the record-loop hypothesis of `C05_partial` is outside the
    known-finding class "ipfix-varlen-tail" -/
theorem recLoopOk_not_varlenTail (recs : List (List FieldBytes)) (pad : Bytes)
    (h : recLoopOk (recs.map recSize) pad.length = true) : Findings.varlenTail recs pad = false := by
  have e : recs.map (fun r => (r.map Findings.fieldBytesSize).sum) = recs.map recSize :=
    List.map_congr_left (fun r _ => (recSize_eq_sum r).symm)
  simp only [Findings.varlenTail, e]
  exact recLoopOk_go pad _ h

end Netflow
