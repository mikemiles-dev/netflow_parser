/-
  Lemmas/IpfixRecord.lean — data sets of the C05 print-then-parse proof: one data
  record (`ipParseRec`) and the record loop of a data set (`ipRecLoop`).
-/
import NetflowModel.Lemmas.IpfixValue
namespace Netflow
open Spec

/-- value-level side conditions of one record -/
def recValOk (c : Config) (fs : List IpTField) (r : List FieldBytes) : Bool :=
  (fs.zip r).all fun p => ipFieldValOk c p.1 p.2

/-- `Spec.expIpRec` with the index of the first field generalised -/
def expIpRecFrom (c : Config) (names : List (Nat × String)) (idx : Nat) (fs : List IpTField) (r : List FieldBytes) :
    Option (List Rec) :=
  allSome (((fs.zip r).zipIdx idx).map fun p =>
    (expIpField c names p.1.1 p.1.2).map fun v =>
      [(p.2, (match p.1.1.ent with | some _ => c.t.ipEnterprise | none => c.t.ipField p.1.1.typ), v)])

theorem ipParseRec_enc_from (c : Config) (names : List (Nat × String))
    (harms : DnArmsOk c.t.dnArms) (hnp : NoProto c) :
    ∀ (fs : List IpTField) (r : List FieldBytes) (idx : Nat) (es : List Rec) (rest : Bytes),
      fs.length = r.length → recValOk c fs r = true → expIpRecFrom c names idx fs r = some es →
      ipParseRec c fs idx (r.flatMap encFieldBytes ++ rest) = some (es, rest) := by
  intro fs
  induction fs with
  | nil =>
    intro r idx es rest hl _ h
    cases r with
    | nil =>
      simp only [expIpRecFrom, List.zip_nil_left, List.zipIdx_nil, List.map_nil, allSome, Option.some.injEq] at h
      simp [ipParseRec, h]
    | cons _ _ => simp at hl
  | cons f fs ih =>
    intro r idx es rest hl hok h
    cases r with
    | nil => simp at hl
    | cons v vs =>
      simp only [expIpRecFrom, List.zip_cons_cons, List.zipIdx_cons, List.map_cons] at h
      obtain ⟨a, as, h1, h2, h3⟩ := allSome_cons_some h
      cases hv : expIpField c names f v with
      | none => simp [hv] at h1
      | some val =>
        simp only [hv, Option.map_some, Option.some.injEq] at h1
        simp only [recValOk, List.zip_cons_cons, List.all_cons, Bool.and_eq_true] at hok
        simp only [List.flatMap_cons, List.append_assoc, ipParseRec]
        rw [ipParseValue_enc c names f v val _ harms hnp hok.1 hv]
        simp only
        rw [ih vs (idx + 1) as rest (by simpa using hl) hok.2 h2]
        subst h3 h1
        simp only [ipFieldDisc]
        cases f.ent <;> rfl

theorem ipParseRec_enc (c : Config) (names : List (Nat × String))
    (harms : DnArmsOk c.t.dnArms) (hnp : NoProto c)
    (fs : List IpTField) (r : List FieldBytes) (es : List Rec) (rest : Bytes)
    (hok : recValOk c fs r = true) (h : expIpRec c names fs r = some es) :
    ipParseRec c fs 0 (r.flatMap encFieldBytes ++ rest) = some (es, rest) := by
  unfold expIpRec at h
  split at h
  · simp at h
  · rename_i hl
    exact ipParseRec_enc_from c names harms hnp fs r 0 es rest (Decidable.not_not.mp hl) hok h

/-- wire size of one record -/
def recSize (r : List FieldBytes) : Nat := (r.flatMap encFieldBytes).length

/-- The exact condition on the record sizes `s₁ … sₙ` and the padding length `p` under which the
    crate's loop (`continue while remaining ≥ size of the record just read`, `break` when a record
    took no bytes) returns all `n` records and the padding:
    there is at least one record; every record but the last is non-empty and no longer than the
    bytes that follow it; the last record is empty or longer than the padding. -/
def recLoopOk : List Nat → Nat → Bool
  | [], _ => false
  | [s], p => decide (s = 0) || decide (p < s)
  | s :: s2 :: rest, p => decide (0 < s) && decide (s ≤ (s2 :: rest).sum + p) && recLoopOk (s2 :: rest) p

theorem flatMap_recs_length (recs : List (List FieldBytes)) :
    (recs.flatMap fun r => r.flatMap encFieldBytes).length = (recs.map recSize).sum := by
  induction recs with
  | nil => simp
  | cons r rs ih => simp only [List.flatMap_cons, List.length_append, List.map_cons, List.sum_cons, ih, recSize]

theorem ipRecLoop_enc (c : Config) (names : List (Nat × String))
    (harms : DnArmsOk c.t.dnArms) (hnp : NoProto c) (fs : List IpTField) :
    ∀ (recs : List (List FieldBytes)) (ents : List (List Rec)) (fuel : Nat) (pad : Bytes),
      (∀ r ∈ recs, recValOk c fs r = true) →
      allSome (recs.map (expIpRec c names fs)) = some ents →
      recLoopOk (recs.map recSize) pad.length = true →
      ((recs.flatMap fun r => r.flatMap encFieldBytes) ++ pad).length < fuel →
      ipRecLoop c fs fuel ((recs.flatMap fun r => r.flatMap encFieldBytes) ++ pad) = .ok (ents.flatten, pad) := by
  intro recs
  induction recs with
  | nil => intro ents fuel pad _ _ hl _; simp [recLoopOk] at hl
  | cons r rs ih =>
    intro ents fuel pad hok hexp hl hfuel
    cases fuel with
    | zero => omega
    | succ fuel =>
      simp only [List.map_cons] at hexp
      obtain ⟨e, es, h1, h2, h3⟩ := allSome_cons_some hexp
      have hp := ipParseRec_enc c names harms hnp fs r e ((rs.flatMap fun r => r.flatMap encFieldBytes) ++ pad)
        (hok r List.mem_cons_self) h1
      have htaken : (r.flatMap encFieldBytes ++ ((rs.flatMap fun r => r.flatMap encFieldBytes) ++ pad)).length -
          ((rs.flatMap fun r => r.flatMap encFieldBytes) ++ pad).length = recSize r := by
        simp only [List.length_append, recSize]; omega
      simp only [List.flatMap_cons, List.append_assoc, ipRecLoop]
      rw [hp]
      simp only [htaken]
      cases rs with
      | nil =>
        simp only [List.map_cons, List.map_nil, recLoopOk, Bool.or_eq_true, decide_eq_true_eq] at hl
        simp only [List.map_nil, allSome, Option.some.injEq] at h2
        subst h2 h3
        simp only [List.flatMap_nil, List.nil_append, List.flatten_cons, List.flatten_nil, List.append_nil]
        by_cases h0 : recSize r = 0
        · rw [if_pos h0]
        · rw [if_neg h0, if_neg (by omega)]
      | cons r2 rs' =>
        simp only [List.map_cons, recLoopOk, Bool.and_eq_true, decide_eq_true_eq] at hl
        obtain ⟨⟨hl1, hl2⟩, hl3⟩ := hl
        have hlen := flatMap_recs_length (r2 :: rs')
        simp only [List.map_cons] at hlen
        rw [if_neg (by omega), if_pos (by rw [List.length_append, hlen]; omega)]
        have hfuel' : (((r2 :: rs').flatMap fun r => r.flatMap encFieldBytes) ++ pad).length < fuel := by
          simp only [List.flatMap_cons, List.append_assoc, List.length_append] at hfuel ⊢
          simp only [recSize] at hl1
          omega
        rw [ih es fuel pad (fun x hx => hok x (List.mem_cons_of_mem _ hx)) h2
          (by simpa only [List.map_cons] using hl3) hfuel']
        simp only [h3, List.flatten_cons]

end Netflow
