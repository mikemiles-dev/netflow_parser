/-
  Lemmas/IpfixSets.lean — sets of the C05 print-then-parse proof: template memory (`ReprIp`), set
  framing and the three kinds of set body (`ipParseSet`), and the per-set conformance predicate.
-/
import NetflowModel.Lemmas.IpfixRecord
namespace Netflow
open Spec

def AmSorted_a6 {β : Type} : List (Nat × β) → Prop
  | [] => True
  | p :: rest => (∀ q ∈ rest, p.1 < q.1) ∧ AmSorted_a6 rest

theorem AmSorted_a6_iff {β : Type} {l : List (Nat × β)} : AmSorted_a6 l ↔ AmSorted l := by
  induction l with
  | nil => simp [AmSorted_a6, AmSorted]
  | cons p rest ih => rw [AmSorted_a6, AmSorted.cons_iff, ih]

theorem amInsert_sorted {β : Type} (k : Nat) (v : β) (l : List (Nat × β)) (h : AmSorted_a6 l) :
    AmSorted_a6 (amInsert k v l) :=
  AmSorted_a6_iff.2 (.insert k v l (AmSorted_a6_iff.1 h))

theorem amErase_sorted {β : Type} (k : Nat) (l : List (Nat × β)) (h : AmSorted_a6 l) : AmSorted_a6 (amErase k l) :=
  AmSorted_a6_iff.2 (.erase k l (AmSorted_a6_iff.1 h))

/-- what the parser state knows about IPFIX template id `id`, as a specification-side definition:
    the data-set lookup order of `FlowSetBody::parse` (templates first, then options templates),
    forgetting the cached `field_count` and `padding` -/
def absIp (st : PState) (id : Nat) : Option IpDef :=
  match amLookup id st.ipT with
  | some t => some (.t { id := t.id, fields := t.fields })
  | none =>
    match amLookup id st.ipO with
    | some t => some (.o { id := t.id, scopeCount := t.scopeCount, fields := t.fields })
    | none => none

/-- parser state `st` represents template memory `d` (IPFIX part).  One equation through `absIp`, which looks in the
    template map first and in the options map only if the id is absent there (so a stale options entry under an id
    that also has a template is invisible, as it is to the parser); `Repr9` states an iff per map. -/
structure ReprIp (d : List (Nat × IpDef)) (st : PState) : Prop where
  sortedT : AmSorted_a6 st.ipT
  sortedO : AmSorted_a6 st.ipO
  look : ∀ id, amLookup id d = absIp st id

theorem absIp_t_iff {st : PState} {id : Nat} {t : IpTemplateSpec} :
    absIp st id = some (.t t) ↔ ∃ T, amLookup id st.ipT = some T ∧ t = ⟨T.id, T.fields⟩ := by
  unfold absIp
  cases amLookup id st.ipT <;> cases amLookup id st.ipO <;> simp [eq_comm]

theorem absIp_o_iff {st : PState} {id : Nat} {t : IpOptTemplateSpec} :
    absIp st id = some (.o t) ↔
      amLookup id st.ipT = none ∧ ∃ T, amLookup id st.ipO = some T ∧ t = ⟨T.id, T.scopeCount, T.fields⟩ := by
  unfold absIp
  cases amLookup id st.ipT <;> cases amLookup id st.ipO <;> simp [eq_comm]

theorem ReprIp.insertT {d : List (Nat × IpDef)} {st : PState} (hr : ReprIp d st) (t : IpTemplateSpec) (T : IpTemplate)
    (hid : T.id = t.id) (hf : T.fields = t.fields) :
    ReprIp (ipInsert d t.id (.t t)) { st with ipT := amInsert T.id T st.ipT, ipO := amErase T.id st.ipO } := by
  refine ⟨amInsert_sorted _ _ _ hr.sortedT, amErase_sorted _ _ hr.sortedO, ?_⟩
  intro id
  simp only [ipInsert, amLookup_amInsert, absIp, hid]
  by_cases h : id = t.id
  · simp only [h, ↓reduceIte]
    obtain ⟨tid, tfs⟩ := t
    simp only at hid hf
    simp [hid, hf]
  · simp only [h, ↓reduceIte, amLookup_amErase_ne h]
    exact hr.look id

theorem ReprIp.insertO {d : List (Nat × IpDef)} {st : PState} (hr : ReprIp d st) (t : IpOptTemplateSpec) (T : IpOptTemplate)
    (hid : T.id = t.id) (hs : T.scopeCount = t.scopeCount) (hf : T.fields = t.fields) :
    ReprIp (ipInsert d t.id (.o t)) { st with ipO := amInsert T.id T st.ipO, ipT := amErase T.id st.ipT } := by
  refine ⟨amErase_sorted _ _ hr.sortedT, amInsert_sorted _ _ _ hr.sortedO, ?_⟩
  intro id
  simp only [ipInsert, amLookup_amInsert, absIp, hid]
  by_cases h : id = t.id
  · simp only [h, ↓reduceIte, amLookup_amErase_self _ (AmSorted_a6_iff.1 hr.sortedT)]
    obtain ⟨tid, tsc, tfs⟩ := t
    simp only at hid hf hs
    simp [hid, hf, hs]
  · simp only [h, ↓reduceIte, amLookup_amErase_ne h]
    exact hr.look id

theorem ReprIp.empty : ReprIp [] {} := ⟨trivial, trivial, fun _ => rfl⟩

/-- the relation in the "iff up to `field_count` / `padding`" form, templates: the memory holds
    template `t` at `id` exactly when the template cache holds a record with `t`'s id and fields -/
theorem ReprIp.t_iff {d : List (Nat × IpDef)} {st : PState} (hr : ReprIp d st) (id : Nat) (t : IpTemplateSpec) :
    amLookup id d = some (.t t) ↔
      ∃ fc pad, amLookup id st.ipT = some { id := t.id, fieldCount := fc, fields := t.fields, pad := pad } := by
  rw [hr.look id, absIp_t_iff]
  constructor
  · rintro ⟨⟨_, fc, _, pad⟩, hT, rfl⟩
    exact ⟨fc, pad, hT⟩
  · rintro ⟨fc, pad, h⟩
    exact ⟨_, h, rfl⟩

/-- options templates: the memory holds `t` at `id` exactly when the template cache has no entry
    for `id` (it would shadow) and the options-template cache holds a record with `t`'s data -/
theorem ReprIp.o_iff {d : List (Nat × IpDef)} {st : PState} (hr : ReprIp d st) (id : Nat) (t : IpOptTemplateSpec) :
    amLookup id d = some (.o t) ↔
      amLookup id st.ipT = none ∧
      ∃ fc pad, amLookup id st.ipO = some { id := t.id, fieldCount := fc, scopeCount := t.scopeCount, fields := t.fields, pad := pad } := by
  rw [hr.look id, absIp_o_iff]
  constructor
  · rintro ⟨h0, ⟨_, fc, _, _, pad⟩, hT, rfl⟩
    exact ⟨h0, fc, pad, hT⟩
  · rintro ⟨h0, fc, pad, h⟩
    exact ⟨h0, _, h, rfl⟩

/-- facts about the generated tables used by the IPFIX round trip (decidable; discharged for
    `Generated.tables` by `decide`): header layouts, set-id dispatch constants, `DataNumber::parse`
    arms, version dispatch.  The header after the 2-byte version word is 14 bytes, so the `length` field counts
    16 = 14 + 2 bytes of header. -/
def Tables.ipfixOk (t : Tables) : Bool :=
  decide (t.ipHdr = [
    { name := "version", kind := .const 10, tw := 2 },
    { name := "length", kind := .wire 2, tw := 2 },
    { name := "export_time", kind := .wire 4, tw := 4 },
    { name := "sequence_number", kind := .wire 4, tw := 4 },
    { name := "observation_domain_id", kind := .wire 4, tw := 4 } ]) &&
  decide (t.ipSetHdr = [
    { name := "header_id", kind := .wire 2, tw := 2 },
    { name := "length", kind := .wire 2, tw := 2 } ]) &&
  decide (2 < t.ipSetMinRange) && decide (t.ipSetMinRange ≤ 256) && decide (t.ipOptTemplateId = 3) &&
  DnArmsOk_a6 t.dnArms && decide (t.dispatch.lookup 10 = some 10)

/-- conditions on a data set governed by a template with field list `fs` -/
def ipDataConf (c : Config) (fs : List IpTField) (recs : List (List FieldBytes)) (pad : Bytes) : Bool :=
  !fs.isEmpty && recs.all (recValOk c fs) && recLoopOk (recs.map recSize) pad.length

/-- extra conformance conditions of one set, given the template memory `d` in force -/
def ipSetConf (c : Config) (d : List (Nat × IpDef)) : IpFS → Bool
  | .templates ts pad =>
    (match ts with
     | [t] => IpTemplateOk t && padStopsFields pad
     | _ => false) &&
    decide ((ts.flatMap encIpTemplate ++ pad).length + 4 < 65536)
  | .optTemplates ts pad =>
    (match ts with
     | [t] => IpOptTemplateOk t
     | _ => false) &&
    decide ((ts.flatMap encIpOptTemplate ++ pad).length + 4 < 65536)
  | .data id recs pad =>
    decide (256 ≤ id) && decide (id < 65536) &&
    decide (((recs.flatMap fun r => r.flatMap encFieldBytes) ++ pad).length + 4 < 65536) &&
    (match amLookup id d with
     | some (.t t) => ipDataConf c t.fields recs pad
     | some (.o t) => ipDataConf c t.fields recs pad
     | none => false)

/-- template memory after one set (what `Spec.expIpSet` computes, without the value checks) -/
def ipDefsStep (d : List (Nat × IpDef)) : IpFS → List (Nat × IpDef)
  | .templates ts _ => ts.foldl (fun d t => ipInsert d t.id (.t t)) d
  | .optTemplates ts _ => ts.foldl (fun d t => ipInsert d t.id (.o t)) d
  | .data _ _ _ => d

def ipSetsConf (c : Config) : List (Nat × IpDef) → List IpFS → Bool
  | _, [] => true
  | d, s :: ss => ipSetConf c d s && ipSetsConf c (ipDefsStep d s) ss

theorem ipfixOk_hdr {t : Tables} (h : t.ipfixOk = true) : t.ipHdr = [
    { name := "version", kind := .const 10, tw := 2 },
    { name := "length", kind := .wire 2, tw := 2 },
    { name := "export_time", kind := .wire 4, tw := 4 },
    { name := "sequence_number", kind := .wire 4, tw := 4 },
    { name := "observation_domain_id", kind := .wire 4, tw := 4 } ] := by
  simp only [Tables.ipfixOk, Bool.and_eq_true, decide_eq_true_eq] at h
  exact h.1.1.1.1.1.1

theorem ipfixOk_setHdr {t : Tables} (h : t.ipfixOk = true) : t.ipSetHdr = [
    { name := "header_id", kind := .wire 2, tw := 2 },
    { name := "length", kind := .wire 2, tw := 2 } ] := by
  simp only [Tables.ipfixOk, Bool.and_eq_true, decide_eq_true_eq] at h
  exact h.1.1.1.1.1.2

theorem ipfixOk_rest {t : Tables} (h : t.ipfixOk = true) :
    2 < t.ipSetMinRange ∧ t.ipSetMinRange ≤ 256 ∧ t.ipOptTemplateId = 3 ∧ DnArmsOk t.dnArms ∧
      t.dispatch.lookup 10 = some 10 := by
  simp only [Tables.ipfixOk, Bool.and_eq_true, decide_eq_true_eq] at h
  exact ⟨h.1.1.1.1.2, h.1.1.1.2, h.1.1.2, DnArmsOk.of_bool h.1.2, h.2⟩

theorem expIpSet_defs (c : Config) (names : List (Nat × String)) (d d1 : List (Nat × IpDef)) (s : IpFS) (x : Option IpSet)
    (h : expIpSet c names d s = some (d1, x)) : d1 = ipDefsStep d s := by
  cases s <;> simp only [expIpSet] at h <;> (repeat' split at h) <;>
    simp only [Option.some.injEq, Prod.mk.injEq, reduceCtorEq] at h <;> simp [ipDefsStep, ← h.1]

/-- `ipParseSet` on a framed body: header decoded, body cut out, body parser run -/
theorem ipParseSet_frame (c : Config) (ht : c.t.ipfixOk = true) (st st' : PState) (id : Nat) (body rest : Bytes)
    (b : IpBody) (hid : id < 65536) (hlen : body.length + 4 < 65536)
    (hb : ipParseBody c st id body = (st', .ok b)) :
    ipParseSet c st (frame id body ++ rest) =
      (st', .ok ({ id := id, len := (frame id body).length, body := b }, rest)) := by
  have hp : parseLayout c.t.protoFromU8 c.t.ipSetHdr (frame id body ++ rest) =
      some ([id, body.length + 4], body ++ rest) := by
    rw [ipfixOk_setHdr ht]
    simp [frame, parseLayout, parseFields, beU2_toBE hid, beU2_toBE hlen]
  have g1 : c.t.ipSetHdr.get "header_id" [id, body.length + 4] = id := by rw [ipfixOk_setHdr ht]; rfl
  have g2 : c.t.ipSetHdr.get "length" [id, body.length + 4] = body.length + 4 := by rw [ipfixOk_setHdr ht]; rfl
  simp only [ipParseSet, hp, g1, g2, Nat.add_sub_cancel, takeN_append body rest rfl, hb, frame_length]

theorem ipParseBody_template (c : Config) (ht : c.t.ipfixOk = true) (st : PState) (t : IpTemplateSpec) (pad : Bytes)
    (hok : IpTemplateOk t = true) (hpad : padStopsFields pad = true) :
    ipParseBody c st 2 (encIpTemplate t ++ pad) =
      ({ st with ipT := amInsert t.id ⟨t.id, t.fields.length, t.fields, pad⟩ st.ipT, ipO := amErase t.id st.ipO },
       .ok (.template ⟨t.id, t.fields.length, t.fields, pad⟩)) := by
  obtain ⟨h2, _, h3, -⟩ := ipfixOk_rest ht
  have hv : ipValid t.fields = true := by
    simp only [IpTemplateOk, Bool.and_eq_true] at hok; exact hok.2
  simp only [ipParseBody]
  rw [if_pos ⟨by omega, by omega⟩, parseIpTemplate_enc t pad hok hpad]
  simp only [hv, ↓reduceIte]

theorem ipParseBody_optTemplate (c : Config) (ht : c.t.ipfixOk = true) (st : PState) (t : IpOptTemplateSpec) (pad : Bytes)
    (hok : IpOptTemplateOk t = true) :
    ipParseBody c st 3 (encIpOptTemplate t ++ pad) =
      ({ st with ipO := amInsert t.id ⟨t.id, t.fields.length, t.scopeCount, t.fields, pad⟩ st.ipO, ipT := amErase t.id st.ipT },
       .ok (.optTemplate ⟨t.id, t.fields.length, t.scopeCount, t.fields, pad⟩)) := by
  obtain ⟨h2, _, h3, -⟩ := ipfixOk_rest ht
  have hv : ipValid t.fields = true := by
    simp only [IpOptTemplateOk, Bool.and_eq_true] at hok; exact hok.2
  simp only [ipParseBody]
  rw [if_neg (by omega), if_pos (by omega), parseIpOptTemplate_enc t pad hok]
  simp only [hv, ↓reduceIte]

/-- the record loop as `ipParseBody` calls it on the body of a conformant data set -/
theorem ipRecLoop_data (c : Config) (names : List (Nat × String)) (ht : c.t.ipfixOk = true) (hnp : NoProto c)
    (fs : List IpTField) (recs : List (List FieldBytes)) (pad : Bytes) (rs : List (List Rec))
    (hconf : ipDataConf c fs recs pad = true)
    (hexp : allSome (recs.map (expIpRec c names fs)) = some rs) :
    fs.isEmpty = false ∧
    ipRecLoop c fs (((recs.flatMap fun r => r.flatMap encFieldBytes) ++ pad).length + 1)
      ((recs.flatMap fun r => r.flatMap encFieldBytes) ++ pad) = .ok (rs.flatten, pad) := by
  simp only [ipDataConf, Bool.and_eq_true, Bool.not_eq_true', List.all_eq_true] at hconf
  exact ⟨hconf.1.1, ipRecLoop_enc c names (ipfixOk_rest ht).2.2.2.1 hnp fs recs rs _ pad hconf.1.2 hexp hconf.2 (Nat.lt_succ_self _)⟩

theorem ipParseSet_enc (c : Config) (names : List (Nat × String)) (ht : c.t.ipfixOk = true) (hnp : NoProto c)
    (d : List (Nat × IpDef)) (st : PState) (s : IpFS) (d1 : List (Nat × IpDef)) (s1 : IpSet) (rest : Bytes)
    (hr : ReprIp d st) (hconf : ipSetConf c d s = true) (hexp : expIpSet c names d s = some (d1, some s1)) :
    ∃ st1, ipParseSet c st (encIpFS s ++ rest) = (st1, .ok (s1, rest)) ∧ ReprIp d1 st1 := by
  cases s with
  | templates ts pad =>
    match ts, hconf, hexp with
    | [t], hconf, hexp =>
      simp only [ipSetConf, Bool.and_eq_true, decide_eq_true_eq, List.flatMap_cons, List.flatMap_nil,
        List.append_nil] at hconf
      simp only [expIpSet, Option.some.injEq, Prod.mk.injEq] at hexp
      obtain ⟨rfl, rfl⟩ := hexp
      refine ⟨_, ?_, hr.insertT t ⟨t.id, t.fields.length, t.fields, pad⟩ rfl rfl⟩
      simp only [encIpFS, List.flatMap_cons, List.flatMap_nil, List.append_nil]
      exact ipParseSet_frame c ht st _ 2 _ rest _ (by omega) hconf.2
        (ipParseBody_template c ht st t pad hconf.1.1 hconf.1.2)
  | optTemplates ts pad =>
    match ts, hconf, hexp with
    | [t], hconf, hexp =>
      simp only [ipSetConf, Bool.and_eq_true, decide_eq_true_eq, List.flatMap_cons, List.flatMap_nil,
        List.append_nil] at hconf
      simp only [expIpSet, Option.some.injEq, Prod.mk.injEq] at hexp
      obtain ⟨rfl, rfl⟩ := hexp
      refine ⟨_, ?_, hr.insertO t ⟨t.id, t.fields.length, t.scopeCount, t.fields, pad⟩ rfl rfl rfl⟩
      simp only [encIpFS, List.flatMap_cons, List.flatMap_nil, List.append_nil]
      exact ipParseSet_frame c ht st _ 3 _ rest _ (by omega) hconf.2 (ipParseBody_optTemplate c ht st t pad hconf.1)
  | data id recs pad =>
    simp only [ipSetConf, Bool.and_eq_true, decide_eq_true_eq] at hconf
    obtain ⟨⟨⟨hid1, hid2⟩, hlen⟩, hc⟩ := hconf
    obtain ⟨h2, hmin, h3, -⟩ := ipfixOk_rest ht
    simp only [expIpSet] at hexp
    -- both kinds of governing template: the cache entry found by `absIp` has the template's fields
    cases hd : amLookup id d with
    | none => simp [hd] at hexp
    | some df =>
      cases df with
      | t t =>
        simp only [hd] at hexp hc
        cases hall : allSome (recs.map (expIpRec c names t.fields)) with
        | none => simp [hall] at hexp
        | some rs =>
          simp only [hall, Option.some.injEq, Prod.mk.injEq] at hexp
          obtain ⟨rfl, rfl⟩ := hexp
          obtain ⟨T, hT, rfl⟩ := absIp_t_iff.1 ((hr.look id).symm.trans hd)
          obtain ⟨hne, hloop⟩ := ipRecLoop_data c names ht hnp _ recs pad rs hc hall
          refine ⟨st, ipParseSet_frame c ht st st id _ rest _ hid2 hlen ?_, hr⟩
          simp only [ipParseBody]
          rw [if_neg (by omega), if_neg (by omega)]
          simp only [hT, hne, Bool.false_eq_true, ↓reduceIte, hloop]
      | o t =>
        simp only [hd] at hexp hc
        cases hall : allSome (recs.map (expIpRec c names t.fields)) with
        | none => simp [hall] at hexp
        | some rs =>
          simp only [hall, Option.some.injEq, Prod.mk.injEq] at hexp
          obtain ⟨rfl, rfl⟩ := hexp
          obtain ⟨hTn, T, hT, rfl⟩ := absIp_o_iff.1 ((hr.look id).symm.trans hd)
          obtain ⟨hne, hloop⟩ := ipRecLoop_data c names ht hnp _ recs pad rs hc hall
          refine ⟨st, ipParseSet_frame c ht st st id _ rest _ hid2 hlen ?_, hr⟩
          simp only [ipParseBody]
          rw [if_neg (by omega), if_neg (by omega)]
          simp only [hTn, hT, hne, Bool.false_eq_true, ↓reduceIte, hloop]

end Netflow
