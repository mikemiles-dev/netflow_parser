/-
  Lemmas/IpfixTemplate.lean — template records of the C05 print-then-parse proof: one IPFIX
  template field specifier, a template record followed by set padding, an options template record.
-/
import NetflowModel.Lemmas.RoundTrip
namespace Netflow
open Spec

/-- a field specifier an RFC 7011 exporter can write: information element id below the
    enterprise bit, 16-bit length, 32-bit enterprise number -/
def IpTFieldOk (f : IpTField) : Bool :=
  decide (f.typ < 32768) && decide (f.len < 65536) &&
  (match f.ent with | some pen => decide (pen < 4294967296) | none => true)

theorem encIpTField_length_pos (f : IpTField) : 4 ≤ (encIpTField f).length := by
  unfold encIpTField
  cases f.ent <;> simp [toBE_length]

theorem parseIpTField_enc (f : IpTField) (r : Bytes) (hf : IpTFieldOk f = true) :
    parseIpTField (encIpTField f ++ r) = some (f, r) := by
  obtain ⟨typ, len, ent⟩ := f
  simp only [IpTFieldOk, Bool.and_eq_true, decide_eq_true_eq] at hf
  obtain ⟨⟨h1, h2⟩, h3⟩ := hf
  cases ent with
  | none =>
    simp only [encIpTField, List.append_assoc, parseIpTField]
    rw [beU2_toBE (by omega), ]
    simp only
    rw [beU2_toBE h2]
    simp only
    rw [if_neg (by omega)]
  | some pen =>
    simp only [decide_eq_true_eq] at h3
    simp only [encIpTField, List.append_assoc, parseIpTField]
    rw [beU2_toBE (by omega)]
    simp only
    rw [beU2_toBE h2]
    simp only
    rw [if_pos (by omega), beU4_toBE h3]
    simp only [Nat.add_sub_cancel]

/-- the exact condition under which the greedy field loop of `Template::parse` stops at the set
    padding: fewer than 4 bytes, or 4..7 bytes that start with the enterprise bit set -/
def padStopsFields (pad : Bytes) : Bool :=
  decide (pad.length < 4) || (decide (pad.length < 8) && decide (32767 < beNat (pad.take 2)))

theorem parseIpTField_none_iff (pad : Bytes) : parseIpTField pad = none ↔ padStopsFields pad = true := by
  unfold parseIpTField padStopsFields
  by_cases h4 : pad.length < 4
  · simp only [h4, decide_true, Bool.true_or, iff_true]
    by_cases h2 : 2 ≤ pad.length
    · rw [beU_of_le h2]
      simp only
      have : beU 2 (List.drop 2 pad) = none := by
        simp only [beU]; rw [if_neg (by rw [List.length_drop]; omega)]
      rw [this]
    · have : beU 2 pad = none := by simp only [beU]; rw [if_neg h2]
      rw [this]
  · simp only [h4, decide_false, Bool.false_or, Bool.and_eq_true, decide_eq_true_eq]
    rw [beU_of_le (by omega)]
    simp only
    rw [beU_of_le (by rw [List.length_drop]; omega)]
    simp only
    by_cases ht : beNat (List.take 2 pad) > 32767
    · rw [if_pos ht]
      by_cases h8 : pad.length < 8
      · have : beU 4 (List.drop 2 (List.drop 2 pad)) = none := by
          simp only [beU]; rw [if_neg (by simp only [List.length_drop]; omega)]
        rw [this]
        simp [h8]; omega
      · rw [beU_of_le (by simp only [List.length_drop]; omega)]
        simp [h8]
    · rw [if_neg ht]
      simp; omega

theorem padStopsFields_of_short {pad : Bytes} (h : pad.length < 4) : padStopsFields pad = true := by
  simp [padStopsFields, h]

/-- a template record an exporter can write and the crate accepts: 16-bit id, 16-bit field count,
    writable field specifiers, and (the crate's `is_valid`) at least one field of non-zero length -/
def IpTemplateOk (t : IpTemplateSpec) : Bool :=
  decide (t.id < 65536) && decide (t.fields.length < 65536) && t.fields.all IpTFieldOk && ipValid t.fields

theorem parseIpTemplate_enc (t : IpTemplateSpec) (pad : Bytes) (ht : IpTemplateOk t = true)
    (hpad : padStopsFields pad = true) :
    parseIpTemplate (encIpTemplate t ++ pad) =
      .ok { id := t.id, fieldCount := t.fields.length, fields := t.fields, pad := pad } := by
  simp only [IpTemplateOk, Bool.and_eq_true, decide_eq_true_eq, List.all_eq_true] at ht
  obtain ⟨⟨⟨h1, h2⟩, h3⟩, _⟩ := ht
  simp only [encIpTemplate, List.append_assoc, parseIpTemplate]
  rw [beU2_toBE h1]
  simp only
  rw [beU2_toBE h2]
  simp only [many0]
  have hlen : t.fields.length < (t.fields.flatMap encIpTField ++ pad).length + 1 := by
    have := flatMap_length_ge encIpTField 4 t.fields (fun a _ => encIpTField_length_pos a)
    rw [List.length_append]; omega
  rw [many0F_enc parseIpTField encIpTField (IpTFieldOk · = true) parseIpTField_enc
    (fun a _ => by have := encIpTField_length_pos a; omega)
    t.fields pad _ h3 ((parseIpTField_none_iff pad).2 hpad) hlen]

def IpOptTemplateOk (t : IpOptTemplateSpec) : Bool :=
  decide (t.id < 65536) && decide (t.fields.length < 65536) && decide (t.scopeCount ≤ t.fields.length) &&
  t.fields.all IpTFieldOk && ipValid t.fields

theorem parseIpOptTemplate_enc (t : IpOptTemplateSpec) (pad : Bytes) (ht : IpOptTemplateOk t = true) :
    parseIpOptTemplate (encIpOptTemplate t ++ pad) =
      .ok { id := t.id, fieldCount := t.fields.length, scopeCount := t.scopeCount, fields := t.fields, pad := pad } := by
  simp only [IpOptTemplateOk, Bool.and_eq_true, decide_eq_true_eq, List.all_eq_true] at ht
  obtain ⟨⟨⟨⟨h1, h2⟩, h3⟩, h4⟩, _⟩ := ht
  simp only [encIpOptTemplate, List.append_assoc, parseIpOptTemplate]
  rw [beU2_toBE h1]
  simp only
  rw [beU2_toBE h2]
  simp only
  rw [beU2_toBE (by omega)]
  simp only
  rw [if_pos h3, countP_roundtrip parseIpTField encIpTField (IpTFieldOk · = true) parseIpTField_enc t.fields pad h4]

end Netflow
