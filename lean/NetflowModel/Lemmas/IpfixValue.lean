/-
  Lemmas/IpfixValue.lean — one field of the C05 print-then-parse proof: the IPFIX field decoder
  `ipParseValue` (fixed, short and long variable length framing, enterprise fields) agrees with
  `Spec.expIpField`.
-/
import NetflowModel.Lemmas.IpfixTemplate
import NetflowModel.Lemmas.V9Field
import NetflowModel.Findings
namespace Netflow
open Spec

/-- the arms of `DataNumber::parse` the specification relies on (decidable; discharged for
    `Generated.dnArms` by `decide`) -/
def DnArmsOk_a6 (arms : DnArms) : Bool :=
  arms.lookup (1, false) == some .u8 && arms.lookup (2, false) == some .u16 &&
  arms.lookup (3, false) == some .u24 && arms.lookup (4, false) == some .u32 &&
  arms.lookup (8, false) == some .u64 && arms.lookup (16, false) == some .u128 &&
  arms.lookup (1, true) == some .i32 && arms.lookup (2, true) == some .i32 &&
  arms.lookup (3, true) == some .i24 && arms.lookup (4, true) == some .i32 &&
  arms.lookup (8, true) == some .i32 && arms.lookup (16, true) == some .i32

theorem DnArmsOk.of_bool {arms : DnArms} (h : DnArmsOk_a6 arms = true) : DnArmsOk arms := by
  simpa only [DnArmsOk_a6, DnArmsOk, Bool.and_eq_true, beq_iff_eq, and_assoc] using h

theorem signedWide_false {bs : Bytes} (h : Findings.signedWide bs = false) (hl : bs.length = 8 ∨ bs.length = 16) :
    FitsI32 (beInt bs) := by
  simp only [Findings.signedWide, Bool.and_eq_false_iff, Bool.or_eq_false_iff, decide_eq_false_iff_not] at h
  unfold FitsI32
  rcases h with h | h <;> omega

theorem expIpField_inv (c : Config) (names : List (Nat × String)) (f : IpTField) (v : FieldBytes) (val : FieldValue)
    (h : expIpField c names f v = some val) :
    ((f.len = 65535) ↔ (v.form ≠ .fixed)) ∧ (f.len ≠ 65535 → v.content.length = f.len) ∧
    (v.form = .short → v.content.length < 255) ∧ v.content.length < 65536 ∧
    (match ipFieldTy c f with
     | none => val = .vec v.content
     | some ty => interpSpec names ty v.content = some val) := by
  unfold expIpField at h
  split at h
  · simp at h
  · rename_i h1
    split at h
    · simp at h
    · rename_i h2
      split at h
      · simp at h
      · rename_i h3
        split at h
        · simp at h
        · rename_i h4
          refine ⟨?_, ?_, ?_, by omega, ?_⟩
          · have := Decidable.not_not.mp h1
            rw [this]
          · intro hne
            by_cases hc : v.content.length = f.len
            · exact hc
            · exact absurd ⟨hne, hc⟩ h2
          · intro hs
            by_cases hc : v.content.length < 255
            · exact hc
            · exact absurd ⟨hs, by omega⟩ h3
          · cases hty : ipFieldTy c f with
            | none => simp only [hty, Option.some.injEq] at h; exact h.symm
            | some ty => simp only [hty] at h; exact h

theorem ipFieldLength_enc (f : IpTField) (v : FieldBytes) (r : Bytes)
    (h1 : (f.len = 65535) ↔ (v.form ≠ .fixed)) (h2 : f.len ≠ 65535 → v.content.length = f.len)
    (h3 : v.form = .short → v.content.length < 255) (h4 : v.content.length < 65536) :
    ipFieldLength f (encFieldBytes v ++ r) = some (v.content.length, v.content ++ r) := by
  obtain ⟨content, form⟩ := v
  cases form with
  | fixed =>
    have hne : f.len ≠ 65535 := fun e => (h1.1 e) rfl
    simp only [ipFieldLength, encFieldBytes, if_neg hne, h2 hne]
  | short =>
    have he : f.len = 65535 := h1.2 (by simp)
    have hl : content.length < 255 := h3 rfl
    simp only [ipFieldLength, encFieldBytes, if_pos he, List.append_assoc]
    rw [beU1_toBE (by omega)]
    simp only
    rw [if_neg (by omega)]
  | long =>
    have he : f.len = 65535 := h1.2 (by simp)
    simp only [ipFieldLength, encFieldBytes, if_pos he, List.append_assoc]
    have e1 : beU 1 ([255] ++ (toBE 2 content.length ++ (content ++ r))) = some (255, toBE 2 content.length ++ (content ++ r)) := by
      simp [beU, beNat]
    rw [e1]
    simp only [↓reduceIte]
    rw [beU2_toBE h4]

/-- value-level side conditions of one (template field, field bytes) pair: the two places where the
    crate's value decoder departs from the specification -/
def ipFieldValOk (c : Config) (f : IpTField) (v : FieldBytes) : Bool :=
  match f.ent with
  | some _ => true
  | none =>
    (c.t.ipTy (c.t.ipField f.typ) != .signed || !Findings.signedWide v.content) &&
    (c.t.ipTy (c.t.ipField f.typ) != .unknown || c.unknownFields)

/-- no IPFIX information element is decoded as a `ProtocolTypes` value -/
def NoProto (c : Config) : Prop := ∀ n, c.t.ipTy (c.t.ipField n) ≠ FType.proto

theorem ipParseValue_enc (c : Config) (names : List (Nat × String)) (f : IpTField) (v : FieldBytes)
    (val : FieldValue) (r : Bytes)
    (harms : DnArmsOk c.t.dnArms) (hnp : NoProto c) (hok : ipFieldValOk c f v = true)
    (h : expIpField c names f v = some val) :
    ipParseValue c f (encFieldBytes v ++ r) = some (val, r) := by
  obtain ⟨h1, h2, h3, h4, h5⟩ := expIpField_inv c names f v val h
  simp only [ipParseValue, ipFieldLength_enc f v r h1 h2 h3 h4]
  cases he : f.ent with
  | some pen =>
    simp only [ipFieldTy, he] at h5
    simp only [takeN_append v.content r rfl, h5]
  | none =>
    simp only [ipFieldTy, he] at h5
    simp only [ipFieldValOk, he, Bool.and_eq_true, Bool.or_eq_true, bne_iff_ne, ne_eq, Bool.not_eq_true'] at hok
    simp only
    refine parseValue_interp c.vc names harms _ _ _ _ h5 (fun hp => absurd hp (hnp f.typ)) ?_ ?_
    · intro hs
      exact signedWide_false (hok.1.resolve_left (fun h => h hs))
    · intro hu
      exact hok.2.resolve_left (fun h => h hu)

end Netflow
