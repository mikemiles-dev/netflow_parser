/-
  Lemmas/JsonFaithful.lean — the JSON model `toJ` (Json.lean) is injective up to what it provably omits (paddings, the
  width tag of a `DataNumber`): leaf printers first, then layer by layer.  Every packet `parseBytes` returns meets the
  side conditions (`pktWf`, record keys in template order) when the name tables cover the crate's enum conversions.
-/
import NetflowModel.Json
import NetflowModel.Lemmas.State
import NetflowModel.Lemmas.CommonView
import NetflowModel.Lemmas.FixedLayout
import NetflowModel.Lemmas.Records
import NetflowModel.Generated
import NetflowModel.Lemmas.GenTables
open Netflow
namespace Netflow.B1

/-! ### leaf printers: strings, decimal and dotted-quad texts, MAC texts -/

theorem byteArray_toList_loop (bs : ByteArray) : ∀ (k i : Nat) (r : List UInt8), bs.size - i = k → i ≤ bs.size →
    ByteArray.toList.loop bs i r = r.reverse ++ bs.data.toList.drop i := by
  have hsz : bs.data.toList.length = bs.size := by simp
  intro k
  induction k with
  | zero =>
    intro i r hk hi
    rw [ByteArray.toList.loop]
    have : ¬ i < bs.size := by omega
    simp only [this, ↓reduceIte]
    rw [List.drop_eq_nil_of_le (by omega)]; simp
  | succ k ih =>
    intro i r hk hi
    rw [ByteArray.toList.loop]
    have hlt : i < bs.size := by omega
    simp only [hlt, ↓reduceIte]
    rw [ih (i+1) _ (by omega) (by omega)]
    have h2 : i < bs.data.toList.length := by omega
    rw [List.drop_eq_getElem_cons h2]
    simp [ByteArray.get!]
    exact getElem!_pos bs.data i (by simpa using hlt)

theorem byteArray_toList (bs : ByteArray) : bs.toList = bs.data.toList := by
  unfold ByteArray.toList
  rw [byteArray_toList_loop bs _ 0 [] rfl (Nat.zero_le _)]; simp

theorem byteArray_toList_inj {a b : ByteArray} (h : a.toList = b.toList) : a = b := by
  rw [byteArray_toList, byteArray_toList] at h
  cases a; cases b; simp at h; simp [h]

theorem strJ_inj {s t : String} (h : strJ s = strJ t) : s = t := by
  simp only [strJ, JVal.str.injEq] at h
  exact String.toByteArray_inj.mp (byteArray_toList_inj h)

theorem toString_toList (n : Nat) : (toString n).toList = Nat.toDigits 10 n := by
  rw [Nat.toString_eq_ofList_toDigits, String.toList_ofList]

theorem decDigits_inj {m n : Nat} (h : decDigits m = decDigits n) : m = n := by
  simp only [decDigits, toString_toList] at h
  simpa using congrArg (Nat.ofDigitChars 10 · 0) h

theorem toString_nat_inj {m n : Nat} (h : toString m = toString n) : m = n :=
  decDigits_inj (congrArg String.toList h)

theorem isDigit_of_mem_toString {n : Nat} {c : Char} (h : c ∈ (toString n).toList) : c.isDigit = true := by
  rw [toString_toList] at h
  exact Nat.isDigit_of_mem_toDigits (by decide) (by decide) h

theorem dot_not_mem_decDigits (n : Nat) : '.' ∉ decDigits n :=
  fun h => absurd (isDigit_of_mem_toString h) (by decide)

theorem split_at_sep {c : Char} : ∀ {a a' b b' : List Char}, c ∉ a → c ∉ a' →
    a ++ c :: b = a' ++ c :: b' → a = a' ∧ b = b' := by
  intro a
  induction a with
  | nil =>
    intro a' b b' _ ha' h
    cases a' with
    | nil => simpa using h
    | cons x xs => simp at h; simp [h.1] at ha'
  | cons x xs ih =>
    intro a' b b' ha ha' h
    cases a' with
    | nil => simp at h; simp [h.1] at ha
    | cons y ys =>
      simp only [List.cons_append, List.cons.injEq] at h
      simp only [List.mem_cons, not_or] at ha ha'
      obtain ⟨h1, h2⟩ := ih ha.2 ha'.2 h.2
      simp [h.1, h1, h2]

/-- value of an upper-case hex digit given as its ASCII code: `'0'` is 48, `'A'` is 65 = 55 + 10 -/
def hexUVal (b : UInt8) : Nat := if b.toNat < 58 then b.toNat - 48 else b.toNat - 55

theorem hexUVal_hexDigitUpper : ∀ n, n < 16 → hexUVal ((hexDigitUpper n).toNat.toUInt8) = n := by decide

def macPair (b : UInt8) : Bytes :=
  [(hexDigitUpper (b.toNat / 16)).toNat.toUInt8, (hexDigitUpper (b.toNat % 16)).toNat.toUInt8]

theorem macPair_inj {a b : UInt8} (h : macPair a = macPair b) : a = b := by
  simp only [macPair, List.cons.injEq, and_true] at h
  have h1 := congrArg hexUVal h.1
  have h2 := congrArg hexUVal h.2
  have ha := a.toNat_lt
  have hb := b.toNat_lt
  rw [hexUVal_hexDigitUpper _ (by omega), hexUVal_hexDigitUpper _ (by omega)] at h1 h2
  apply UInt8.toNat_inj.mp
  omega

theorem macText_nil : macText [] = [] := rfl
theorem macText_one (a : UInt8) : macText [a] = macPair a := by simp [macText, macPair]
theorem macText_cons2 (a b : UInt8) (r : Bytes) : macText (a :: b :: r) = macPair a ++ 58 :: macText (b :: r) := by
  simp [macText, macPair]

theorem macText_inj : ∀ {x y : Bytes}, macText x = macText y → x = y := by
  intro x
  induction x with
  | nil =>
    intro y h
    match y with
    | [] => rfl
    | [a] => simp [macText_nil, macText_one, macPair] at h
    | a :: b :: r => simp [macText_nil, macText_cons2, macPair] at h
  | cons a x ih =>
    intro y h
    match x, y with
    | [], [] => simp [macText_nil, macText_one, macPair] at h
    | [], [b] => rw [macText_one, macText_one] at h; rw [macPair_inj h]
    | [], b :: b' :: r => simp [macText_one, macText_cons2, macPair] at h
    | a' :: x', [] => simp [macText_nil, macText_cons2, macPair] at h
    | a' :: x', [b] => simp [macText_one, macText_cons2, macPair] at h
    | a' :: x', b :: b' :: r =>
      rw [macText_cons2, macText_cons2] at h
      have h1 : macPair a = macPair b := by
        simp only [macPair, List.cons_append, List.nil_append, List.cons.injEq] at h ⊢
        simp [h.1, h.2.1]
      have h2 : macText (a' :: x') = macText (b' :: r) := by
        simp only [macPair, List.cons_append, List.nil_append, List.cons.injEq] at h
        exact h.2.2.2
      rw [macPair_inj h1, ih h2]


theorem ip4Text_inj {m n : Nat} (hm : m < 2 ^ 32) (hn : n < 2 ^ 32) (h : ip4Text m = ip4Text n) : m = n := by
  have h := String.ofList_injective h
  simp only [List.append_assoc, List.cons_append, List.nil_append] at h
  obtain ⟨h1, h⟩ := split_at_sep (dot_not_mem_decDigits _) (dot_not_mem_decDigits _) h
  obtain ⟨h2, h⟩ := split_at_sep (dot_not_mem_decDigits _) (dot_not_mem_decDigits _) h
  obtain ⟨h3, h4⟩ := split_at_sep (dot_not_mem_decDigits _) (dot_not_mem_decDigits _) h
  have h1 := decDigits_inj h1
  have h2 := decDigits_inj h2
  have h3 := decDigits_inj h3
  have h4 := decDigits_inj h4
  omega

/-! ### name tables: distinct keys and distinct names, checked by evaluation -/

def keysOf (tbl : List (Nat × String)) : List Nat := tbl.map (·.1)

def bytesFp (l : List UInt8) : Nat := l.foldr (fun b a => a * 512 + (b.toNat + 1)) 0
def strFp (s : String) : Nat := bytesFp s.toByteArray.data.toList

/-- `k n`, written so that the kernel normalises `n` to a numeral before it goes on: each fingerprint is computed once,
    when its string is met, and not again every time the list of fingerprints is inspected (`fpsK` is in
    continuation-passing style for the same reason) -/
def forceNat {β : Type} (n : Nat) (k : Nat → β) : β :=
  match n + 1 with
  | 0 => k 0
  | m + 1 => k m

def fpsK {β : Type} : List (Nat × String) → (List Nat → β) → β
  | [], k => k []
  | p :: ps, k => forceNat (strFp p.2) fun n => fpsK ps fun ns => k (n :: ns)

/-- Names are compared through the residues of their fingerprints.  Distinct residues modulo ANY number imply distinct
    fingerprints, so the check is sound for every modulus; this one only has to be large enough, and coprime to the
    base 512 of `bytesFp` so that it sees every byte, for the residues of the generated tables to come out distinct.
    Should a regenerated table produce a collision, the check fails and a larger modulus cures it. -/
def fpModulus : Nat := 1048573

def injTblB (tbl : List (Nat × String)) : Bool :=
  nodupMask 0 (keysOf tbl) && fpsK tbl fun l => nodupMask 0 (l.map (· % fpModulus))

theorem forceNat_eq {β : Type} (n : Nat) (k : Nat → β) : forceNat n k = k n := by simp [forceNat]

theorem fpsK_eq {β : Type} : ∀ (tbl : List (Nat × String)) (k : List Nat → β), fpsK tbl k = k (tbl.map fun p => strFp p.2)
  | [], k => rfl
  | p :: ps, k => by simp [fpsK, forceNat_eq, fpsK_eq ps]

theorem bytesFp_inj : ∀ {x y : List UInt8}, bytesFp x = bytesFp y → x = y := by
  intro x
  induction x with
  | nil =>
    intro y h
    cases y with
    | nil => rfl
    | cons b y => simp only [bytesFp, List.foldr] at h; omega
  | cons a x ih =>
    intro y h
    cases y with
    | nil => simp only [bytesFp, List.foldr] at h; omega
    | cons b y =>
      simp only [bytesFp, List.foldr] at h
      have ha := a.toNat_lt
      have hb := b.toNat_lt
      have h1 : a.toNat = b.toNat := by omega
      have h2 : bytesFp x = bytesFp y := by simp only [bytesFp]; omega
      rw [UInt8.toNat_inj.mp h1, ih h2]

theorem strFp_inj {s t : String} (h : strFp s = strFp t) : s = t := by
  apply String.toByteArray_inj.mp
  apply byteArray_toList_inj
  rw [byteArray_toList, byteArray_toList]
  exact bytesFp_inj h


/-- the name table is injective on its key set -/
def NameInj (tbl : List (Nat × String)) : Prop :=
  ∀ d₁ ∈ keysOf tbl, ∀ d₂ ∈ keysOf tbl, nameOf tbl d₁ = nameOf tbl d₂ → d₁ = d₂

theorem eq_of_map_nodup {α β : Type} {f : α → β} {l : List α} (hn : (l.map f).Nodup) :
    ∀ x ∈ l, ∀ y ∈ l, f x = f y → x = y := by
  induction l with
  | nil => intro x hx; cases hx
  | cons a l ih =>
    rw [List.map_cons, List.nodup_cons] at hn
    intro x hx y hy e
    rcases List.mem_cons.mp hx with rfl | hx' <;> rcases List.mem_cons.mp hy with rfl | hy'
    · rfl
    · exact absurd (List.mem_map.mpr ⟨y, hy', e.symm⟩) hn.1
    · exact absurd (List.mem_map.mpr ⟨x, hx', e⟩) hn.1
    · exact ih hn.2 x hx' y hy' e

theorem nameInj_of_injTblB {tbl : List (Nat × String)} (h : injTblB tbl = true) : NameInj tbl := by
  simp only [injTblB, Bool.and_eq_true, fpsK_eq] at h
  have hk := (nodupMask_sound h.1).1
  have hv : (tbl.map (·.2)).Nodup := by
    have := (nodupMask_sound h.2).1
    have h3 : (tbl.map fun p => strFp p.2).map (· % fpModulus) = (tbl.map (·.2)).map fun s => strFp s % fpModulus := by
      simp
    rw [h3] at this
    exact List.Pairwise.of_map _ (fun a b hab he => hab (by rw [he])) this
  intro d₁ h1 d₂ h2 he
  obtain ⟨⟨_, s₁⟩, hm1, rfl⟩ := List.mem_map.mp h1
  obtain ⟨⟨_, s₂⟩, hm2, rfl⟩ := List.mem_map.mp h2
  simp only [nameOf, lookup_of_mem hk hm1, lookup_of_mem hk hm2, Option.getD_some] at he
  have := strJ_inj he
  subst this
  exact congrArg Prod.fst (eq_of_map_nodup hv _ hm1 _ hm2 rfl)

/-! ### lists printed element by element -/

theorem map_eq_map_of {α β γ : Type} {f : α → β} {g : α → γ} : ∀ {l l' : List α},
    (∀ a ∈ l, ∀ b ∈ l', f a = f b → g a = g b) → l.map f = l'.map f → l.map g = l'.map g := by
  intro l
  induction l with
  | nil => intro l' _ h; cases l' with
    | nil => rfl
    | cons b l' => simp at h
  | cons a l ih =>
    intro l' hp h
    cases l' with
    | nil => simp at h
    | cons b l' =>
      simp only [List.map_cons, List.cons.injEq] at h ⊢
      exact ⟨hp a (by simp) b (by simp) h.1,
        ih (fun x hx y hy => hp x (List.mem_cons_of_mem _ hx) y (List.mem_cons_of_mem _ hy)) h.2⟩

theorem map_inj_on {α β : Type} {f : α → β} {l l' : List α} (hf : ∀ a ∈ l, ∀ b ∈ l', f a = f b → a = b)
    (h : l.map f = l'.map f) : l = l' := by
  simpa using map_eq_map_of (g := id) hf h

theorem bytesJ_inj {a b : Bytes} (h : bytesJ a = bytesJ b) : a = b := by
  simp only [bytesJ, JVal.arr.injEq] at h
  refine (List.map_inj_right ?_).mp h
  intro x y hxy
  simp only [JVal.num.injEq, Int.natCast_inj] at hxy
  exact UInt8.toNat_inj.mp hxy

/-! ### hex groups -/

def hexVal1 (c : Char) : Nat := if c.toNat < 58 then c.toNat - 48 else c.toNat - 87
def hexVal (cs : List Char) : Nat := cs.foldl (fun a c => a * 16 + hexVal1 c) 0

theorem hexVal1_hexDigit : ∀ d, d < 16 → hexVal1 (hexDigit d) = d := by decide
theorem hexDigit_not_sep : ∀ d, d < 16 → hexDigit d ≠ ':' ∧ hexDigit d ≠ '.' := by decide

theorem hexVal_hexLower {s : Nat} (hs : s < 65536) : hexVal (hexLower s) = s := by
  unfold hexLower
  split
  · simp only [hexVal, List.foldl]; rw [hexVal1_hexDigit _ (by omega)]; omega
  split
  · simp only [hexVal, List.foldl]; rw [hexVal1_hexDigit _ (by omega), hexVal1_hexDigit _ (by omega)]; omega
  split
  · simp only [hexVal, List.foldl]
    rw [hexVal1_hexDigit _ (by omega), hexVal1_hexDigit _ (by omega), hexVal1_hexDigit _ (by omega)]; omega
  · simp only [hexVal, List.foldl]
    rw [hexVal1_hexDigit _ (by omega), hexVal1_hexDigit _ (by omega), hexVal1_hexDigit _ (by omega),
      hexVal1_hexDigit _ (by omega)]; omega

theorem hexLower_inj {s t : Nat} (hs : s < 65536) (ht : t < 65536) (h : hexLower s = hexLower t) : s = t := by
  have := congrArg hexVal h
  rwa [hexVal_hexLower hs, hexVal_hexLower ht] at this

theorem hexLower_ne_nil (s : Nat) : hexLower s ≠ [] := by
  unfold hexLower; repeat' split
  all_goals simp

theorem hexLower_no_sep {s : Nat} {c : Char} (hc : c ∈ hexLower s) : c ≠ ':' ∧ c ≠ '.' := by
  unfold hexLower at hc
  repeat' split at hc
  all_goals
    simp only [List.mem_cons, List.not_mem_nil, or_false] at hc
    rcases hc with rfl | rfl | rfl | rfl <;> exact hexDigit_not_sep _ (by omega)

/-! ### splitting a text at colons -/

/-- (first group, remaining groups) of the text split at every `:` -/
def splitC : List Char → List Char × List (List Char)
  | [] => ([], [])
  | x :: xs => if x = ':' then ([], (splitC xs).1 :: (splitC xs).2) else (x :: (splitC xs).1, (splitC xs).2)

def groups (l : List Char) : List (List Char) := (splitC l).1 :: (splitC l).2

theorem groups_nil : groups [] = [[]] := rfl

theorem groups_append_sep (a b : List Char) : groups (a ++ ':' :: b) = groups a ++ groups b := by
  induction a with
  | nil => simp [groups, splitC]
  | cons x a ih =>
    simp only [groups] at ih ⊢
    by_cases hx : x = ':'
    · simp only [List.cons_append, List.cons.injEq] at ih
      simp only [List.cons_append, splitC, hx, ↓reduceIte, List.cons.injEq, true_and]
      exact ih
    · simp only [List.cons_append, List.cons.injEq] at ih
      simp only [List.cons_append, splitC, hx, ↓reduceIte, List.cons.injEq]
      exact ⟨by simp [ih.1], ih.2⟩

theorem groups_of_no_sep {a : List Char} (h : ':' ∉ a) : groups a = [a] := by
  induction a with
  | nil => rfl
  | cons x a ih =>
    simp only [List.mem_cons, not_or] at h
    have hx : x ≠ ':' := fun e => h.1 e.symm
    have := ih h.2
    simp only [groups, List.cons.injEq] at this ⊢
    simp only [splitC, hx, ↓reduceIte, this.1, this.2, and_self]

theorem joinColon_nil : joinColon [] = [] := rfl
theorem joinColon_one (g : List Char) : joinColon [g] = g := by simp [joinColon]
theorem joinColon_cons2 (g h : List Char) (t : List (List Char)) :
    joinColon (g :: h :: t) = g ++ ':' :: joinColon (h :: t) := by simp [joinColon]

/-- groups that are non-empty and contain no colon -/
def GoodGroups (gs : List (List Char)) : Prop := ∀ g ∈ gs, g ≠ [] ∧ ':' ∉ g

theorem groups_joinColon : ∀ {gs : List (List Char)}, GoodGroups gs → gs ≠ [] → groups (joinColon gs) = gs
  | [], _, h => absurd rfl h
  | [g], hg, _ => by rw [joinColon_one, groups_of_no_sep (hg g (by simp)).2]
  | g :: h :: t, hg, _ => by
    rw [joinColon_cons2, groups_append_sep, groups_of_no_sep (hg g (by simp)).2,
      groups_joinColon (gs := h :: t) (fun x hx => hg x (List.mem_cons_of_mem _ hx)) (by simp)]
    rfl

/-- `groups (joinColon gs)` for possibly empty `gs` -/
def sOf (gs : List (List Char)) : List (List Char) := if gs = [] then [[]] else gs

theorem groups_joinColon_sOf {gs : List (List Char)} (hg : GoodGroups gs) : groups (joinColon gs) = sOf gs := by
  unfold sOf; split
  · next h => subst h; rfl
  · next h => exact groups_joinColon hg h

theorem groups_compressed {H L : List (List Char)} (hH : GoodGroups H) (hL : GoodGroups L) :
    groups (joinColon H ++ [':', ':'] ++ joinColon L) = sOf H ++ [] :: sOf L := by
  have : joinColon H ++ [':', ':'] ++ joinColon L = joinColon H ++ ':' :: ([] ++ ':' :: joinColon L) := by simp
  rw [this, groups_append_sep, groups_append_sep, groups_joinColon_sOf hH, groups_joinColon_sOf hL]
  rfl

theorem takeWhile_sOf {H : List (List Char)} (hH : GoodGroups H) (Y : List (List Char)) :
    (sOf H ++ [] :: Y).takeWhile (fun g => !g.isEmpty) = H := by
  unfold sOf; split
  · next h => subst h; simp
  · next h =>
    rw [List.takeWhile_append_of_pos]
    · simp
    · intro g hgm
      have := (hH g hgm).1
      cases g with
      | nil => exact absurd rfl this
      | cons _ _ => rfl

theorem sOf_reverse (H : List (List Char)) : (sOf H).reverse = sOf H.reverse := by
  unfold sOf; split
  · next h => subst h; simp
  · next h => simp [h]

theorem GoodGroups.reverse {H : List (List Char)} (h : GoodGroups H) : GoodGroups H.reverse :=
  fun g hg => h g (List.mem_reverse.mp hg)

/-- the compressed rendering determines both halves -/
theorem compressed_inj {H L H' L' : List (List Char)} (hH : GoodGroups H) (hL : GoodGroups L)
    (hH' : GoodGroups H') (hL' : GoodGroups L')
    (h : joinColon H ++ [':', ':'] ++ joinColon L = joinColon H' ++ [':', ':'] ++ joinColon L') : H = H' ∧ L = L' := by
  have hg := congrArg groups h
  rw [groups_compressed hH hL, groups_compressed hH' hL'] at hg
  constructor
  · have := congrArg (List.takeWhile fun g => !g.isEmpty) hg
    rwa [takeWhile_sOf hH, takeWhile_sOf hH'] at this
  · have := congrArg (fun X => (List.takeWhile (fun g => !g.isEmpty) X.reverse)) hg
    simp only [List.reverse_append, List.reverse_cons, List.append_assoc, List.singleton_append, sOf_reverse] at this
    rw [takeWhile_sOf hL.reverse, takeWhile_sOf hL'.reverse] at this
    exact List.reverse_inj.mp this


/-! ### the run chosen by `longestZeroRun` consists of zero segments -/

def ZeroRun (l : List Nat) (s k : Nat) : Prop := s + k ≤ l.length ∧ ∀ i, s ≤ i → i < s + k → l[i]? = some 0

theorem ZeroRun.append {l : List Nat} {s k : Nat} (h : ZeroRun l s k) (r : List Nat) : ZeroRun (l ++ r) s k := by
  refine ⟨by simp only [List.length_append]; have := h.1; omega, fun i h1 h2 => ?_⟩
  rw [List.getElem?_append_left (by have := h.1; omega)]
  exact h.2 i h1 h2

/-- invariant of the scan: the best run so far is a run of zeros, and so is the current one, which ends where the
    scan stands -/
theorem go_zeroRun : ∀ (rest pre : List Nat) (cs cl bs bl : Nat),
    ZeroRun pre bs bl → (0 < cl → ZeroRun pre cs cl ∧ cs + cl = pre.length) →
    ZeroRun (pre ++ rest) (longestZeroRun.go rest pre.length cs cl bs bl).1
      (longestZeroRun.go rest pre.length cs cl bs bl).2
  | [], pre, cs, cl, bs, bl, hb, hc => by
    simp only [longestZeroRun.go, List.append_nil]
    split
    · next h => exact (hc (by omega)).1
    · exact hb
  | s :: tl, pre, cs, cl, bs, bl, hb, hc => by
    have hlen : pre.length + 1 = (pre ++ [s]).length := by simp
    rw [show pre ++ s :: tl = (pre ++ [s]) ++ tl by simp]
    simp only [longestZeroRun.go]
    split
    · next hs =>
      subst hs
      rw [hlen]
      refine go_zeroRun tl _ _ _ _ _ (hb.append _) fun _ => ?_
      by_cases h0 : cl = 0
      · subst h0
        refine ⟨⟨by simp, fun i h1 h2 => ?_⟩, by simp⟩
        obtain rfl : i = pre.length := by simp only [↓reduceIte] at h1 h2; omega
        simp
      · obtain ⟨⟨hle, hz⟩, he⟩ := hc (by omega)
        simp only [h0, ↓reduceIte, List.length_append, List.length_singleton]
        refine ⟨⟨by simp only [List.length_append, List.length_singleton]; omega, fun i h1 h2 => ?_⟩, by omega⟩
        by_cases hi : i < pre.length
        · rw [List.getElem?_append_left hi]; exact hz i h1 (by omega)
        · obtain rfl : i = pre.length := by omega
          simp
    · rw [hlen]
      split
      · next h => exact go_zeroRun tl _ _ _ _ _ ((hc (by omega)).1.append _) (fun h => absurd h (by omega))
      · exact go_zeroRun tl _ _ _ _ _ (hb.append _) (fun h => absurd h (by omega))

theorem longestZeroRun_zeroRun (l : List Nat) : ZeroRun l (longestZeroRun l).1 (longestZeroRun l).2 := by
  have := go_zeroRun l [] 0 0 0 0 ⟨by simp, fun i _ _ => by omega⟩ (fun h => absurd h (by omega))
  simpa [longestZeroRun] using this

/-! ### `ip6Text` -/

theorem segments_length (n : Nat) : (segments n).length = 8 := by simp [segments]

theorem segments_lt {n x : Nat} (h : x ∈ segments n) : x < 65536 := by
  simp only [segments, List.mem_map] at h
  obtain ⟨i, _, rfl⟩ := h
  exact Nat.mod_lt _ (by decide)

/-- numbers below `B ^ k` with the same `k` base-`B` digits are equal -/
theorem eq_of_digits_eq {B : Nat} : ∀ (k : Nat) {m n : Nat}, m < B ^ k → n < B ^ k →
    (∀ i, i < k → m / B ^ i % B = n / B ^ i % B) → m = n
  | 0, m, n, hm, hn, _ => by rw [Nat.pow_zero] at hm hn; omega
  | k + 1, m, n, hm, hn, h => by
    have h0 := h 0 (Nat.succ_pos k)
    rw [Nat.pow_zero, Nat.div_one, Nat.div_one] at h0
    rw [Nat.pow_succ, Nat.mul_comm] at hm hn
    have hd : m / B = n / B :=
      eq_of_digits_eq k (Nat.div_lt_of_lt_mul hm) (Nat.div_lt_of_lt_mul hn) fun i hi => by
        have := h (i + 1) (Nat.succ_lt_succ hi)
        rwa [Nat.pow_succ, Nat.mul_comm, ← Nat.div_div_eq_div_mul, ← Nat.div_div_eq_div_mul] at this
    rw [← Nat.div_add_mod m B, ← Nat.div_add_mod n B, hd, h0]

theorem segments_inj {m n : Nat} (hm : m < 2 ^ 128) (hn : n < 2 ^ 128) (h : segments m = segments n) : m = n := by
  refine eq_of_digits_eq (B := 65536) 8 hm hn fun i hi => ?_
  have := (List.map_inj_left.mp h) (7 - i) (List.mem_range.mpr (by omega))
  rwa [show 7 - (7 - i) = i by omega] at this

theorem goodGroups_hex (l : List Nat) : GoodGroups (l.map hexLower) := by
  intro g hg
  obtain ⟨x, _, rfl⟩ := List.mem_map.mp hg
  exact ⟨hexLower_ne_nil x, fun h => (hexLower_no_sep h).1 rfl⟩

theorem hexGroups_inj {l l' : List Nat} (hl : ∀ x ∈ l, x < 65536) (hl' : ∀ x ∈ l', x < 65536)
    (h : l.map hexLower = l'.map hexLower) : l = l' :=
  map_inj_on (fun a ha b hb => hexLower_inj (hl a ha) (hl' b hb)) h

theorem dot_not_mem_joinColon : ∀ {gs : List (List Char)}, (∀ g ∈ gs, '.' ∉ g) → '.' ∉ joinColon gs
  | [], _ => by simp [joinColon_nil]
  | [g], h => by rw [joinColon_one]; exact h g (by simp)
  | g :: h :: t, hg => by
    rw [joinColon_cons2]
    simp only [List.mem_append, List.mem_cons, not_or]
    exact ⟨hg g (by simp), by decide, dot_not_mem_joinColon (gs := h :: t) (fun x hx => hg x (List.mem_cons_of_mem _ hx))⟩

theorem dot_not_mem_hexJoin (l : List Nat) : '.' ∉ joinColon (l.map hexLower) := by
  apply dot_not_mem_joinColon
  intro g hg
  obtain ⟨x, _, rfl⟩ := List.mem_map.mp hg
  exact fun h => (hexLower_no_sep h).2 rfl

def Mapped (n : Nat) : Prop := (segments n).take 5 = [0, 0, 0, 0, 0] ∧ (segments n).getD 5 0 = 0xffff

theorem ip6Text_mapped {n : Nat} (h : Mapped n) : ip6Text n = "::ffff:" ++ ip4Text (n % 4294967296) := by
  unfold Mapped at h
  simp only [ip6Text, h, and_self, ↓reduceIte]

theorem ip6Text_compressed {n st len : Nat} (h : ¬ Mapped n) (hl : longestZeroRun (segments n) = (st, len))
    (h2 : len ≥ 2) : (ip6Text n).toList =
      joinColon (((segments n).take st).map hexLower) ++ [':', ':'] ++
        joinColon (((segments n).drop (st + len)).map hexLower) := by
  unfold Mapped at h
  simp only [ip6Text, h, ↓reduceIte, hl, h2, String.toList_ofList]

theorem ip6Text_plain {n st len : Nat} (h : ¬ Mapped n) (hl : longestZeroRun (segments n) = (st, len))
    (h2 : ¬ len ≥ 2) : (ip6Text n).toList = joinColon ((segments n).map hexLower) := by
  unfold Mapped at h
  simp only [ip6Text, h, ↓reduceIte, hl, h2, String.toList_ofList]

/-- only the IPv4-mapped form contains a dot -/
theorem dot_mem_ip6Text_iff (n : Nat) : '.' ∈ (ip6Text n).toList ↔ Mapped n := by
  by_cases hm : Mapped n
  · simp [hm, ip6Text_mapped hm, ip4Text, String.toList_append]
  · rcases hl : longestZeroRun (segments n) with ⟨st, len⟩
    refine iff_of_false (fun h => ?_) hm
    by_cases h2 : len ≥ 2
    · simp only [ip6Text_compressed hm hl h2, List.mem_append, List.mem_cons, List.not_mem_nil, or_false] at h
      rcases h with (h | h | h) | h
      · exact dot_not_mem_hexJoin _ h
      · exact absurd h (by decide)
      · exact absurd h (by decide)
      · exact dot_not_mem_hexJoin _ h
    · rw [ip6Text_plain hm hl h2] at h
      exact dot_not_mem_hexJoin _ h

/-- among the other forms only the compressed one has an empty group -/
theorem nil_mem_groups_ip6Text_iff {n st len : Nat} (hm : ¬ Mapped n) (hl : longestZeroRun (segments n) = (st, len)) :
    [] ∈ groups (ip6Text n).toList ↔ len ≥ 2 := by
  by_cases h2 : len ≥ 2
  · rw [ip6Text_compressed hm hl h2, groups_compressed (goodGroups_hex _) (goodGroups_hex _)]
    simp [h2]
  · rw [ip6Text_plain hm hl h2, groups_joinColon (goodGroups_hex _) (by simp [segments])]
    exact iff_of_false (fun h => ((goodGroups_hex _) [] h).1 rfl) h2

theorem list_eq_of_parts {l l' : List Nat} {s k : Nat}
    (hz : ZeroRun l s k) (hz' : ZeroRun l' s k) (ht : l.take s = l'.take s) (hd : l.drop (s + k) = l'.drop (s + k)) :
    l = l' := by
  apply List.ext_getElem?
  intro i
  by_cases h1 : i < s
  · have := congrArg (fun x => x[i]?) ht
    simpa [List.getElem?_take, h1] using this
  · by_cases h2 : i < s + k
    · rw [hz.2 i (by omega) h2, hz'.2 i (by omega) h2]
    · have := congrArg (fun x => x[i - (s + k)]?) hd
      simp only [List.getElem?_drop] at this
      rwa [show s + k + (i - (s + k)) = i by omega] at this

/-- an IPv4-mapped address is `0:0:0:0:0:ffff:` followed by its low 32 bits -/
theorem mapped_segments {m n : Nat} (hM : Mapped m) (hN : Mapped n) (h : m % 4294967296 = n % 4294967296) :
    segments m = segments n := by
  have e1 : m / 65536 % 65536 = n / 65536 % 65536 := by omega
  have e0 : m % 65536 = n % 65536 := by omega
  clear h
  have seg : ∀ n, segments n = [n / 65536 ^ 7 % 65536, n / 65536 ^ 6 % 65536, n / 65536 ^ 5 % 65536,
      n / 65536 ^ 4 % 65536, n / 65536 ^ 3 % 65536, n / 65536 ^ 2 % 65536, n / 65536 ^ 1 % 65536,
      n / 65536 ^ 0 % 65536] := fun _ => rfl
  simp only [Mapped, seg, List.take_succ_cons, List.take_zero, List.cons.injEq, and_true, List.getD_cons_succ,
    List.getD_cons_zero] at hM hN
  obtain ⟨⟨a7, a6, a5, a4, a3⟩, a2⟩ := hM
  obtain ⟨⟨b7, b6, b5, b4, b3⟩, b2⟩ := hN
  rw [seg, seg, a7, a6, a5, a4, a3, a2, b7, b6, b5, b4, b3, b2, Nat.pow_one, Nat.pow_zero, Nat.div_one, Nat.div_one,
    e1, e0]

theorem ip6Text_inj {m n : Nat} (hm : m < 2 ^ 128) (hn : n < 2 ^ 128) (h : ip6Text m = ip6Text n) : m = n := by
  have hl := congrArg String.toList h
  have hM : Mapped m ↔ Mapped n := by rw [← dot_mem_ip6Text_iff, ← dot_mem_ip6Text_iff, hl]
  by_cases cm : Mapped m
  · have cn := hM.mp cm
    rw [ip6Text_mapped cm, ip6Text_mapped cn] at h
    have h4 : ip4Text (m % 4294967296) = ip4Text (n % 4294967296) := by
      have := congrArg String.toList h
      simp only [String.toList_append] at this
      exact String.toList_inj.mp (List.append_cancel_left this)
    exact segments_inj hm hn (mapped_segments cm cn
      (ip4Text_inj (Nat.mod_lt _ (by decide)) (Nat.mod_lt _ (by decide)) h4))
  have cn : ¬ Mapped n := fun c => cm (hM.mpr c)
  rcases hlm : longestZeroRun (segments m) with ⟨sm, km⟩
  rcases hln : longestZeroRun (segments n) with ⟨sn, kn⟩
  have hC : km ≥ 2 ↔ kn ≥ 2 := by
    rw [← nil_mem_groups_ip6Text_iff cm hlm, ← nil_mem_groups_ip6Text_iff cn hln, hl]
  have lt_m : ∀ x ∈ segments m, x < 65536 := fun x hx => segments_lt hx
  have lt_n : ∀ x ∈ segments n, x < 65536 := fun x hx => segments_lt hx
  by_cases c2 : km ≥ 2
  · rw [ip6Text_compressed cm hlm c2, ip6Text_compressed cn hln (hC.mp c2)] at hl
    have zm := longestZeroRun_zeroRun (segments m)
    have zn := longestZeroRun_zeroRun (segments n)
    rw [hlm] at zm
    rw [hln] at zn
    obtain ⟨e1, e2⟩ := compressed_inj (goodGroups_hex _) (goodGroups_hex _) (goodGroups_hex _) (goodGroups_hex _) hl
    have e1 := hexGroups_inj (fun x hx => lt_m x (List.mem_of_mem_take hx)) (fun x hx => lt_n x (List.mem_of_mem_take hx)) e1
    have e2 := hexGroups_inj (fun x hx => lt_m x (List.mem_of_mem_drop hx)) (fun x hx => lt_n x (List.mem_of_mem_drop hx)) e2
    have l1 := congrArg List.length e1
    have l2 := congrArg List.length e2
    have b1 : sm + km ≤ 8 := by have := zm.1; rwa [segments_length] at this
    have b2 : sn + kn ≤ 8 := by have := zn.1; rwa [segments_length] at this
    simp only [List.length_take, List.length_drop, segments_length] at l1 l2
    have hs : sm = sn := by omega
    have hk : km = kn := by omega
    subst hs hk
    exact segments_inj hm hn (list_eq_of_parts zm zn e1 e2)
  · rw [ip6Text_plain cm hlm c2, ip6Text_plain cn hln (fun c => c2 (hC.mpr c))] at hl
    have := congrArg groups hl
    rw [groups_joinColon (goodGroups_hex _) (by simp [segments]),
      groups_joinColon (goodGroups_hex _) (by simp [segments])] at this
    exact segments_inj hm hn (hexGroups_inj lt_m lt_n this)

/-- `ip6Text_inj` as a named statement -/
def Ip6TextInjective : Prop := ∀ m n : Nat, m < 2 ^ 128 → n < 2 ^ 128 → ip6Text m = ip6Text n → m = n

theorem ip6TextInjective : Ip6TextInjective := fun _ _ hm hn h => ip6Text_inj hm hn h


/-! ### numbers: the JSON shows the value, not the width tag (`#[serde(untagged)]`) -/

def dnVal : DataNumber → Int
  | .u8 n | .u16 n | .u24 n | .u32 n | .u64 n | .u128 n => (n : Int)
  | .i24 z | .i32 z => z

theorem dataNumberJ_eq (d : DataNumber) : dataNumberJ d = .num (dnVal d) := by cases d <;> rfl

/-- canonical representative of a `DataNumber` among those with the same numeric value -/
def normDn (d : DataNumber) : DataNumber :=
  if 0 ≤ dnVal d then .u128 (dnVal d).toNat else .i32 (dnVal d)

theorem dnVal_normDn (d : DataNumber) : dnVal (normDn d) = dnVal d := by
  unfold normDn
  split
  · next h => exact Int.toNat_of_nonneg h
  · rfl

def normFv : FieldValue → FieldValue
  | .num d => .num (normDn d)
  | v => v

def normRec (r : Rec) : Rec := r.map fun e => (e.1, e.2.1, normFv e.2.2)

def fvWf (nm : JNames) : FieldValue → Bool
  | .ip4 n => decide (n < 2 ^ 32)
  | .ip6 n => decide (n < 2 ^ 128)
  | .proto d => (keysOf nm.proto).contains d
  | _ => true

theorem fieldValueJ_normFv (nm : JNames) (v : FieldValue) : fieldValueJ nm (normFv v) = fieldValueJ nm v := by
  cases v <;> simp [normFv, fieldValueJ, dataNumberJ_eq, dnVal_normDn]

theorem fieldValueJ_inj {nm : JNames} (hp : NameInj nm.proto) {v w : FieldValue}
    (hv : fvWf nm v = true) (hw : fvWf nm w = true) (h : fieldValueJ nm v = fieldValueJ nm w) :
    normFv v = normFv w := by
  cases v <;> cases w <;> simp [fieldValueJ] at h
  case str.str => simp [h]
  case num.num =>
    rw [dataNumberJ_eq, dataNumberJ_eq, JVal.num.injEq] at h
    simp only [normFv, normDn, h]
  case f64.f64 => simp [h]
  case dur.dur => obtain ⟨h1, h2⟩ := h; simp only [Int.natCast_inj] at h1 h2; simp [h1, h2]
  case ip4.ip4 =>
    simp only [fvWf, decide_eq_true_eq] at hv hw
    rw [ip4Text_inj hv hw (strJ_inj h)]
  case ip6.ip6 =>
    simp only [fvWf, decide_eq_true_eq] at hv hw
    rw [ip6Text_inj hv hw (strJ_inj h)]
  case mac.mac => rw [macText_inj h]
  case vec.vec => rw [bytesJ_inj h]
  case proto.proto =>
    simp only [fvWf, List.contains_iff_mem] at hv hw
    rw [hp _ hv _ hw h]
  case unknown.unknown => rw [bytesJ_inj h]

/-! ### records -/

/-- (the JSON side condition on a record; `Layout.recWf` is the unrelated well-formedness of a record layout) -/
def recWf (nm : JNames) (names : List (Nat × String)) (r : Rec) : Bool :=
  r.all fun e => (keysOf names).contains e.2.1 && fvWf nm e.2.2

theorem recJ_normRec (nm : JNames) (names : List (Nat × String)) (r : Rec) :
    recJ nm names (normRec r) = recJ nm names r := by
  simp [recJ, normRec, fieldValueJ_normFv]

theorem recJ_inj {nm : JNames} {names : List (Nat × String)} (hp : NameInj nm.proto) (hn : NameInj names)
    {r s : Rec} (hr : recWf nm names r = true) (hs : recWf nm names s = true)
    (h : recJ nm names r = recJ nm names s) : normRec r = normRec s := by
  simp only [recJ, JVal.obj.injEq] at h
  simp only [recWf, List.all_eq_true, Bool.and_eq_true, List.contains_iff_mem] at hr hs
  refine map_eq_map_of ?_ h
  intro a ha b hb hab
  obtain ⟨i, d, v⟩ := a
  obtain ⟨j, e, w⟩ := b
  simp only [Prod.mk.injEq, JVal.arr.injEq, List.cons.injEq, and_true] at hab
  obtain ⟨h1, h2, h3⟩ := hab
  have e1 := toString_nat_inj h1
  have e2 := hn _ (hr _ ha).1 _ (hs _ hb).1 h2
  have e3 := fieldValueJ_inj hp (hr _ ha).2 (hs _ hb).2 h3
  simp only at e1 e2 e3 ⊢
  rw [e1, e2, e3]


/-! ### fixed-layout structs -/

def lfieldWf (nm : JNames) (f : LField) (v : Nat) : Bool :=
  match f.kind with
  | .protoOf _ => (keysOf nm.proto).contains v
  | _ => !(nm.ipv4Fields.contains f.name) || decide (v < 2 ^ 32)

/-- one value per layout field; protocol discriminants are table keys; `Ipv4Addr` fields are 32-bit -/
def layoutWf (nm : JNames) (lay : Layout) (vals : List Nat) : Bool :=
  vals.length == lay.length && (lay.zip vals).all fun p => lfieldWf nm p.1 p.2

def lfieldJ (nm : JNames) (f : LField) (v : Nat) : JVal :=
  match f.kind with
  | .protoOf _ => nameOf nm.proto v
  | _ => if nm.ipv4Fields.contains f.name then strJ (ip4Text v) else .num v

theorem layoutJ_eq (nm : JNames) (lay : Layout) (vals : List Nat) :
    layoutJ nm lay vals = .obj ((lay.zip vals).map fun p => (p.1.name, lfieldJ nm p.1 p.2)) := rfl

theorem lfieldJ_inj {nm : JNames} (hp : NameInj nm.proto) {f : LField} {a b : Nat}
    (ha : lfieldWf nm f a = true) (hb : lfieldWf nm f b = true) (h : lfieldJ nm f a = lfieldJ nm f b) : a = b := by
  unfold lfieldJ at h
  unfold lfieldWf at ha hb
  cases hk : f.kind with
  | protoOf src =>
    simp only [hk, List.contains_iff_mem] at h ha hb
    exact hp _ ha _ hb h
  | wire _ | const _ =>
    simp only [hk, Bool.or_eq_true, Bool.not_eq_eq_eq_not, Bool.not_true, decide_eq_true_eq] at h ha hb
    by_cases hc : nm.ipv4Fields.contains f.name = true
    · simp only [hc, ↓reduceIte, Bool.true_eq_false, false_or] at h ha hb
      exact ip4Text_inj ha hb (strJ_inj h)
    · simp only [hc, Bool.false_eq_true, ↓reduceIte, JVal.num.injEq, Int.natCast_inj] at h
      exact h

theorem layoutJ_inj {nm : JNames} (hp : NameInj nm.proto) : ∀ {lay : Layout} {a b : List Nat},
    layoutWf nm lay a = true → layoutWf nm lay b = true → layoutJ nm lay a = layoutJ nm lay b → a = b := by
  intro lay
  induction lay with
  | nil =>
    intro a b ha hb _
    simp only [layoutWf, List.length_nil, Bool.and_eq_true, beq_iff_eq, List.length_eq_zero_iff] at ha hb
    rw [ha.1, hb.1]
  | cons f lay ih =>
    intro a b ha hb h
    cases a with
    | nil => simp [layoutWf] at ha
    | cons x a =>
      cases b with
      | nil => simp [layoutWf] at hb
      | cons y b =>
        simp only [layoutWf, List.length_cons, Bool.and_eq_true, beq_iff_eq, List.zip_cons_cons,
          List.all_cons, Nat.add_right_cancel_iff] at ha hb
        rw [layoutJ_eq, layoutJ_eq] at h
        simp only [List.zip_cons_cons, List.map_cons, JVal.obj.injEq, List.cons.injEq, Prod.mk.injEq, true_and] at h
        have e1 := lfieldJ_inj hp ha.2.1 hb.2.1 h.1
        have e2 : a = b := by
          apply ih
          · simp only [layoutWf, Bool.and_eq_true, beq_iff_eq]; exact ⟨ha.1, ha.2.2⟩
          · simp only [layoutWf, Bool.and_eq_true, beq_iff_eq]; exact ⟨hb.1, hb.2.2⟩
          · rw [layoutJ_eq, layoutJ_eq, h.2]
        rw [e1, e2]

/-! ### template definitions -/

theorem tfieldJ_inj {names : List (Nat × String)} {disc : Nat → Nat} {f g : TField}
    (h : tfieldJ names disc f = tfieldJ names disc g) : f = g := by
  cases f; cases g
  simp only [tfieldJ, JVal.obj.injEq, List.cons.injEq, Prod.mk.injEq, JVal.num.injEq, Int.natCast_inj, true_and, and_true] at h
  simp [h.1, h.2.2]

theorem ipTFieldJ_inj {c : Config} {nm : JNames} {f g : IpTField} (h : ipTFieldJ c nm f = ipTFieldJ c nm g) : f = g := by
  obtain ⟨t1, l1, e1⟩ := f
  obtain ⟨t2, l2, e2⟩ := g
  cases e1 <;> cases e2 <;>
    simp [ipTFieldJ] at h
  · simp only [Int.natCast_inj] at h; simp [h.1, h.2.2]
  · simp only [Int.natCast_inj] at h; simp [h.1, h.2.2.1, h.2.2.2]


theorem list_map_inj {α β : Type} {f : α → β} (hf : ∀ x y, f x = f y → x = y) {l l' : List α}
    (h : l.map f = l'.map f) : l = l' := (List.map_inj_right hf).mp h

theorem v9TemplateJ_inj {c : Config} {nm : JNames} {t u : V9Template}
    (h : (JVal.obj [("template_id", .num t.id), ("field_count", .num t.fieldCount),
            ("fields", .arr (t.fields.map (tfieldJ nm.v9Field c.t.v9Field)))]) =
         (JVal.obj [("template_id", .num u.id), ("field_count", .num u.fieldCount),
            ("fields", .arr (u.fields.map (tfieldJ nm.v9Field c.t.v9Field)))])) : t = u := by
  cases t; cases u
  simp only [JVal.obj.injEq, List.cons.injEq, Prod.mk.injEq, JVal.num.injEq, Int.natCast_inj, true_and, and_true,
    JVal.arr.injEq] at h
  have := list_map_inj (fun _ _ => tfieldJ_inj) h.2.2
  simp [h.1, h.2.1, this]

theorem v9OptTemplateJ_inj {c : Config} {nm : JNames} {t u : V9OptTemplate}
    (h : (JVal.obj [("template_id", .num t.id), ("options_scope_length", .num t.scopeLen), ("options_length", .num t.optLen),
            ("scope_fields", .arr (t.scope.map (tfieldJ nm.scope c.t.scopeField))),
            ("option_fields", .arr (t.opts.map (tfieldJ nm.v9Field c.t.v9Field)))]) =
         (JVal.obj [("template_id", .num u.id), ("options_scope_length", .num u.scopeLen), ("options_length", .num u.optLen),
            ("scope_fields", .arr (u.scope.map (tfieldJ nm.scope c.t.scopeField))),
            ("option_fields", .arr (u.opts.map (tfieldJ nm.v9Field c.t.v9Field)))])) : t = u := by
  cases t; cases u
  simp only [JVal.obj.injEq, List.cons.injEq, Prod.mk.injEq, JVal.num.injEq, Int.natCast_inj, true_and, and_true,
    JVal.arr.injEq] at h
  have h1 := list_map_inj (fun _ _ => tfieldJ_inj) h.2.2.2.1
  have h2 := list_map_inj (fun _ _ => tfieldJ_inj) h.2.2.2.2
  simp [h.1, h.2.1, h.2.2.1, h1, h2]

/-! ### paddings and width tags: what the JSON does not show -/

def padV9 : V9Body → V9Body
  | .templates ts _ => .templates ts []
  | .optTemplates ts _ => .optTemplates ts []
  | .data recs _ => .data recs []
  | .optData ss os _ => .optData ss os []

def padIp : IpBody → IpBody
  | .template t => .template { t with pad := [] }
  | .optTemplate t => .optTemplate { t with pad := [] }
  | .data recs _ => .data recs []
  | .optData recs _ => .optData recs []

/-- every `#[serde(skip_serializing)]` padding set to `[]` -/
def erasePads : Packet → Packet
  | .v9 h ss => .v9 h (ss.map fun s => { s with body := padV9 s.body })
  | .ipfix h ss => .ipfix h (ss.map fun s => { s with body := padIp s.body })
  | p => p

def numV9 : V9Body → V9Body
  | .data recs pad => .data (recs.map normRec) pad
  | b => b

def numIp : IpBody → IpBody
  | .data recs pad => .data (recs.map normRec) pad
  | .optData recs pad => .optData (recs.map normRec) pad
  | b => b

/-- every decoded `DataNumber` replaced by the canonical one of the same value
    (`#[serde(untagged)]`: the JSON number does not show `U8`/`U16`/…) -/
def forgetWidths : Packet → Packet
  | .v9 h ss => .v9 h (ss.map fun s => { s with body := numV9 s.body })
  | .ipfix h ss => .ipfix h (ss.map fun s => { s with body := numIp s.body })
  | p => p

def jnorm (p : Packet) : Packet := forgetWidths (erasePads p)

theorem v9BodyJ_padV9 (c : Config) (nm : JNames) (b : V9Body) : v9BodyJ c nm (padV9 b) = v9BodyJ c nm b := by
  cases b <;> rfl

theorem ipBodyJ_padIp (c : Config) (nm : JNames) (b : IpBody) : ipBodyJ c nm (padIp b) = ipBodyJ c nm b := by
  cases b <;> rfl

theorem v9BodyJ_numV9 (c : Config) (nm : JNames) (b : V9Body) : v9BodyJ c nm (numV9 b) = v9BodyJ c nm b := by
  cases b <;> simp [numV9, v9BodyJ, recJ_normRec]

theorem ipBodyJ_numIp (c : Config) (nm : JNames) (b : IpBody) : ipBodyJ c nm (numIp b) = ipBodyJ c nm b := by
  cases b <;> simp [numIp, ipBodyJ, recJ_normRec]

theorem toJ_erasePads (c : Config) (nm : JNames) (p : Packet) : toJ c nm (erasePads p) = toJ c nm p := by
  cases p <;> simp [erasePads, toJ, v9BodyJ_padV9, ipBodyJ_padIp]

theorem toJ_forgetWidths (c : Config) (nm : JNames) (p : Packet) : toJ c nm (forgetWidths p) = toJ c nm p := by
  cases p <;> simp [forgetWidths, toJ, v9BodyJ_numV9, ipBodyJ_numIp]

theorem toJ_jnorm (c : Config) (nm : JNames) (p : Packet) : toJ c nm (jnorm p) = toJ c nm p := by
  rw [jnorm, toJ_forgetWidths, toJ_erasePads]


/-! ### set bodies -/

/-- name tables injective on their key sets -/
structure NamesOk (nm : JNames) : Prop where
  proto : NameInj nm.proto
  v9Field : NameInj nm.v9Field
  ipField : NameInj nm.ipField

def v9BodyWf (nm : JNames) : V9Body → Bool
  | .data recs _ => recs.all (recWf nm nm.v9Field)
  | .optData ss os _ =>
    ss.all (fun s => [1, 2, 3, 4, 5].contains s.1) && os.all (fun o => (keysOf nm.v9Field).contains o.1)
  | _ => true

def ipBodyWf (nm : JNames) : IpBody → Bool
  | .data recs _ => recs.all (recWf nm nm.ipField)
  | .optData recs _ => recs.all (recWf nm nm.ipField)
  | _ => true

theorem scopeDataName_inj : ∀ a ∈ [1, 2, 3, 4, 5], ∀ b ∈ [1, 2, 3, 4, 5],
    scopeDataName a = scopeDataName b → a = b := by decide

theorem recsJ_inj {nm : JNames} {names : List (Nat × String)} (hp : NameInj nm.proto) (hn : NameInj names)
    {rs ss : List Rec} (hr : rs.all (recWf nm names) = true) (hs : ss.all (recWf nm names) = true)
    (h : rs.map (recJ nm names) = ss.map (recJ nm names)) : rs.map normRec = ss.map normRec := by
  simp only [List.all_eq_true] at hr hs
  exact map_eq_map_of (fun a ha b hb hab => recJ_inj hp hn (hr a ha) (hs b hb) hab) h

theorem v9BodyJ_inj {c : Config} {nm : JNames} (hn : NamesOk nm) {a b : V9Body}
    (ha : v9BodyWf nm a = true) (hb : v9BodyWf nm b = true) (h : v9BodyJ c nm a = v9BodyJ c nm b) :
    numV9 (padV9 a) = numV9 (padV9 b) := by
  cases a <;> cases b <;> simp [v9BodyJ] at h
  case templates.templates ts _ us _ =>
    have := list_map_inj (fun _ _ => v9TemplateJ_inj) h
    simp [padV9, numV9, this]
  case optTemplates.optTemplates ts _ us _ =>
    have := list_map_inj (fun _ _ => v9OptTemplateJ_inj) h
    simp [padV9, numV9, this]
  case data.data rs _ ss _ =>
    simp only [v9BodyWf] at ha hb
    simp [padV9, numV9, recsJ_inj hn.proto hn.v9Field ha hb h]
  case optData.optData s1 o1 _ s2 o2 _ =>
    simp only [v9BodyWf, Bool.and_eq_true, List.all_eq_true, List.contains_iff_mem] at ha hb
    have e1 : s1 = s2 := by
      refine map_inj_on ?_ h.1
      intro x hx y hy hxy
      obtain ⟨x1, x2⟩ := x
      obtain ⟨y1, y2⟩ := y
      simp only [JVal.obj.injEq, List.cons.injEq, Prod.mk.injEq, and_true] at hxy
      have := scopeDataName_inj _ (ha.1 _ hx) _ (hb.1 _ hy) hxy.1
      simp only at this
      simp [this, bytesJ_inj hxy.2]
    have e2 : o1 = o2 := by
      refine map_inj_on ?_ h.2
      intro x hx y hy hxy
      obtain ⟨x1, x2⟩ := x
      obtain ⟨y1, y2⟩ := y
      simp only [JVal.obj.injEq, List.cons.injEq, Prod.mk.injEq, true_and, and_true] at hxy
      have := hn.v9Field _ (ha.2 _ hx) _ (hb.2 _ hy) hxy.1
      simp only at this
      simp [this, bytesJ_inj hxy.2]
    simp [padV9, numV9, e1, e2]

theorem ipBodyJ_inj {c : Config} {nm : JNames} (hn : NamesOk nm) {a b : IpBody}
    (ha : ipBodyWf nm a = true) (hb : ipBodyWf nm b = true) (h : ipBodyJ c nm a = ipBodyJ c nm b) :
    numIp (padIp a) = numIp (padIp b) := by
  cases a <;> cases b <;> simp [ipBodyJ] at h
  case template.template t u =>
    cases t; cases u
    simp only [Int.natCast_inj] at h
    have := list_map_inj (fun _ _ => ipTFieldJ_inj) h.2.2
    simp [padIp, numIp, h.1, h.2.1, this]
  case optTemplate.optTemplate t u =>
    cases t; cases u
    simp only [Int.natCast_inj] at h
    have := list_map_inj (fun _ _ => ipTFieldJ_inj) h.2.2.2
    simp [padIp, numIp, h.1, h.2.1, h.2.2.1, this]
  case data.data rs _ ss _ =>
    simp only [ipBodyWf] at ha hb
    simp [padIp, numIp, recsJ_inj hn.proto hn.ipField ha hb h]
  case optData.optData rs _ ss _ =>
    simp only [ipBodyWf] at ha hb
    simp [padIp, numIp, recsJ_inj hn.proto hn.ipField ha hb h]

theorem errKindJ_inj {a b : ErrKind} (h : errKindJ a = errKindJ b) : a = b := by
  cases a <;> cases b <;> simp [errKindJ] at h
  · rfl
  · simp only [Int.natCast_inj] at h; simp [h.1, bytesJ_inj h.2]
  · simp [bytesJ_inj h]


/-! ### whole packets -/

def pktWf (c : Config) (nm : JNames) : Packet → Bool
  | .v5 h rs => layoutWf nm c.t.v5Hdr h && rs.all (layoutWf nm c.t.v5Rec)
  | .v7 h rs => layoutWf nm c.t.v7Hdr h && rs.all (layoutWf nm c.t.v7Rec)
  | .v9 h ss => layoutWf nm c.t.v9Hdr h && ss.all fun s => v9BodyWf nm s.body
  | .ipfix h ss => layoutWf nm c.t.ipHdr h && ss.all fun s => ipBodyWf nm s.body
  | .error _ _ => true

theorem toJ_inj {c : Config} {nm : JNames} (hn : NamesOk nm) {p q : Packet}
    (hp : pktWf c nm p = true) (hq : pktWf c nm q = true) (h : toJ c nm p = toJ c nm q) : jnorm p = jnorm q := by
  cases p <;> cases q <;> simp [toJ] at h
  case v5.v5 h1 r1 h2 r2 | v7.v7 h1 r1 h2 r2 =>
    simp only [pktWf, Bool.and_eq_true, List.all_eq_true] at hp hq
    rw [layoutJ_inj hn.proto hp.1 hq.1 h.1,
      map_inj_on (fun a ha b hb => layoutJ_inj hn.proto (hp.2 a ha) (hq.2 b hb)) h.2]
  case v9.v9 h1 s1 h2 s2 =>
    simp only [pktWf, Bool.and_eq_true, List.all_eq_true] at hp hq
    have e1 := layoutJ_inj hn.proto hp.1 hq.1 h.1
    have e2 : s1.map (fun s => ({ s with body := numV9 (padV9 s.body) } : V9Set)) =
              s2.map (fun s => ({ s with body := numV9 (padV9 s.body) } : V9Set)) := by
      refine map_eq_map_of ?_ h.2
      intro a ha b hb hab
      obtain ⟨i1, l1, b1⟩ := a
      obtain ⟨i2, l2, b2⟩ := b
      simp only [JVal.obj.injEq, List.cons.injEq, Prod.mk.injEq, JVal.num.injEq, Int.natCast_inj, true_and, and_true] at hab
      have := v9BodyJ_inj hn (hp.2 _ ha) (hq.2 _ hb) hab.2
      simp only at this
      simp [hab.1.1, hab.1.2, this]
    simp only [jnorm, erasePads, forgetWidths, List.map_map, Function.comp_def, e1]
    simpa using e2
  case ipfix.ipfix h1 s1 h2 s2 =>
    simp only [pktWf, Bool.and_eq_true, List.all_eq_true] at hp hq
    have e1 := layoutJ_inj hn.proto hp.1 hq.1 h.1
    have e2 : s1.map (fun s => ({ s with body := numIp (padIp s.body) } : IpSet)) =
              s2.map (fun s => ({ s with body := numIp (padIp s.body) } : IpSet)) := by
      refine map_eq_map_of ?_ h.2
      intro a ha b hb hab
      obtain ⟨i1, l1, b1⟩ := a
      obtain ⟨i2, l2, b2⟩ := b
      simp only [JVal.obj.injEq, List.cons.injEq, Prod.mk.injEq, JVal.num.injEq, Int.natCast_inj, true_and, and_true] at hab
      have := ipBodyJ_inj hn (hp.2 _ ha) (hq.2 _ hb) hab.2
      simp only at this
      simp [hab.1.1, hab.1.2, this]
    simp only [jnorm, erasePads, forgetWidths, List.map_map, Function.comp_def, e1]
    simpa using e2
  case error.error k1 r1 k2 r2 =>
    rw [errKindJ_inj h.1, bytesJ_inj h.2]

/-! ### records: entries in template order -/

/-- member names of a JSON object, in order -/
def jKeys : JVal → List String
  | .obj kvs => kvs.map (·.1)
  | _ => []

theorem jKeys_recJ (nm : JNames) (names : List (Nat × String)) (r : Rec) :
    jKeys (recJ nm names r) = (r.map (·.1)).map toString := by
  simp [jKeys, recJ]

theorem toString_keys_nodup (n : Nat) : ((List.range n).map (toString : Nat → String)).Nodup := by
  refine List.Pairwise.map _ (fun a b hab he => hab (toString_nat_inj he)) List.nodup_range

/-- records in a V9 data body all come from the same template: keys `0..n-1` in order -/
def V9KeysOk : V9Body → Prop
  | .data recs _ => ∃ n, ∀ rec ∈ recs, rec.map (·.1) = List.range n
  | _ => True

/-- the k-th block of `n` consecutive single-entry maps has keys `0, 1, …, n-1` -/
def ipBlocks (n k : Nat) : List (List Nat) := (List.replicate k ((List.range n).map fun j => [j])).flatten

def IpKeysOk : IpBody → Prop
  | .data recs _ => ∃ n k, recs.map (fun m => m.map (·.1)) = ipBlocks n k
  | .optData recs _ => ∃ n k, recs.map (fun m => m.map (·.1)) = ipBlocks n k
  | _ => True

theorem v9ParseBody_keys (c : Config) (st st' : PState) (id : Nat) (body : Bytes) (b : V9Body)
    (h : v9ParseBody c st id body = (st', .ok b)) : V9KeysOk b := by
  cases b with
  | data recs pad =>
    obtain ⟨fs, n, rfl⟩ := v9ParseBody_data h
    refine ⟨fs.length, v9RecLoop_all c fs _ (fun i rec r hr => ?_) _ _ _ (fun _ hx => nomatch hx)⟩
    rw [(v9ParseRec_spec c _ _ _ _ _ hr).1, List.range_eq_range']
  | _ => trivial

theorem ipRecLoop_keys {c : Config} {fs : List IpTField} {fuel : Nat} {i : Bytes} {recs : List Rec} {r : Bytes}
    (h : ipRecLoop c fs fuel i = .ok (recs, r)) : ∃ k, recs.map (fun m => m.map (·.1)) = ipBlocks fs.length k := by
  refine ipRecLoop_ind (P := fun recs => ∃ k, recs.map (fun m => m.map (·.1)) = ipBlocks fs.length k)
    (fun i es r hp => ⟨1, ?_⟩) (fun es more ⟨k1, e1⟩ ⟨k2, e2⟩ => ⟨k1 + k2, ?_⟩) fuel i recs r h
  · rw [(ipParseRec_spec c _ _ _ _ _ hp).1, ← List.range_eq_range']; simp [ipBlocks]
  · rw [List.map_append, e1, e2]; simp [ipBlocks, ← List.flatten_append, List.replicate_append_replicate]

theorem ipParseBody_keys (c : Config) (st st' : PState) (id : Nat) (body : Bytes) (b : IpBody)
    (h : ipParseBody c st id body = (st', .ok b)) : IpKeysOk b := by
  cases b with
  | data recs pad => obtain ⟨fs, fuel, hl⟩ := ipParseBody_data h (.inl rfl); exact ⟨_, ipRecLoop_keys hl⟩
  | optData recs pad => obtain ⟨fs, fuel, hl⟩ := ipParseBody_data h (.inr rfl); exact ⟨_, ipRecLoop_keys hl⟩
  | _ => trivial

/-- every packet `parseBytes` returns has its data records keyed in template order -/
theorem parseBytes_keys (c : Config) (st st' : PState) (buf : Bytes) (ps : List Packet)
    (h : parseBytes c st buf = (st', .done ps)) : ∀ p ∈ ps, PktAll V9KeysOk IpKeysOk p :=
  parseBytesF_all (v9ParseBody_keys c) (ipParseBody_keys c) _ _ _ _ _ h

/-! ### every parse result is well formed for name tables that cover the crate's enum conversions -/

def lfieldOk (nm : JNames) (f : LField) : Bool :=
  match f.kind with
  | .wire w => !(nm.ipv4Fields.contains f.name) || decide (w ≤ 4)
  | .const v => !(nm.ipv4Fields.contains f.name) || decide (v < 2 ^ 32)
  | .protoOf _ => true

/-- `Ipv4Addr`-typed struct fields are at most 4 bytes wide (`B4.layoutOk` is the print-then-parse condition on a layout) -/
def layoutOk (nm : JNames) (lay : Layout) : Bool := lay.all (lfieldOk nm)

/-- the name tables have an entry for every discriminant the parser can produce, and the struct layouts
    are sane -/
structure TablesCover (c : Config) (nm : JNames) : Prop where
  protoFrom : ∀ x, c.t.protoFromU8 x ∈ keysOf nm.proto
  protoParse : ∀ x p, c.t.protoParse x = some p → p ∈ keysOf nm.proto
  v9Field : ∀ x, c.t.v9Field x ∈ keysOf nm.v9Field
  ipField : ∀ x, c.t.ipField x ∈ keysOf nm.ipField
  ipEnt : c.t.ipEnterprise ∈ keysOf nm.ipField
  scope : ∀ x, c.t.scopeKnown x = true → c.t.scopeField x ∈ [1, 2, 3, 4, 5]
  v5Hdr : layoutOk nm c.t.v5Hdr = true
  v5Rec : layoutOk nm c.t.v5Rec = true
  v7Hdr : layoutOk nm c.t.v7Hdr = true
  v7Rec : layoutOk nm c.t.v7Rec = true
  v9Hdr : layoutOk nm c.t.v9Hdr = true
  ipHdr : layoutOk nm c.t.ipHdr = true

theorem lfieldWf_of_fieldOk {nm : JNames} {proto : Nat → Nat} (hpr : ∀ x, proto x ∈ keysOf nm.proto) {f : LField}
    (hf : lfieldOk nm f = true) {vals : List Nat} {j v : Nat} (hv : vals[j]? = some v)
    (h : FieldOk proto f.kind vals j) : lfieldWf nm f v = true := by
  unfold lfieldWf
  unfold lfieldOk at hf
  unfold FieldOk at h
  cases hk : f.kind with
  | wire w =>
    simp only [hk, Bool.or_eq_true, Bool.not_eq_eq_eq_not, Bool.not_true, decide_eq_true_eq] at h hf ⊢
    obtain ⟨x, hx, hlt⟩ := h
    obtain rfl : x = v := Option.some.inj (hx.symm.trans hv)
    refine hf.imp id fun hw => ?_
    have : 256 ^ w ≤ 256 ^ 4 := Nat.pow_le_pow_right (by decide) hw
    omega
  | const k =>
    simp only [hk] at h hf ⊢
    obtain rfl : k = v := Option.some.inj (h.symm.trans hv)
    exact hf
  | protoOf s =>
    simp only [hk, List.contains_iff_mem] at h ⊢
    obtain rfl := Option.some.inj (h.symm.trans hv)
    exact hpr _

theorem parseLayout_wf {nm : JNames} {proto : Nat → Nat} (hpr : ∀ x, proto x ∈ keysOf nm.proto)
    {lay : Layout} (hl : layoutOk nm lay = true) {i : Bytes} {vals : List Nat} {r : Bytes}
    (h : parseLayout proto lay i = some (vals, r)) : layoutWf nm lay vals = true := by
  have hlen := parseLayout_length proto lay i vals r h
  obtain ⟨_, hf⟩ := parseFields_spec proto lay [] i vals r h
  simp only [layoutWf, hlen, beq_self_eq_true, Bool.true_and, List.all_eq_true]
  intro p hp
  obtain ⟨j, hj, rfl⟩ := List.mem_iff_getElem.mp hp
  simp only [List.length_zip, hlen, Nat.min_self] at hj
  simp only [List.getElem_zip]
  refine lfieldWf_of_fieldOk hpr (List.all_eq_true.mp hl _ (List.getElem_mem hj)) (List.getElem?_eq_getElem _) ?_
  simpa using hf j hj

theorem parseFixed_wf {c : Config} {nm : JNames} (hpr : ∀ x, c.t.protoFromU8 x ∈ keysOf nm.proto)
    {hdr rec : Layout} (hh : layoutOk nm hdr = true) (hr : layoutOk nm rec = true)
    {i : Bytes} {h : List Nat} {rs : List (List Nat)} {r : Bytes}
    (hp : parseFixed c hdr rec i = some ((h, rs), r)) :
    layoutWf nm hdr h = true ∧ rs.all (layoutWf nm rec) = true := by
  obtain ⟨⟨r1, h1⟩, h2⟩ := parseFixed_parts c hdr rec i h rs r hp
  refine ⟨parseLayout_wf hpr hh h1, List.all_eq_true.mpr fun x hx => ?_⟩
  obtain ⟨i', r', hx'⟩ := h2 x hx
  exact parseLayout_wf hpr hr hx'

/-- what is known of a value `parseValue` returns, for the constructors that side conditions speak of -/
def ValueShape (vc : ValueCfg) : FieldValue → Prop
  | .str s => ∃ b, s = utf8Lossy b
  | .ip4 n => n < 2 ^ 32
  | .ip6 n => n < 2 ^ 128
  | .proto p => ∃ x, vc.protoParse x = some p
  | _ => True

theorem parseValue_shape {vc : ValueCfg} {ty : FType} {len : Nat} {i : Bytes} {v : FieldValue} {r : Bytes}
    (h : parseValue vc ty len i = some (v, r)) : ValueShape vc v := by
  unfold parseValue at h
  cases ty <;> simp only at h
  case str =>
    cases ht : takeN len i with
    | none => simp [ht] at h
    | some x =>
      simp only [ht, Option.some.injEq, Prod.mk.injEq] at h
      rw [← h.1]; exact ⟨_, rfl⟩
  case ip4 =>
    cases hb : beU 4 i with
    | none => simp [hb] at h
    | some x =>
      simp only [hb, Option.some.injEq, Prod.mk.injEq] at h
      rw [← h.1]; exact beU_lt hb
  case ip6 =>
    cases hb : beU 16 i with
    | none => simp [hb] at h
    | some x =>
      simp only [hb, Option.some.injEq, Prod.mk.injEq] at h
      rw [← h.1]; exact beU_lt hb
  case proto =>
    cases hb : beU 1 i with
    | none => simp [hb] at h
    | some x =>
      simp only [hb] at h
      cases hq : vc.protoParse x.1 with
      | none => simp [hq] at h
      | some p =>
        simp only [hq, Option.some.injEq, Prod.mk.injEq] at h
        rw [← h.1]; exact ⟨_, hq⟩
  all_goals
    repeat' split at h
    all_goals first
      | (simp only [Option.some.injEq, Prod.mk.injEq, reduceCtorEq] at h; obtain ⟨rfl, _⟩ := h; trivial)
      | simp at h

theorem parseValue_wf {c : Config} {nm : JNames} (hpp : ∀ x p, c.t.protoParse x = some p → p ∈ keysOf nm.proto)
    {v : FieldValue} (h : Decoded c v) : fvWf nm v = true := by
  refine h.elim (fun ⟨ty, len, i, r, h⟩ => ?_) (fun ⟨b, e⟩ => e ▸ rfl)
  have hs := parseValue_shape h
  cases v with
  | ip4 n => simpa only [fvWf, decide_eq_true_eq, ValueShape] using hs
  | ip6 n => simpa only [fvWf, decide_eq_true_eq, ValueShape] using hs
  | proto p => obtain ⟨x, hx⟩ := hs; simpa only [fvWf, List.contains_iff_mem] using hpp x p hx
  | _ => rfl

theorem v9ParseRec_wf {c : Config} {nm : JNames} (hc : TablesCover c nm) {fields : List TField} {idx : Nat} {i : Bytes}
    {rec : Rec} {r : Bytes} (h : v9ParseRec c fields idx i = some (rec, r)) : recWf nm nm.v9Field rec = true := by
  obtain ⟨_, h2, h3⟩ := v9ParseRec_spec c _ _ _ _ _ h
  simp only [recWf, List.all_eq_true, Bool.and_eq_true, List.contains_iff_mem]
  intro e he
  have : e.2.1 ∈ rec.map (·.2.1) := List.mem_map_of_mem he
  rw [h2] at this
  obtain ⟨f, _, hf⟩ := List.mem_map.mp this
  exact ⟨hf ▸ hc.v9Field _, parseValue_wf hc.protoParse (h3 e he)⟩

theorem ipFieldDisc_mem {c : Config} {nm : JNames} (hc : TablesCover c nm) (f : IpTField) :
    ipFieldDisc c f ∈ keysOf nm.ipField := by
  unfold ipFieldDisc
  cases f.ent with
  | some e => exact hc.ipEnt
  | none => exact hc.ipField _

theorem ipParseRec_wf {c : Config} {nm : JNames} (hc : TablesCover c nm) {fs : List IpTField} {idx : Nat} {i : Bytes}
    {es : List Rec} {r : Bytes} (h : ipParseRec c fs idx i = some (es, r)) : ∀ m ∈ es, recWf nm nm.ipField m = true := by
  simp only [recWf, List.all_eq_true, Bool.and_eq_true, List.contains_iff_mem]
  intro m hm e he
  obtain ⟨⟨f, hf⟩, hd⟩ := (ipParseRec_spec c _ _ _ _ _ h).2.2 m hm e he
  exact ⟨hf ▸ ipFieldDisc_mem hc f, parseValue_wf hc.protoParse hd⟩

theorem v9ScopeLoop_wf {c : Config} {nm : JNames} (hc : TablesCover c nm) (fs : List TField) (i : Bytes) :
    ∀ (ss : List (Nat × Bytes)) (r : Bytes), v9ScopeLoop c fs i = some (ss, r) → ∀ s ∈ ss, s.1 ∈ [1, 2, 3, 4, 5] := by
  fun_induction v9ScopeLoop c fs i with
  | case1 => intro ss r h; cases h; exact fun _ hs => nomatch hs
  | case2 => intro ss r h; cases h; exact fun _ hs => nomatch hs
  | case3 => intro ss r h; cases h
  | case4 => intro ss r h; cases h
  | case5 _ _ _ _ _ _ hk _ _ _ _ ih =>
    intro ss r h; cases h
    intro s hs
    rcases List.mem_cons.mp hs with rfl | hs
    · exact hc.scope _ hk
    · exact ih _ _ (by assumption) s hs
  | case6 => intro ss r h; cases h; exact fun _ hs => nomatch hs

theorem v9OptLoop_wf {c : Config} {nm : JNames} (hc : TablesCover c nm) (fs : List TField) (i : Bytes) :
    ∀ (os : List (Nat × Bytes)) (r : Bytes), v9OptLoop c fs i = some (os, r) → ∀ o ∈ os, o.1 ∈ keysOf nm.v9Field := by
  fun_induction v9OptLoop c fs i with
  | case1 => intro os r h; cases h; exact fun _ ho => nomatch ho
  | case2 => intro os r h; cases h; exact fun _ ho => nomatch ho
  | case3 => intro os r h; cases h
  | case4 => intro os r h; cases h
  | case5 _ _ _ _ _ _ _ _ _ _ ih =>
    intro os r h; cases h
    intro o ho
    rcases List.mem_cons.mp ho with rfl | ho
    · exact hc.v9Field _
    · exact ih _ _ (by assumption) o ho

theorem v9BodyWf_of_parse {c : Config} {nm : JNames} (hc : TablesCover c nm) (st st' : PState) (id : Nat) (body : Bytes)
    (b : V9Body) (h : v9ParseBody c st id body = (st', .ok b)) : v9BodyWf nm b = true := by
  rcases v9ParseBody_ok_inv h with ⟨_, _, _, _, _, rfl⟩ | ⟨_, _, _, _, _, _, rfl⟩ |
    ⟨_, _, _, _, _, _, _, _, _, hs, ho, rfl⟩ | ⟨_, _, _, _, t, _, _, rfl⟩
  · rfl
  · rfl
  · simp only [v9BodyWf, Bool.and_eq_true, List.all_eq_true, List.contains_iff_mem]
    exact ⟨v9ScopeLoop_wf hc _ _ _ _ hs, v9OptLoop_wf hc _ _ _ _ ho⟩
  · simp only [v9BodyWf, List.all_eq_true]
    exact v9RecLoop_all c t.fields _ (fun _ _ _ hr => v9ParseRec_wf hc hr) _ _ _ (fun _ hx => nomatch hx)

theorem ipBodyWf_of_parse {c : Config} {nm : JNames} (hc : TablesCover c nm) (st st' : PState) (id : Nat) (body : Bytes)
    (b : IpBody) (h : ipParseBody c st id body = (st', .ok b)) : ipBodyWf nm b = true := by
  have hr := fun recs pad => ipParseBody_recs (recs := recs) (pad := pad) (fun _ _ _ _ hp => ipParseRec_wf hc hp) h
  cases b with
  | data recs pad => exact List.all_eq_true.mpr (hr recs pad (.inl rfl))
  | optData recs pad => exact List.all_eq_true.mpr (hr recs pad (.inr rfl))
  | _ => rfl

theorem parsePacket_wf {c : Config} {nm : JNames} (hc : TablesCover c nm) (st st' : PState) (i : Bytes)
    (p : Packet) (r : Bytes) (h : parsePacket c st i = (st', .ok p r)) : pktWf c nm p = true := by
  obtain ⟨_, _, _, _, _, hv⟩ := parsePacket_ok_versioned h
  rcases parseVersioned_ok_inv hv with ⟨_, _, hd, rs, hp, rfl⟩ | ⟨_, _, hd, rs, hp, rfl⟩ | ⟨_, h9⟩ | ⟨_, h10⟩
  · obtain ⟨a, b⟩ := parseFixed_wf hc.protoFrom hc.v5Hdr hc.v5Rec hp
    simp [pktWf, a, b]
  · obtain ⟨a, b⟩ := parseFixed_wf hc.protoFrom hc.v7Hdr hc.v7Rec hp
    simp [pktWf, a, b]
  · obtain ⟨hd, r1, ss, hl, hs, rfl⟩ := parseV9_ok_inv h9
    have := v9ParseSets_all (Q9 := fun b => v9BodyWf nm b = true) (v9BodyWf_of_parse hc) _ _ _ _ _ _ hs
    simp only [pktWf, Bool.and_eq_true, List.all_eq_true]
    exact ⟨parseLayout_wf hc.protoFrom hc.v9Hdr hl, this⟩
  · obtain ⟨hd, r1, body, ss, hl, _, hs, rfl⟩ := parseIpfix_ok_inv h10
    have := ipParseSets_all (Qi := fun b => ipBodyWf nm b = true) (ipBodyWf_of_parse hc) _ _ _ _ _ hs
    simp only [pktWf, Bool.and_eq_true, List.all_eq_true]
    exact ⟨parseLayout_wf hc.protoFrom hc.ipHdr hl, this⟩

theorem parseBytes_wf {c : Config} {nm : JNames} (hc : TablesCover c nm) (st st' : PState) (buf : Bytes)
    (ps : List Packet) (h : parseBytes c st buf = (st', .done ps)) : ∀ p ∈ ps, pktWf c nm p = true :=
  parseBytesF_forall (Q := fun p => pktWf c nm p = true) (parsePacket_wf hc) (fun _ _ => rfl) _ _ _ _ _ h

end Netflow.B1
