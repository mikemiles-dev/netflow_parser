/-
  Lemmas/Locality.lean — locality of the packet parsers, in both directions:

  * **extension stability** (`Ext`, `ExtS`): a successful parse is unaffected by bytes appended
    behind the input (they are handed through to the remainder) — basis of C11;
  * **strictness** (`Strict`, `StrictG`): a cut strictly inside the bytes a successful parse consumed
    makes the parser fail — basis of C14.

  For `Option` parsers strictness is derived generically from extension stability plus a size
  function of the decoded value (`strictG_of_ext_sized`).  The state-threading parsers of V9 / IPFIX
  are handled through the inversion and introduction lemmas of Lemmas/Inversion.lean.

  The last part puts calls together: a buffer that is a chain of self-delimiting packets (`selfDelimiting`,
  `chainOk`), a history of calls (`foldCalls`), and the chain lemma `parseBytes_chain_append`.
-/
import NetflowModel.Lemmas.State
namespace Netflow
open Preds

/-- extension stability: bytes appended behind the input are handed through to the remainder -/
def Ext {α : Type} (p : P α) : Prop :=
  ∀ i v r, p i = some (v, r) → ∀ b, p (i ++ b) = some (v, r ++ b)

/-- self-delimiting ("local"): a parse that consumed everything consumes the same prefix of any extension -/
def Local {α : Type} (p : P α) : Prop :=
  ∀ a v, p a = some (v, []) → ∀ b, p (a ++ b) = some (v, b)

/-- a cut strictly inside the consumed bytes makes the parser fail (`G`eneral form: the accepted parse may leave a remainder) -/
def StrictG {α : Type} (p : P α) : Prop :=
  ∀ i v r, p i = some (v, r) → ∀ k, k < i.length - r.length → p (i.take k) = none

/-- every proper prefix of an input that was consumed completely is rejected -/
def Strict {α : Type} (p : P α) : Prop :=
  ∀ a v, p a = some (v, []) → ∀ k, k < a.length → p (a.take k) = none

theorem Ext.local {α : Type} {p : P α} (h : Ext p) : Local p := by
  intro a v ha b
  simpa using h a v [] ha b

theorem StrictG.strict {α : Type} {p : P α} (h : StrictG p) : Strict p := by
  intro a v ha k hk
  exact h a v [] ha k (by simpa using hk)

/-- extension stability read backwards: the value decoded from a prefix is the value decoded from the whole -/
theorem Ext.of_prefix {α : Type} {p : P α} (h : Ext p) {a b : Bytes} {v v' : α} {r r' : Bytes}
    (hab : p (a ++ b) = some (v, r)) (ha : p a = some (v', r')) : v' = v ∧ r = r' ++ b := by
  have := h a v' r' ha b
  rw [hab] at this
  simp only [Option.some.injEq, Prod.mk.injEq] at this
  exact ⟨this.1.symm, this.2⟩

theorem strictG_of_ext_sized {α : Type} {p : P α} {f : α → Nat} (he : Ext p) (hs : Sized p f) : StrictG p := by
  intro i v r hp k hk
  cases hk' : p (i.take k) with
  | none => rfl
  | some vr =>
    obtain ⟨v', r'⟩ := vr
    exfalso
    have hi : p (i.take k ++ i.drop k) = some (v, r) := by rw [List.take_append_drop]; exact hp
    obtain ⟨e1, e2⟩ := he.of_prefix hi hk'
    subst e1
    have h1 := hs _ _ _ hp
    have h2 := hs _ _ _ hk'
    rw [List.length_take] at h2
    omega

theorem takeN_ext (n : Nat) : Ext (takeN n) := by
  intro i v r h b
  obtain ⟨h1, h2, h3⟩ := takeN_some h
  subst h2 h3
  rw [takeN_of_le (by rw [List.length_append]; omega), List.take_append_of_le_length h1,
    List.drop_append_of_le_length h1]

theorem beU_ext (w : Nat) : Ext (beU w) := by
  intro i v r h b
  obtain ⟨h1, h2, h3⟩ := beU_some h
  subst h2 h3
  rw [beU_of_le (by rw [List.length_append]; omega), List.take_append_of_le_length h1,
    List.drop_append_of_le_length h1]

theorem takeN_strict (n : Nat) : StrictG (takeN n) := strictG_of_ext_sized (takeN_ext n) (takeN_sized n)
theorem beU_strict (w : Nat) : StrictG (beU w) := strictG_of_ext_sized (beU_ext w) (beU_sized w)

theorem takeN_take {n k : Nat} {i b r : Bytes} (h : takeN n i = some (b, r)) (hk : n ≤ k) :
    takeN n (i.take k) = some (b, r.take (k - n)) := by
  obtain ⟨h1, h2, h3⟩ := takeN_some h
  subst h2 h3
  rw [takeN_of_le (by rw [List.length_take]; omega), List.take_take, List.drop_take,
    Nat.min_eq_left hk]

theorem beU_take {w k : Nat} {i r : Bytes} {v : Nat} (h : beU w i = some (v, r)) (hk : w ≤ k) :
    beU w (i.take k) = some (v, r.take (k - w)) := by
  obtain ⟨h1, h2, h3⟩ := beU_some h
  subst h2 h3
  rw [beU_of_le (by rw [List.length_take]; omega), List.take_take, List.drop_take,
    Nat.min_eq_left hk]

theorem fieldVal_append (proto : Nat → Nat) (f : LField) (acc : List Nat) {i : Bytes} (h : f.kind.width ≤ i.length)
    (b : Bytes) : fieldVal proto f acc (i ++ b) = fieldVal proto f acc i := by
  cases hk : f.kind with
  | wire w =>
    rw [hk, FKind.width] at h
    rw [fieldVal_wire hk, fieldVal_wire hk, List.take_append_of_le_length h]
  | const v => rw [fieldVal_const hk, fieldVal_const hk]
  | protoOf s => rw [fieldVal_protoOf hk, fieldVal_protoOf hk]

theorem parseFields_ext (proto : Nat → Nat) :
    ∀ (lay : Layout) (acc : List Nat) (i : Bytes) (vals : List Nat) (r : Bytes),
      parseFields proto lay acc i = some (vals, r) →
      ∀ b, parseFields proto lay acc (i ++ b) = some (vals, r ++ b)
  | [], acc, i, vals, r, h, b => by
    simp only [parseFields, Option.some.injEq, Prod.mk.injEq] at h ⊢
    exact ⟨h.1, by rw [h.2]⟩
  | f :: fs, acc, i, vals, r, h, b => by
    rw [parseFields_cons] at h ⊢
    split at h
    · rename_i hw
      rw [if_pos (by rw [List.length_append]; omega), fieldVal_append proto f acc hw, List.drop_append_of_le_length hw]
      exact parseFields_ext proto fs _ _ vals r h b
    · cases h

theorem parseLayout_ext (proto : Nat → Nat) (lay : Layout) : Ext (parseLayout proto lay) := by
  intro i v r h b
  exact parseFields_ext proto lay [] i v r h b

theorem parseLayout_strict (proto : Nat → Nat) (lay : Layout) : StrictG (parseLayout proto lay) :=
  strictG_of_ext_sized (parseLayout_ext proto lay) (parseLayout_sized proto lay)

/-- the layout parser on a prefix that still contains the whole struct decodes the same values -/
theorem parseLayout_take (proto : Nat → Nat) (lay : Layout) {i : Bytes} {h : List Nat} {r : Bytes} {k : Nat}
    (hp : parseLayout proto lay i = some (h, r)) (hk : lay.wireLen ≤ k) :
    parseLayout proto lay (i.take k) = some (h, r.take (k - lay.wireLen)) := by
  obtain ⟨a1, a2⟩ := parseLayout_consumes proto lay i h r hp
  obtain ⟨vals, hv⟩ := parseFields_isSome proto lay [] (i.take k) (by rw [List.length_take]; omega)
  have hi : parseLayout proto lay (i.take k ++ i.drop k) = some (h, r) := by
    rw [List.take_append_drop]; exact hp
  obtain ⟨e1, _⟩ := (parseLayout_ext proto lay).of_prefix hi hv
  subst e1 a2
  unfold parseLayout
  rw [hv, List.drop_take]

theorem countP_ext {α : Type} {p : P α} (hp : Ext p) : ∀ n, Ext (countP p n)
  | 0, i, v, r, h, b => by
    simp only [countP, Option.some.injEq, Prod.mk.injEq] at h ⊢
    exact ⟨h.1, by rw [h.2]⟩
  | n + 1, i, v, r, h, b => by
    obtain ⟨a, r1, as', hp1, hc, rfl⟩ := countP_succ_eq_some_iff.mp h
    exact countP_succ_eq_some_iff.mpr ⟨a, r1 ++ b, as', hp i a r1 hp1 b, countP_ext hp n r1 as' r hc b, rfl⟩

theorem countP_strict {α : Type} {p : P α} {n : Nat} (he : Ext p) (hp : Consumes p n) (k : Nat) :
    StrictG (countP p k) := strictG_of_ext_sized (countP_ext he k) (countP_sized hp k)

theorem parseFixed_ext (c : Config) (hdr rec : Layout) : Ext (parseFixed c hdr rec) := by
  intro i v r hp b
  obtain ⟨r1, hh, hc⟩ := parseFixed_some hp
  exact parseFixed_eq_some_iff.mpr
    ⟨r1 ++ b, parseLayout_ext _ _ i _ r1 hh b, countP_ext (parseLayout_ext _ _) _ r1 _ r hc b⟩

/-- V5 / V7 body parser: any cut inside the announced length (header + `count` records) is rejected -/
theorem parseFixed_strict (c : Config) (hdr rec : Layout) : StrictG (parseFixed c hdr rec) :=
  strictG_of_ext_sized (parseFixed_ext c hdr rec) (parseFixed_sized c hdr rec)

theorem takeN_local (n : Nat) : Local (takeN n) := (takeN_ext n).local
theorem beU_local (w : Nat) : Local (beU w) := (beU_ext w).local
theorem parseLayout_local (proto : Nat → Nat) (lay : Layout) : Local (parseLayout proto lay) :=
  (parseLayout_ext proto lay).local
theorem countP_local {α : Type} {p : P α} (hp : Ext p) (n : Nat) : Local (countP p n) := (countP_ext hp n).local
theorem parseFixed_local (c : Config) (hdr rec : Layout) : Local (parseFixed c hdr rec) := (parseFixed_ext c hdr rec).local
theorem takeN_strict' (n : Nat) : Strict (takeN n) := (takeN_strict n).strict
theorem beU_strict' (w : Nat) : Strict (beU w) := (beU_strict w).strict
theorem parseLayout_strict' (proto : Nat → Nat) (lay : Layout) : Strict (parseLayout proto lay) :=
  (parseLayout_strict proto lay).strict
theorem countP_strict' {α : Type} {p : P α} {n : Nat} (he : Ext p) (hp : Consumes p n) (k : Nat) :
    Strict (countP p k) := (countP_strict he hp k).strict
theorem parseFixed_strict' (c : Config) (hdr rec : Layout) : Strict (parseFixed c hdr rec) :=
  (parseFixed_strict c hdr rec).strict

/-- extension stability for the state-threading parsers of V9 / IPFIX -/
def ExtS {α : Type} (f : PState → Bytes → PState × Res (α × Bytes)) : Prop :=
  ∀ st st' i v r, f st i = (st', .ok (v, r)) → ∀ b, f st (i ++ b) = (st', .ok (v, r ++ b))

theorem v9ParseSet_ext (c : Config) : ExtS (v9ParseSet c) := by
  intro st st' i s r hp b
  obtain ⟨h, r1, body, bd, hh, ht, hb, e⟩ := v9ParseSet_ok_inv hp
  subst e
  exact v9ParseSet_ok_iff.2 ⟨_, _, _, _, parseLayout_ext _ _ _ _ _ hh b, takeN_ext _ _ _ _ ht b, hb, rfl⟩

/-- a flowset is decoded identically from any prefix that still contains it -/
theorem v9ParseSet_take (c : Config) (hw : c.t.v9SetHdr.wireLen = 4) {st st' : PState} {i : Bytes} {s : V9Set} {r : Bytes}
    (hp : v9ParseSet c st i = (st', .ok (s, r))) {m : Nat} (hm : max s.len 4 ≤ m) :
    v9ParseSet c st (i.take m) = (st', .ok (s, r.take (m - max s.len 4))) := by
  obtain ⟨h, r1, body, bd, hh, ht, hb, e⟩ := v9ParseSet_ok_inv hp
  subst e
  simp only at hm ⊢
  have h1 := parseLayout_take _ _ (k := m) hh (by omega)
  have h2 := takeN_take (k := m - c.t.v9SetHdr.wireLen) ht (by omega)
  have e : m - c.t.v9SetHdr.wireLen - (c.t.v9SetHdr.get "length" h - 4) = m - max (c.t.v9SetHdr.get "length" h) 4 := by
    omega
  rw [e] at h2
  exact v9ParseSet_ok_iff.2 ⟨_, _, _, _, h1, h2, hb, rfl⟩

/-- a cut inside a flowset (header or body) makes that flowset fail, state untouched -/
theorem v9ParseSet_take_err (c : Config) (hw : c.t.v9SetHdr.wireLen = 4) {st st' : PState} {i : Bytes} {s : V9Set} {r : Bytes}
    (hp : v9ParseSet c st i = (st', .ok (s, r))) {m : Nat} (hm : m < max s.len 4) :
    v9ParseSet c st (i.take m) = (st, .err) := by
  obtain ⟨h, r1, body, bd, hh, ht, hb, e⟩ := v9ParseSet_ok_inv hp
  subst e
  simp only at hm
  obtain ⟨a1, a2⟩ := parseLayout_consumes _ _ _ _ _ hh
  by_cases h4 : m < c.t.v9SetHdr.wireLen
  · have : parseLayout c.t.protoFromU8 c.t.v9SetHdr (i.take m) = none := by
      rw [parseLayout_none_iff, List.length_take]; omega
    unfold v9ParseSet
    simp only [this]
  · have h1 := parseLayout_take _ _ (k := m) hh (by omega)
    have h2 : takeN (c.t.v9SetHdr.get "length" h - 4) (r1.take (m - c.t.v9SetHdr.wireLen)) = none := by
      apply takeN_short
      rw [List.length_take]; omega
    unfold v9ParseSet
    simp only [h1, h2]

/-- an IPFIX set is framed by its length: what follows it does not influence how it is decoded
    (including the greedy record loop, which only sees the `length - 4` bytes taken) -/
theorem ipParseSet_ext (c : Config) : ExtS (ipParseSet c) := by
  intro st st' i s r hp b
  obtain ⟨h, r1, body, bd, hh, ht, hb, e⟩ := ipParseSet_ok_inv hp
  subst e
  exact ipParseSet_ok_iff.2 ⟨_, _, _, _, parseLayout_ext _ _ _ _ _ hh b, takeN_ext _ _ _ _ ht b, hb, rfl⟩

/-- the whole IPFIX message sits inside `take(length - 16)` -/
theorem parseIpfix_ext (c : Config) : ExtS (parseIpfix c) := by
  intro st st' i pkt r hp b
  obtain ⟨h, r1, body, ss, hh, ht, hs, e⟩ := parseIpfix_ok_inv hp
  subst e
  exact parseIpfix_ok_iff.2 ⟨_, _, _, _, parseLayout_ext _ _ _ _ _ hh b, takeN_ext _ _ _ _ ht b, hs, rfl⟩

/-- a cut inside an IPFIX message: the header or `take(length - 16)` fails before any set is
    interpreted, so the caches are untouched -/
theorem parseIpfix_take_err (c : Config) {st st' : PState} {i : Bytes} {pkt : Packet} {r : Bytes}
    (hp : parseIpfix c st i = (st', .ok (pkt, r))) {k : Nat} (hk : k < i.length - r.length) :
    parseIpfix c st (i.take k) = (st, .err) := by
  obtain ⟨h, r1, body, ss, hh, ht, hs, e⟩ := parseIpfix_ok_inv hp
  obtain ⟨a1, a2⟩ := parseLayout_consumes _ _ _ _ _ hh
  obtain ⟨b1, _, b3⟩ := takeN_some ht
  subst a2 b3
  simp only [List.length_drop] at hk b1
  by_cases h4 : k < c.t.ipHdr.wireLen
  · have : parseLayout c.t.protoFromU8 c.t.ipHdr (i.take k) = none := by
      rw [parseLayout_none_iff, List.length_take]; omega
    unfold parseIpfix
    simp only [this]
  · have h1 := parseLayout_take _ _ (k := k) hh (by omega)
    have h2 : takeN (c.t.ipHdr.get "length" h - 16) ((i.drop c.t.ipHdr.wireLen).take (k - c.t.ipHdr.wireLen)) = none := by
      apply takeN_short
      rw [List.length_take, List.length_drop]; omega
    unfold parseIpfix
    simp only [h1, h2]

theorem v9ParseSets_len_le (c : Config) : ∀ (n : Nat) (st st' : PState) (i : Bytes) (ss : List V9Set) (r : Bytes),
    v9ParseSets c n st i = (st', .ok (ss, r)) → ss.length ≤ n := by
  intro n
  induction n with
  | zero =>
    intro st st' i ss r h
    simp only [v9ParseSets, Prod.mk.injEq, Res.ok.injEq] at h
    rw [← h.2.1]; simp
  | succ n ih =>
    intro st st' i ss r h
    by_cases hne : i = []
    · subst hne
      rw [v9ParseSets_nil] at h
      simp only [Prod.mk.injEq, Res.ok.injEq] at h
      rw [← h.2.1]; simp
    · obtain ⟨st1, s, r1, ss', _, h2, e⟩ := v9ParseSets_succ_ok_inv hne h
      subst e
      have := ih _ _ _ _ _ h2
      simp only [List.length_cons]; omega

/-- **extension stability of the flowset loop under the exact-count hypothesis**: if all `n`
    iterations decoded a flowset, bytes appended behind the input are not touched.  (Without the
    hypothesis the statement is false: a loop that ran out of input early continues into the
    appended bytes.) -/
theorem v9ParseSets_ext (c : Config) : ∀ (n : Nat) (st st' : PState) (i : Bytes) (ss : List V9Set) (r : Bytes),
    v9ParseSets c n st i = (st', .ok (ss, r)) → ss.length = n →
    ∀ b, v9ParseSets c n st (i ++ b) = (st', .ok (ss, r ++ b)) := by
  intro n
  induction n with
  | zero =>
    intro st st' i ss r h _ b
    simp only [v9ParseSets, Prod.mk.injEq, Res.ok.injEq] at h ⊢
    exact ⟨h.1, h.2.1, by rw [h.2.2]⟩
  | succ n ih =>
    intro st st' i ss r h hl b
    by_cases hne : i = []
    · subst hne
      rw [v9ParseSets_nil] at h
      simp only [Prod.mk.injEq, Res.ok.injEq] at h
      rw [← h.2.1] at hl
      simp at hl
    · obtain ⟨st1, s, r1, ss', h1, h2, e⟩ := v9ParseSets_succ_ok_inv hne h
      subst e
      have hne' : i ++ b ≠ [] := by simp [hne]
      exact (v9ParseSets_succ_ok_iff hne').2 ⟨_, _, _, _, v9ParseSet_ext c _ _ _ _ _ h1 b,
        ih _ _ _ _ _ h2 (by simpa using hl) b, rfl⟩

/-- cut points that fall between flowsets, counted from offset `off` -/
def setBoundaries : Nat → List V9Set → List Nat
  | off, [] => [off]
  | off, s :: ss => off :: setBoundaries (off + max s.len 4) ss

theorem setBoundaries_head (off : Nat) (ss : List V9Set) : off ∈ setBoundaries off ss := by
  cases ss <;> simp [setBoundaries]

theorem setBoundaries_shift (d : Nat) : ∀ (ss : List V9Set) (off : Nat),
    setBoundaries (off + d) ss = (setBoundaries off ss).map (· + d) := by
  intro ss
  induction ss with
  | nil => intro off; simp [setBoundaries]
  | cons s ss ih =>
    intro off
    simp only [setBoundaries, List.map_cons]
    rw [← ih, Nat.add_right_comm]

/-- **strictness of the flowset loop**: a cut inside the flowsets that is not on a flowset
    boundary makes the flowset containing the cut fail -/
theorem v9ParseSets_take_err (c : Config) (hw : c.t.v9SetHdr.wireLen = 4) :
    ∀ (n : Nat) (st st' : PState) (i : Bytes) (ss : List V9Set) (r : Bytes) (off m : Nat),
      v9ParseSets c n st i = (st', .ok (ss, r)) → m < v9SetsLen ss → off + m ∉ setBoundaries off ss →
      ∃ st'', v9ParseSets c n st (i.take m) = (st'', .err) := by
  intro n
  induction n with
  | zero =>
    intro st st' i ss r off m h hm _
    simp only [v9ParseSets, Prod.mk.injEq, Res.ok.injEq] at h
    rw [← h.2.1] at hm
    simp [v9SetsLen] at hm
  | succ n ih =>
    intro st st' i ss r off m h hm hb
    by_cases hne : i = []
    · subst hne
      rw [v9ParseSets_nil] at h
      simp only [Prod.mk.injEq, Res.ok.injEq] at h
      rw [← h.2.1] at hm
      simp [v9SetsLen] at hm
    · obtain ⟨st1, s, r1, ss', h1, h2, e⟩ := v9ParseSets_succ_ok_inv hne h
      subst e
      simp only [v9SetsLen] at hm
      simp only [setBoundaries, List.mem_cons, not_or] at hb
      obtain ⟨hb0, hb1⟩ := hb
      have hm0 : 0 < m := by omega
      have hne' : i.take m ≠ [] := take_ne_nil hne hm0
      by_cases hlt : m < max s.len 4
      · exact ⟨st, v9ParseSets_succ_err_here hne' (v9ParseSet_take_err c hw h1 hlt)⟩
      · have hmne : m ≠ max s.len 4 := by
          intro e
          apply hb1
          rw [e]
          exact setBoundaries_head _ _
        have h1' := v9ParseSet_take c hw h1 (m := m) (by omega)
        obtain ⟨st'', h3⟩ := ih _ _ _ _ _ (off + max s.len 4) (m - max s.len 4) h2 (by omega)
          (by
            have : off + max s.len 4 + (m - max s.len 4) = off + m := by omega
            rw [this]; exact hb1)
        exact ⟨st'', v9ParseSets_succ_err_intro hne' h1' h3⟩

theorem parseV9_ext (c : Config) {st st' : PState} {i : Bytes} {h : List Nat} {ss : List V9Set} {r : Bytes}
    (hp : parseV9 c st i = (st', .ok (.v9 h ss, r))) (hc : c.t.v9Hdr.get "count" h = ss.length) (b : Bytes) :
    parseV9 c st (i ++ b) = (st', .ok (.v9 h ss, r ++ b)) := by
  obtain ⟨h', r1, ss', hh, hs, e⟩ := parseV9_ok_inv hp
  simp only [Packet.v9.injEq] at e
  obtain ⟨e1, e2⟩ := e
  subst e1 e2
  exact parseV9_ok_iff.2 ⟨_, _, _, parseLayout_ext _ _ _ _ _ hh b, v9ParseSets_ext c _ _ _ _ _ _ hs hc.symm b, rfl⟩

/-- a cut inside a V9 packet, not on a flowset boundary (offsets relative to the bytes after the
    version word): `Err` -/
theorem parseV9_take_err (c : Config) (hw : c.t.v9SetHdr.wireLen = 4) {st st' : PState} {i : Bytes} {h : List Nat}
    {ss : List V9Set} {r : Bytes}
    (hp : parseV9 c st i = (st', .ok (.v9 h ss, r))) {k : Nat} (hk : k < c.t.v9Hdr.wireLen + v9SetsLen ss)
    (hb : k ∉ setBoundaries c.t.v9Hdr.wireLen ss) :
    ∃ st'', parseV9 c st (i.take k) = (st'', .err) ∧ (k < c.t.v9Hdr.wireLen → st'' = st) := by
  obtain ⟨h', r1, ss', hh, hs, e⟩ := parseV9_ok_inv hp
  simp only [Packet.v9.injEq] at e
  obtain ⟨e1, e2⟩ := e
  subst e1 e2
  by_cases h4 : k < c.t.v9Hdr.wireLen
  · have : parseLayout c.t.protoFromU8 c.t.v9Hdr (i.take k) = none := by
      rw [parseLayout_none_iff, List.length_take]; omega
    refine ⟨st, ?_, fun _ => rfl⟩
    unfold parseV9
    simp only [this]
  · have h1 := parseLayout_take _ _ (k := k) hh (by omega)
    obtain ⟨st'', h2⟩ := v9ParseSets_take_err c hw _ _ _ _ _ _ c.t.v9Hdr.wireLen (k - c.t.v9Hdr.wireLen) hs (by omega)
      (by
        have : c.t.v9Hdr.wireLen + (k - c.t.v9Hdr.wireLen) = k := by omega
        rw [this]; exact hb)
    refine ⟨st'', ?_, fun h => absurd h h4⟩
    unfold parseV9
    simp only [h1, h2]

/-- the V9 side condition of C11: the header count equals the number of decoded flowsets
    (trivially true of the other versions) -/
def pktCountOk (c : Config) : Packet → Bool
  | .v9 h ss => c.t.v9Hdr.get "count" h == ss.length
  | _ => true

def Packet.isV9 : Packet → Bool
  | .v9 _ _ => true
  | _ => false

/-- cut points (offsets into the whole packet, version word included) at which a V9 packet can be
    cut into a shorter *valid* V9 packet: just after the header and after each flowset.
    Empty for the other versions. -/
def v9Boundaries (c : Config) : Packet → List Nat
  | .v9 _ ss => setBoundaries (2 + c.t.v9Hdr.wireLen) ss
  | _ => []

theorem parseVersioned_ext {c : Config} {st st' : PState} {kind : Nat} {body : Bytes} {pkt : Packet} {rest : Bytes}
    (h : parseVersioned c st kind body = (st', .ok pkt rest)) (hc : pktCountOk c pkt = true) (b : Bytes) :
    parseVersioned c st kind (body ++ b) = (st', .ok pkt (rest ++ b)) := by
  rcases parseVersioned_ok_inv h with ⟨hk, e, hd, rs, hp, ep⟩ | ⟨hk, e, hd, rs, hp, ep⟩ | ⟨hk, hp⟩ | ⟨hk, hp⟩
  · subst hk e ep
    exact parseVersioned_5_some (parseFixed_ext c _ _ _ _ _ hp b)
  · subst hk e ep
    exact parseVersioned_7_some (parseFixed_ext c _ _ _ _ _ hp b)
  · subst hk
    obtain ⟨hd, r1, ss, _, _, ep⟩ := parseV9_ok_inv hp
    subst ep
    simp only [pktCountOk, beq_iff_eq] at hc
    rw [parseVersioned_9, parseV9_ext c hp hc b]
    rfl
  · subst hk
    rw [parseVersioned_10, parseIpfix_ext c _ _ _ _ _ hp b]
    rfl

/-- **locality of `parse_packet_by_version`** (general, extension-stable form) -/
theorem parsePacket_ext {c : Config} {st st' : PState} {a : Bytes} {pkt : Packet} {rest : Bytes}
    (h : parsePacket c st a = (st', .ok pkt rest)) (hc : pktCountOk c pkt = true) (b : Bytes) :
    parsePacket c st (a ++ b) = (st', .ok pkt (rest ++ b)) := by
  rcases parsePacket_inv c st st' a _ h with ⟨_, _, hs⟩ | ⟨v, _, _, _, hs⟩ | ⟨v, _, _, _, _, hs⟩ | ⟨v, kind, hv, ha, hd, hpv⟩
  · simp at hs
  · simp at hs
  · simp at hs
  · unfold parsePacket
    rw [beU_ext 2 _ _ _ hv b]
    simp only [ha, ↓reduceIte, hd]
    exact parseVersioned_ext hpv hc b

/-- **strictness of `parse_packet_by_version`**: any cut strictly inside a packet that was
    accepted with nothing left over (for V9: not on a flowset boundary) is reported as a failure;
    the caches are untouched unless the packet is V9. -/
theorem parsePacket_take_fail (c : Config) (hf : c.t.framingOk = true) {st st' : PState} {p : Bytes} {pkt : Packet}
    (h : parsePacket c st p = (st', .ok pkt [])) {k : Nat} (hk : k < p.length)
    (hb : k ∉ v9Boundaries c pkt) :
    ∃ st'' e, parsePacket c st (p.take k) = (st'', .fail e) ∧
      ((k < 2 ∧ e = .incomplete) ∨
       (2 ≤ k ∧ ∃ v, versionOf p = some v ∧ e = .partialParse v ((p.take k).drop 2))) ∧
      (pkt.isV9 = false → st'' = st) := by
  obtain ⟨hw9, _, _, hd⟩ := Tables.framingOk_inv hf
  rcases parsePacket_inv c st st' p _ h with ⟨_, _, hs⟩ | ⟨v, _, _, _, hs⟩ | ⟨v, _, _, _, _, hs⟩ | ⟨v, kind, hv, ha, hdk, hpv⟩
  · simp at hs
  · simp at hs
  · simp at hs
  have hvk : v = kind := hd _ (lookup_mem hdk)
  by_cases h2 : k < 2
  · refine ⟨st, .incomplete, ?_, Or.inl ⟨h2, rfl⟩, fun _ => rfl⟩
    have : beU 2 (p.take k) = none := by simp [beU]; omega
    unfold parsePacket
    simp only [this]
  · have hv' := beU_take (k := k) hv (by omega)
    have hdt : (p.take k).drop 2 = (p.drop 2).take (k - 2) := by rw [List.drop_take]
    have hver : versionOf p = some v := by simp [versionOf, hv]
    have hpl : (p.drop 2).length = p.length - 2 := by rw [List.length_drop]
    have hstep : ∀ st'' e, parseVersioned c st kind ((p.drop 2).take (k - 2)) = (st'', .fail e) →
        parsePacket c st (p.take k) = (st'', .fail e) := by
      intro st'' e he
      unfold parsePacket
      simp only [hv', ha, ↓reduceIte, hdk, he]
    rcases parseVersioned_ok_inv hpv with ⟨hk5, e, hd5, rs, hp, ep⟩ | ⟨hk7, e, hd7, rs, hp, ep⟩ | ⟨hk9, hp⟩ | ⟨hk10, hp⟩
    · subst hk5 e ep hvk
      have hn := parseFixed_strict c _ _ _ _ _ hp (k - 2) (by simp only [List.length_nil]; omega)
      exact ⟨_, _, hstep _ _ (parseVersioned_5_none hn), Or.inr ⟨by omega, 5, hver, by rw [hdt]⟩, fun _ => rfl⟩
    · subst hk7 e ep hvk
      have hn := parseFixed_strict c _ _ _ _ _ hp (k - 2) (by simp only [List.length_nil]; omega)
      exact ⟨_, _, hstep _ _ (parseVersioned_7_none hn), Or.inr ⟨by omega, 7, hver, by rw [hdt]⟩, fun _ => rfl⟩
    · subst hk9 hvk
      obtain ⟨hd9, ss, ep, a1, a2⟩ := parseV9_consumes c hw9 _ _ _ _ _ hp
      subst ep
      have hlen : (p.drop 2).length = c.t.v9Hdr.wireLen + v9SetsLen ss := by
        have := congrArg List.length a2
        rw [List.length_drop, List.length_nil] at this
        omega
      simp only [v9Boundaries] at hb
      have hb' : k - 2 ∉ setBoundaries c.t.v9Hdr.wireLen ss := by
        intro hm
        apply hb
        rw [Nat.add_comm 2, setBoundaries_shift, List.mem_map]
        exact ⟨k - 2, hm, by omega⟩
      obtain ⟨st'', he, _⟩ := parseV9_take_err c hw9 hp (k := k - 2) (by omega) hb'
      refine ⟨st'', _, hstep _ _ ?_, Or.inr ⟨by omega, 9, hver, by rw [hdt]⟩, fun h => by simp [Packet.isV9] at h⟩
      rw [parseVersioned_9, he]
      rfl
    · subst hk10 hvk
      have he := parseIpfix_take_err c hp (k := k - 2) (by simp only [List.length_nil]; omega)
      refine ⟨st, _, hstep _ _ ?_, Or.inr ⟨by omega, 10, hver, by rw [hdt]⟩, fun _ => rfl⟩
      rw [parseVersioned_10, he]
      rfl

theorem parseBytes_cons_ok (c : Config) {st st' : PState} {buf : Bytes} {pkt : Packet} {rest : Bytes}
    (h : parsePacket c st buf = (st', .ok pkt rest)) :
    parseBytes c st buf = ((parseBytes c st' rest).1, (parseBytes c st' rest).2.cons pkt) := by
  obtain ⟨ps, hd⟩ := parseBytes_done c st' rest
  rw [parseBytes_done_iff.2 (.ok h (parseBytes_run (Prod.ext rfl hd))), hd]
  rfl

def Outcome.pkts : Outcome → List Packet
  | .done ps => ps
  | .panic ps => ps
  | .overflow ps => ps

def Outcome.prepend (pre : List Packet) : Outcome → Outcome
  | .done ps => .done (pre ++ ps)
  | .panic ps => .panic (pre ++ ps)
  | .overflow ps => .overflow (pre ++ ps)

theorem Outcome.prepend_nil (o : Outcome) : o.prepend [] = o := by cases o <;> rfl

theorem Outcome.cons_prepend (p : Packet) (pre : List Packet) (o : Outcome) :
    (o.prepend pre).cons p = o.prepend (p :: pre) := by cases o <;> rfl

/-- a buffer that is exactly one accepted packet (nothing left over, and for V9: header count =
    number of flowsets) in parser state `st` -/
def selfDelimiting (c : Config) (st : PState) (a : Bytes) : Bool :=
  match parsePacket c st a with
  | (_, .ok pkt rest) => rest.isEmpty && pktCountOk c pkt
  | _ => false

/-- every buffer of the list is self-delimiting in the state reached after the previous ones -/
def chainOk (c : Config) : PState → List Bytes → Bool
  | _, [] => true
  | st, p :: ps => selfDelimiting c st p && chainOk c (parsePacket c st p).1 ps

/-- delivering the buffers one per `parse_bytes` call on the same parser: final state and the
    concatenation of what the calls returned -/
def foldCalls (c : Config) : PState → List Bytes → PState × List Packet
  | st, [] => (st, [])
  | st, p :: ps =>
    ((foldCalls c (parseBytes c st p).1 ps).1, (parseBytes c st p).2.pkts ++ (foldCalls c (parseBytes c st p).1 ps).2)

theorem selfDelimiting_inv {c : Config} {st : PState} {a : Bytes} (h : selfDelimiting c st a = true) :
    ∃ st' pkt, parsePacket c st a = (st', .ok pkt []) ∧ pktCountOk c pkt = true := by
  unfold selfDelimiting at h
  cases hp : parsePacket c st a with
  | mk st' step =>
    cases step with
    | ok pkt rest =>
      simp only [hp, Bool.and_eq_true, List.isEmpty_iff] at h
      obtain ⟨e, hc⟩ := h
      subst e
      exact ⟨st', pkt, rfl, hc⟩
    | fail e => simp [hp] at h
    | unallowed => simp [hp] at h
    | panic => simp [hp] at h
    | overflow => simp [hp] at h

/-- a self-delimiting buffer followed by anything: `parse_bytes` returns the packet and goes on
    with the tail in the state after the packet -/
theorem parseBytes_selfDelimiting_append (c : Config) {st st' : PState} {a : Bytes} {pkt : Packet}
    (h : parsePacket c st a = (st', .ok pkt [])) (hc : pktCountOk c pkt = true) (b : Bytes) :
    parseBytes c st (a ++ b) = ((parseBytes c st' b).1, (parseBytes c st' b).2.cons pkt) := by
  have := parsePacket_ext h hc b
  rw [List.nil_append] at this
  exact parseBytes_cons_ok c this

theorem parseBytes_selfDelimiting (c : Config) {st st' : PState} {a : Bytes} {pkt : Packet}
    (h : parsePacket c st a = (st', .ok pkt [])) : parseBytes c st a = (st', .done [pkt]) := by
  rw [parseBytes_cons_ok c h, parseBytes_nil]
  rfl

theorem foldCalls_cons_selfDelimiting (c : Config) {st st' : PState} {a : Bytes} {pkt : Packet}
    (h : parsePacket c st a = (st', .ok pkt [])) (ps : List Bytes) :
    foldCalls c st (a :: ps) = ((foldCalls c st' ps).1, pkt :: (foldCalls c st' ps).2) := by
  simp only [foldCalls, parseBytes_selfDelimiting c h, Outcome.pkts, List.singleton_append]

/-- **chain lemma** (general form, with an arbitrary tail): a chain of self-delimiting buffers
    followed by `t`, parsed in one call, = the per-buffer calls followed by parsing `t` -/
theorem parseBytes_chain_append (c : Config) :
    ∀ (qs : List Bytes) (st : PState), chainOk c st qs = true → ∀ t : Bytes,
      parseBytes c st (qs.flatten ++ t) =
        ((parseBytes c (foldCalls c st qs).1 t).1,
         (parseBytes c (foldCalls c st qs).1 t).2.prepend (foldCalls c st qs).2) := by
  intro qs
  induction qs with
  | nil =>
    intro st _ t
    simp [foldCalls, Outcome.prepend_nil]
  | cons q qs ih =>
    intro st h t
    simp only [chainOk, Bool.and_eq_true] at h
    obtain ⟨h1, h2⟩ := h
    obtain ⟨st', pkt, hp, hc⟩ := selfDelimiting_inv h1
    rw [hp] at h2
    rw [List.flatten_cons, List.append_assoc, parseBytes_selfDelimiting_append c hp hc,
      ih st' h2 t, foldCalls_cons_selfDelimiting c hp, Outcome.cons_prepend]

theorem foldCalls_append (c : Config) : ∀ (xs ys : List Bytes) (st : PState),
    foldCalls c st (xs ++ ys) =
      ((foldCalls c (foldCalls c st xs).1 ys).1, (foldCalls c st xs).2 ++ (foldCalls c (foldCalls c st xs).1 ys).2) := by
  intro xs
  induction xs with
  | nil => intro ys st; simp [foldCalls]
  | cons x xs ih =>
    intro ys st
    simp only [List.cons_append, foldCalls, ih, List.append_assoc]

theorem parseBytes_state_of_selfDelimiting (c : Config) {st : PState} {p : Bytes}
    (h : selfDelimiting c st p = true) : (parseBytes c st p).1 = (parsePacket c st p).1 := by
  obtain ⟨st', pkt, hp, _⟩ := selfDelimiting_inv h
  rw [parseBytes_cons_ok c hp, parseBytes_nil, hp]

theorem chainOk_append (c : Config) : ∀ (xs ys : List Bytes) (st : PState),
    chainOk c st (xs ++ ys) = true → chainOk c st xs = true ∧ chainOk c (foldCalls c st xs).1 ys = true := by
  intro xs
  induction xs with
  | nil => intro ys st h; exact ⟨rfl, by simpa [foldCalls] using h⟩
  | cons x xs ih =>
    intro ys st h
    simp only [List.cons_append, chainOk, Bool.and_eq_true] at h ⊢
    obtain ⟨h1, h2⟩ := h
    obtain ⟨h3, h4⟩ := ih ys _ h2
    refine ⟨⟨h1, h3⟩, ?_⟩
    simp only [foldCalls]
    rw [parseBytes_state_of_selfDelimiting c h1]
    exact h4

end Netflow
