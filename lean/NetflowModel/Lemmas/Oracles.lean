/-
  Lemmas/Oracles.lean — three clauses of the runtime oracle, on the model:
  `Findings.noRecordsOfUnknownTemplates` (C17), equality of the V9 caches of the flag-off and the flag-on
  run (C17), `Preds.noRecordsFor` (C07).
-/
import NetflowModel.Lemmas.State
import NetflowModel.Lemmas.Locality
import NetflowModel.Lemmas.Feature
import NetflowModel.Findings
namespace Netflow.C1x
open Netflow

/-- (v9 data templates, ipfix templates, ipfix options templates) : id ↦ has an unknown-typed field -/
abbrev Track := List (Nat × Bool) × List (Nat × Bool) × List (Nat × Bool)

def initTrack (c : Config) (st : PState) : Track :=
  (st.v9T.map (fun e => (e.1, B2.v9HasUnknown c e.2.fields)), st.ipT.map (fun e => (e.1, B2.ipHasUnknown c e.2.fields)),
   st.ipO.map (fun e => (e.1, B2.ipHasUnknown c e.2.fields)))

def stepV9 (c : Config) (acc : Track × Bool) (s : V9Set) : Track × Bool :=
  let (m, ok) := acc
  match s.body with
  | .templates ts _ => ((ts.foldl (fun t x => (x.id, B2.v9HasUnknown c x.fields) :: t) m.1, m.2.1, m.2.2), ok)
  | .optTemplates ts _ => ((m.1.filter (fun e => !(ts.any fun x => x.id == e.1)), m.2.1, m.2.2), ok)
  | .data recs _ => (m, ok && (recs.isEmpty || (m.1.lookup s.id) != some true))
  | _ => (m, ok)

def stepIp (c : Config) (acc : Track × Bool) (s : IpSet) : Track × Bool :=
  let (m, ok) := acc
  match s.body with
  | .template t => ((m.1, (t.id, B2.ipHasUnknown c t.fields) :: m.2.1, m.2.2.filter (·.1 != t.id)), ok)
  | .optTemplate t => ((m.1, m.2.1.filter (·.1 != t.id), (t.id, B2.ipHasUnknown c t.fields) :: m.2.2), ok)
  | .data recs _ => (m, ok && (recs.isEmpty || (m.2.1.lookup s.id) != some true))
  | .optData recs _ => (m, ok && (recs.isEmpty || (m.2.2.lookup s.id) != some true))

def stepPkt (c : Config) (acc : Track × Bool) (p : Packet) : Track × Bool :=
  match p with
  | .v9 _ ss => ss.foldl (stepV9 c) acc
  | .ipfix _ ss => ss.foldl (stepIp c) acc
  | _ => acc

/-- the oracle predicate is the fold of `stepPkt` from `initTrack` -/
theorem noRecords_eq (c : Config) (before after : PState) (pkts : List Packet) :
    Findings.noRecordsOfUnknownTemplates c before after pkts =
      (pkts.foldl (stepPkt c) (initTrack c before, true)).2 := rfl

theorem lookup_cons_eq {β : Type} (id k : Nat) (b : β) (m : List (Nat × β)) :
    ((k, b) :: m).lookup id = if id = k then some b else m.lookup id := by
  by_cases h : id = k
  · subst h; simp [List.lookup]
  · have : (id == k) = false := by simpa using h
    simp [List.lookup, this, h]

theorem lookup_map_eq {α β : Type} (f : α → β) (id : Nat) : ∀ l : List (Nat × α),
    (l.map (fun e => (e.1, f e.2))).lookup id = (amLookup id l).map f := by
  intro l
  induction l with
  | nil => rfl
  | cons x xs ih =>
    obtain ⟨k, v⟩ := x
    simp only [List.map_cons, lookup_cons_eq, amLookup, ih]
    split <;> rfl

theorem lookup_filter_key {β : Type} (p : Nat → Bool) (q : Nat × β → Bool) (hq : ∀ e, q e = !p e.1) (id : Nat) :
    ∀ m : List (Nat × β), (m.filter q).lookup id = if p id then none else m.lookup id := by
  intro m
  induction m with
  | nil => simp
  | cons x xs ih =>
    obtain ⟨k, b⟩ := x
    by_cases hk : p k = true
    · have : q (k, b) = false := by rw [hq]; simp [hk]
      rw [List.filter_cons_of_neg (by simp [this]), ih, lookup_cons_eq]
      by_cases hid : id = k
      · subst hid; simp [hk]
      · simp [hid]
    · have hk' : p k = false := by simpa using hk
      have : q (k, b) = true := by rw [hq]; simp [hk']
      rw [List.filter_cons_of_pos this, lookup_cons_eq, lookup_cons_eq, ih]
      by_cases hid : id = k
      · subst hid; simp [hk']
      · simp [hid]

/-! The correspondence between the predicate's bookkeeping and the real caches.
  Only one direction is needed (and only that one survives `amErase` on a map with duplicate keys): WHEN
  the predicate has an entry for an id, the cache holds a template for it and the entry says whether that
  template has an unknown-typed field.  No well-formedness of the caches is required. -/

/-- an association list that, where it has an entry, agrees with `f` of the cached value -/
def Tracks {τ : Type} (f : τ → Bool) (m : List (Nat × Bool)) (l : List (Nat × τ)) : Prop :=
  ∀ id x, m.lookup id = some x → (amLookup id l).map f = some x

def Corr (c : Config) (m : Track) (st : PState) : Prop :=
  Tracks (fun t => B2.v9HasUnknown c t.fields) m.1 st.v9T ∧ Tracks (fun t => B2.ipHasUnknown c t.fields) m.2.1 st.ipT ∧
  Tracks (fun t => B2.ipHasUnknown c t.fields) m.2.2 st.ipO

theorem corr_init (c : Config) (st : PState) : Corr c (initTrack c st) st :=
  ⟨fun id x h => by rw [← h]; exact (lookup_map_eq (fun t : V9Template => B2.v9HasUnknown c t.fields) id _).symm,
   fun id x h => by rw [← h]; exact (lookup_map_eq (fun t : IpTemplate => B2.ipHasUnknown c t.fields) id _).symm,
   fun id x h => by rw [← h]; exact (lookup_map_eq (fun t : IpOptTemplate => B2.ipHasUnknown c t.fields) id _).symm⟩

theorem Tracks.insert {τ : Type} {f : τ → Bool} {m : List (Nat × Bool)} {l : List (Nat × τ)} (h : Tracks f m l) (k : Nat) (v : τ) :
    Tracks f ((k, f v) :: m) (amInsert k v l) := by
  intro id x
  rw [lookup_cons_eq, amLookup_amInsert]
  split
  · exact fun hx => hx
  · exact h id x

/-- dropping from the list (at least) the key erased from the map -/
theorem Tracks.erase {τ : Type} {f : τ → Bool} {m : List (Nat × Bool)} {l : List (Nat × τ)} (h : Tracks f m l) (k : Nat)
    (p : Nat → Bool) (hp : p k = true) : Tracks f (m.filter fun e => !p e.1) (amErase k l) := by
  intro id x
  rw [lookup_filter_key p _ (fun _ => rfl)]
  split
  · intro hx; cases hx
  · rename_i hid
    rw [amLookup_amErase_ne (fun e : id = k => hid (e ▸ hp))]
    exact h id x

theorem Tracks.lookup_ne_true {τ : Type} {f : τ → Bool} {m : List (Nat × Bool)} {l : List (Nat × τ)} (h : Tracks f m l)
    {id : Nat} {t : τ} (ht : amLookup id l = some t) (hf : f t = false) : (m.lookup id != some true) = true := by
  cases hl : m.lookup id with
  | none => rfl
  | some x =>
    have := h id x hl
    rw [ht, Option.map_some, hf] at this
    cases this
    rfl

/-- the bookkeeping follows the replay of a reported flowset, whatever the flowset -/
theorem corr_replayV9Set (c : Config) {m : Track} {st : PState} (ok : Bool) (s : V9Set) (hc : Corr c m st) :
    Corr c (stepV9 c (m, ok) s).1 (P1.replayV9Set st s) := by
  obtain ⟨c1, c2, c3⟩ := hc
  unfold stepV9 P1.replayV9Set P1.replayV9Body
  cases s.body with
  | templates ts pad =>
    obtain ⟨f1, f2⟩ := insertV9Templates_ip ts st
    refine ⟨?_, by rw [f1]; exact c2, by rw [f2]; exact c3⟩
    clear f1 f2 c2 c3
    show Tracks _ (ts.foldl _ m.1) (insertV9Templates st ts).v9T
    generalize m.1 = m1 at c1 ⊢
    induction ts generalizing m1 st with
    | nil => exact c1
    | cons t ts ih => exact ih (st := { st with v9T := amInsert t.id t st.v9T, v9O := amErase t.id st.v9O }) _ (c1.insert t.id t)
  | optTemplates ts pad =>
    obtain ⟨f1, f2⟩ := insertV9OptTemplates_ip ts st
    refine ⟨?_, by rw [f1]; exact c2, by rw [f2]; exact c3⟩
    intro id x
    show (m.1.filter fun e => !(ts.any fun x => x.id == e.1)).lookup id = some x → _
    rw [lookup_filter_key (fun k => ts.any fun x => x.id == k) _ (fun _ => rfl)]
    split
    · intro hx; cases hx
    · rename_i hid
      rw [(insertV9OptTemplates_other id ts st fun u hu e => hid (List.any_eq_true.2 ⟨u, hu, by simp [e]⟩)).1]
      exact c1 id x
  | data recs pad => exact ⟨c1, c2, c3⟩
  | optData ss os pad => exact ⟨c1, c2, c3⟩

theorem corr_replayIpSet (c : Config) {m : Track} {st : PState} (ok : Bool) (s : IpSet) (hc : Corr c m st) :
    Corr c (stepIp c (m, ok) s).1 (P1.replayIpSet st s) := by
  obtain ⟨c1, c2, c3⟩ := hc
  unfold stepIp P1.replayIpSet P1.replayIpBody
  cases s.body with
  | template t => exact ⟨c1, c2.insert t.id t, c3.erase t.id (· == t.id) (beq_self_eq_true _)⟩
  | optTemplate t => exact ⟨c1, c2.erase t.id (· == t.id) (beq_self_eq_true _), c3.insert t.id t⟩
  | data recs pad => exact ⟨c1, c2, c3⟩
  | optData recs pad => exact ⟨c1, c2, c3⟩

/-- flag off: one REPORTED V9 flowset moves the predicate's bookkeeping exactly as it moves the caches, and
    never falsifies the predicate -/
theorem stepV9_set (c : Config) {st st' : PState} {i r : Bytes} {s : V9Set} {m : Track} (ok : Bool) (hc : Corr c m st)
    (h : v9ParseSet (B2.flag c false) st i = (st', .ok (s, r))) :
    ∃ m', stepV9 c (m, ok) s = (m', ok) ∧ Corr c m' st' := by
  refine ⟨(stepV9 c (m, ok) s).1, Prod.ext rfl ?_, ?_⟩
  · obtain ⟨hd, r1, body, b, _, _, hb, rfl⟩ := v9ParseSet_ok_inv h
    rcases v9ParseBody_ok_inv hb with ⟨_, _, _, _, _, rfl⟩ | ⟨_, _, _, _, _, _, rfl⟩ | ⟨_, _, _, _, _, _, _, _, _, _, _, rfl⟩ |
      ⟨_, _, _, _, t, hT, _, rfl⟩
    · rfl
    · rfl
    · rfl
    · show (ok && (_ || _)) = ok
      cases hu : B2.v9HasUnknown c t.fields with
      | true => rw [B2.v9RecLoop_unknown_off c t.fields (B2.v9HasUnknown_true hu)]; simp
      | false => rw [hc.1.lookup_ne_true hT hu]; simp
  · rw [P1.v9ParseSet_ok_replay _ _ _ _ _ _ h]
    exact corr_replayV9Set c ok s hc

theorem stepIp_set (c : Config) {st st' : PState} {i r : Bytes} {s : IpSet} {m : Track} (ok : Bool) (hc : Corr c m st)
    (h : ipParseSet (B2.flag c false) st i = (st', .ok (s, r))) :
    ∃ m', stepIp c (m, ok) s = (m', ok) ∧ Corr c m' st' := by
  refine ⟨(stepIp c (m, ok) s).1, Prod.ext rfl ?_, ?_⟩
  · obtain ⟨hd, r1, body, b, _, _, hb, rfl⟩ := ipParseSet_ok_inv h
    rcases ipParseBody_ok_inv hb with ⟨_, _, _, _, _, _, rfl⟩ | ⟨_, _, _, _, _, rfl⟩ |
      ⟨_, _, _, fs, recs, pad, _, hl, ⟨t, hT, rfl, rfl⟩ | ⟨_, t, hO, rfl, rfl⟩⟩
    · rfl
    · rfl
    · show (ok && (_ || _)) = ok
      cases hu : B2.ipHasUnknown c t.fields with
      | true => rw [B2.ipRecLoop_unknown_off c t.fields (B2.ipHasUnknown_true hu)] at hl; cases hl
      | false => rw [hc.2.1.lookup_ne_true hT hu]; simp
    · show (ok && (_ || _)) = ok
      cases hu : B2.ipHasUnknown c t.fields with
      | true => rw [B2.ipRecLoop_unknown_off c t.fields (B2.ipHasUnknown_true hu)] at hl; cases hl
      | false => rw [hc.2.2.lookup_ne_true hO hu]; simp
  · rw [P1.ipParseSet_ok_replay _ _ _ _ _ _ h]
    exact corr_replayIpSet c ok s hc

theorem stepV9_sets (c : Config) : ∀ (n : Nat) (st st' : PState) (i : Bytes) (ss : List V9Set) (r : Bytes)
    (m : Track) (ok : Bool), Corr c m st →
    v9ParseSets (B2.flag c false) n st i = (st', .ok (ss, r)) →
    ∃ m', ss.foldl (stepV9 c) (m, ok) = (m', ok) ∧ Corr c m' st' := by
  intro n
  induction n with
  | zero => intro st st' i ss r m ok hc h; cases h; exact ⟨m, rfl, hc⟩
  | succ n ih =>
    intro st st' i ss r m ok hc h
    by_cases hne : i = []
    · subst hne
      rw [v9ParseSets_nil] at h
      cases h
      exact ⟨m, rfl, hc⟩
    · obtain ⟨st1, s, r1, ss', hs, hrest, rfl⟩ := v9ParseSets_succ_ok_inv hne h
      obtain ⟨m1, e, k⟩ := stepV9_set c ok hc hs
      rw [List.foldl_cons, e]
      exact ih st1 st' r1 ss' r m1 ok k hrest

theorem stepIp_sets (c : Config) : ∀ (f : Nat) (st st' : PState) (i : Bytes) (ss : List IpSet)
    (m : Track) (ok : Bool), Corr c m st →
    ipParseSets (B2.flag c false) f st i = (st', .ok ss) →
    ∃ m', ss.foldl (stepIp c) (m, ok) = (m', ok) ∧ Corr c m' st' := by
  intro f
  induction f with
  | zero => intro st st' i ss m ok _ h; cases h
  | succ f ih =>
    intro st st' i ss m ok hc h
    rcases ipParseSets_succ_ok_iff.1 h with ⟨hs, rfl⟩ | ⟨st1, s, r, ss', hs, _, hrest, rfl⟩
    · exact ⟨m, rfl, ipParseSet_err_state hs ▸ hc⟩
    · obtain ⟨m1, e, k⟩ := stepIp_set c ok hc hs
      rw [List.foldl_cons, e]
      exact ih st1 st' r ss' m1 ok k hrest

theorem stepPkt_packet (c : Config) (st st' : PState) (buf : Bytes) (pkt : Packet) (rest : Bytes) (m : Track) (ok : Bool)
    (hc : Corr c m st)
    (h : parsePacket (B2.flag c false) st buf = (st', .ok pkt rest)) :
    ∃ m', stepPkt c (m, ok) pkt = (m', ok) ∧ Corr c m' st' := by
  rcases P1.parsePacket_ok_cases h with ⟨rfl, _, _, rfl⟩ | ⟨rfl, _, _, rfl⟩ | hp | hp
  · exact ⟨m, rfl, hc⟩
  · exact ⟨m, rfl, hc⟩
  · obtain ⟨hd, r1, ss, _, hs, rfl⟩ := parseV9_ok_inv hp
    exact stepV9_sets c _ st st' r1 ss rest m ok hc hs
  · obtain ⟨hd, r1, body, ss, _, _, hs, rfl⟩ := parseIpfix_ok_inv hp
    exact stepIp_sets c _ st st' body ss m ok hc hs

/-- the whole call: the fold of the predicate never leaves `ok`.  (A failing packet ends the call — its
    error element is the last one and is skipped by the predicate — so templates cached by a V9 packet that
    fails midway, which are never reported, cannot be consulted by a later packet of the same call.) -/
theorem _root_.Netflow.Run.noRecords {c : Config} {st st' : PState} {buf : Bytes} {pkts : List Packet}
    (h : Run (B2.flag c false) st buf st' pkts) (m : Track) (ok : Bool) (hc : Corr c m st) :
    (pkts.foldl (stepPkt c) (m, ok)).2 = ok := by
  induction h generalizing m with
  | nil => rfl
  | ok hp _ ih =>
    obtain ⟨m1, e, k⟩ := stepPkt_packet c _ _ _ _ _ m ok hc hp
    rw [List.foldl_cons, e]
    exact ih m1 k
  | fail => rfl
  | unallowed => rfl

/-! The V9 caches never depend on the feature flag.
  Both builds walk through the SAME packet boundaries: whether a packet is accepted, and where the next
  one starts, does not depend on the flag nor on the IPFIX caches (an IPFIX message is consumed by
  `take(length - 16)` whatever happens inside).  `stepKind` / `resKind` keep exactly that information. -/

def resKind : Res (Packet × Bytes) → Nat × Bytes
  | .ok (_, r) => (0, r)
  | .err => (1, [])
  | .panic => (3, [])
  | .overflow => (4, [])

def stepKind : Step → Nat × Bytes
  | .ok _ r => (0, r)
  | .fail _ => (1, [])
  | .unallowed => (2, [])
  | .panic => (3, [])
  | .overflow => (4, [])

theorem stepKind_liftRes (v : Nat) (body : Bytes) (q : Res (Packet × Bytes)) :
    stepKind (liftRes v body q) = resKind q := by
  cases q with
  | ok a => obtain ⟨p, r⟩ := a; rfl
  | _ => rfl

theorem resKind_of_rmap {q1 q2 : Res (Packet × Bytes)}
    (h : B2.rmap Prod.snd q1 = B2.rmap Prod.snd q2) : resKind q1 = resKind q2 := by
  cases q1 with
  | ok a1 =>
    cases q2 with
    | ok a2 => obtain ⟨p1, r1⟩ := a1; obtain ⟨p2, r2⟩ := a2; simp only [B2.rmap, Res.ok.injEq] at h; simp [resKind, h]
    | _ => simp [B2.rmap] at h
  | err => cases q2 <;> simp [B2.rmap] at h ⊢
  | panic => cases q2 <;> simp [B2.rmap] at h ⊢
  | overflow => cases q2 <;> simp [B2.rmap] at h ⊢

theorem parseIpfix_v9_frame (c : Config) (st : PState) (i : Bytes) : AgreeV9 (parseIpfix c st i).1 st :=
  parseIpfix_pres (c := c) (I := fun x => AgreeV9 x st)
    (fun s id b hI => by
      obtain ⟨f1, f2⟩ := ipParseBody_v9_frame c s id b
      exact ⟨f1.trans hI.1, f2.trans hI.2⟩) st i ⟨rfl, rfl⟩

/-- what `parseIpfix` does to the input, as a function of the tables and the bytes only -/
def ipfixKind (c : Config) (i : Bytes) : Nat × Bytes :=
  match parseLayout c.t.protoFromU8 c.t.ipHdr i with
  | none => (1, [])
  | some (h, r) =>
    match takeN (c.t.ipHdr.get "length" h - 16) r with
    | none => (1, [])
    | some (_, r') => (0, r')

/-- acceptance and the rest of an IPFIX message depend on neither the caches nor the flag -/
theorem parseIpfix_kind (c : Config) (hw : 0 < c.t.ipSetHdr.wireLen) (st : PState) (i : Bytes) :
    resKind (parseIpfix c st i).2 = ipfixKind c i := by
  unfold parseIpfix ipfixKind
  cases hh : parseLayout c.t.protoFromU8 c.t.ipHdr i with
  | none => rfl
  | some x =>
    obtain ⟨h, r⟩ := x
    dsimp only
    cases ht : takeN (c.t.ipHdr.get "length" h - 16) r with
    | none => rfl
    | some y =>
      obtain ⟨body, r'⟩ := y
      dsimp only
      cases hs : ipParseSets c (body.length + 1) st body with
      | mk st1 q =>
        cases q with
        | ok ss => rfl
        | err => exact absurd hs (fun e => ipParseSets_no_err c hw _ _ _ (congrArg Prod.snd e))
        | panic => have := ipParseSets_no_panic c (body.length + 1) st body; rw [hs] at this; simp at this
        | overflow =>
          have := ipParseSets_no_overflow c (body.length + 1) st body (Nat.lt_succ_self _)
          rw [hs] at this; simp at this

theorem parseV9_kind (c : Config) (b1 b2 : Bool) (s1 s2 : PState) (i : Bytes) (h : AgreeV9 s1 s2) :
    AgreeV9 (parseV9 (B2.flag c b1) s1 i).1 (parseV9 (B2.flag c b2) s2 i).1 ∧
    resKind (parseV9 (B2.flag c b1) s1 i).2 = resKind (parseV9 (B2.flag c b2) s2 i).2 := by
  obtain ⟨e, a⟩ := parseV9_rel (c := B2.flag c b1) (v9ParseBody_respects_agree _) s1 s2 i h
  obtain ⟨g1, g2⟩ := B2.parseV9_sim c b1 b2 s2 i
  refine ⟨?_, ?_⟩
  · rw [← g1]; exact a
  · rw [e]; exact resKind_of_rmap g2

theorem parseVersioned_kind (c : Config) (hw : 0 < c.t.ipSetHdr.wireLen) (b1 b2 : Bool) (s1 s2 : PState)
    (kind : Nat) (body : Bytes) (h : AgreeV9 s1 s2) :
    AgreeV9 (parseVersioned (B2.flag c b1) s1 kind body).1 (parseVersioned (B2.flag c b2) s2 kind body).1 ∧
    stepKind (parseVersioned (B2.flag c b1) s1 kind body).2 = stepKind (parseVersioned (B2.flag c b2) s2 kind body).2 := by
  rcases parseVersioned_cases (B2.flag c b1) s1 kind body with
    ⟨rfl, ⟨_, _, _, hp, e⟩ | ⟨hp, e⟩⟩ | ⟨rfl, ⟨_, _, _, hp, e⟩ | ⟨hp, e⟩⟩ | ⟨rfl, e⟩ | ⟨rfl, e⟩ | ⟨h5, h7, h9, h10, e⟩
  · rw [e, parseVersioned_5_some (c := B2.flag c b2) (st := s2) hp]; exact ⟨h, rfl⟩
  · rw [e, parseVersioned_5_none (c := B2.flag c b2) (st := s2) hp]; exact ⟨h, rfl⟩
  · rw [e, parseVersioned_7_some (c := B2.flag c b2) (st := s2) hp]; exact ⟨h, rfl⟩
  · rw [e, parseVersioned_7_none (c := B2.flag c b2) (st := s2) hp]; exact ⟨h, rfl⟩
  · rw [e, parseVersioned_9]
    simp only [stepKind_liftRes]
    exact parseV9_kind c b1 b2 s1 s2 body h
  · rw [e, parseVersioned_10]
    simp only [stepKind_liftRes]
    obtain ⟨a1, a2⟩ := parseIpfix_v9_frame (B2.flag c b1) s1 body
    obtain ⟨a3, a4⟩ := parseIpfix_v9_frame (B2.flag c b2) s2 body
    exact ⟨⟨a1.trans (h.1.trans a3.symm), a2.trans (h.2.trans a4.symm)⟩,
      (parseIpfix_kind (B2.flag c b1) hw s1 body).trans (parseIpfix_kind (B2.flag c b2) hw s2 body).symm⟩
  · rw [e, parseVersioned_other (c := B2.flag c b2) (st := s2) h5 h7 h9 h10]; exact ⟨h, rfl⟩

theorem parsePacket_kind (c : Config) (hw : 0 < c.t.ipSetHdr.wireLen) (b1 b2 : Bool) (s1 s2 : PState)
    (buf : Bytes) (h : AgreeV9 s1 s2) :
    AgreeV9 (parsePacket (B2.flag c b1) s1 buf).1 (parsePacket (B2.flag c b2) s2 buf).1 ∧
    stepKind (parsePacket (B2.flag c b1) s1 buf).2 = stepKind (parsePacket (B2.flag c b2) s2 buf).2 := by
  rcases B2.parsePacket_flag_cases c buf with ⟨kind, hd⟩ | ⟨step, hs⟩
  · rw [hd b1 s1, hd b2 s2]; exact parseVersioned_kind c hw b1 b2 s1 s2 kind _ h
  · rw [hs b1 s1, hs b2 s2]; exact ⟨h, rfl⟩

theorem parseBytesF_v9_agree (c : Config) (hw : 0 < c.t.ipSetHdr.wireLen) (b1 b2 : Bool) :
    ∀ (f : Nat) (s1 s2 : PState) (buf : Bytes), AgreeV9 s1 s2 →
      AgreeV9 (parseBytesF (B2.flag c b1) f s1 buf).1 (parseBytesF (B2.flag c b2) f s2 buf).1 := by
  intro f
  induction f with
  | zero => intro s1 s2 buf h; exact h
  | succ f ih =>
    intro s1 s2 buf h
    unfold parseBytesF
    by_cases he : buf.isEmpty = true
    · simp only [he, ↓reduceIte]; exact h
    · simp only [he, Bool.false_eq_true, ↓reduceIte]
      obtain ⟨a, k⟩ := parsePacket_kind c hw b1 b2 s1 s2 buf h
      revert a k
      generalize parsePacket (B2.flag c b1) s1 buf = x
      generalize parsePacket (B2.flag c b2) s2 buf = y
      obtain ⟨t1, q1⟩ := x
      obtain ⟨t2, q2⟩ := y
      intro a k
      dsimp only at a k
      cases q1 with
      | ok p1 r1 =>
        cases q2 with
        | ok p2 r2 =>
          simp only [stepKind, Prod.mk.injEq, true_and] at k
          subst k
          dsimp only
          by_cases hre : r1.isEmpty = true
          · simp only [hre, ↓reduceIte]; exact a
          · simp only [hre, Bool.false_eq_true, ↓reduceIte]
            exact ih t1 t2 r1 a
        | _ => simp [stepKind] at k
      | fail e1 => cases q2 <;> first | exact a | simp [stepKind] at k
      | unallowed => cases q2 <;> first | exact a | simp [stepKind] at k
      | panic => cases q2 <;> first | exact a | simp [stepKind] at k
      | overflow => cases q2 <;> first | exact a | simp [stepKind] at k

/-! C07 : `Preds.noRecordsFor` on buffers of the shape
  `pre ++ p` : a chain of self-delimiting accepted packets, then ONE packet of the protocol in question
  whose sets are: a chain `front` of sets that decode, then a set with the unknown id `tid`. -/

/-- every byte string of the list is exactly one set that decodes (by `parse`) in the state reached after
    the previous ones; result: the state after them and the decoded sets -/
def setChain {σ : Type} (parse : PState → Bytes → PState × Res (σ × Bytes)) : PState → List Bytes → Option (PState × List σ)
  | st, [] => some (st, [])
  | st, a :: as =>
    match parse st a with
    | (st1, .ok (s, [])) =>
      (match setChain parse st1 as with
       | some (st2, ss) => some (st2, s :: ss)
       | none => none)
    | _ => none

abbrev v9SetChain (c : Config) := setChain (v9ParseSet c)
abbrev ipSetChain (c : Config) := setChain (ipParseSet c)

theorem setChain_cons_inv {σ : Type} {parse : PState → Bytes → PState × Res (σ × Bytes)} {st st2 : PState} {a : Bytes}
    {as : List Bytes} {ss : List σ} (h : setChain parse st (a :: as) = some (st2, ss)) :
    ∃ st1 s ss', parse st a = (st1, .ok (s, [])) ∧ setChain parse st1 as = some (st2, ss') ∧ ss = s :: ss' := by
  unfold setChain at h
  split at h
  · rename_i st1 s hs
    split at h
    · rename_i st2' ss' hc
      simp only [Option.some.injEq, Prod.mk.injEq] at h
      exact ⟨st1, s, ss', hs, by rw [hc, h.1], h.2.symm⟩
    · simp at h
  · simp at h

/-- what holds after the chain held before it, unless one of the decoded sets brought it about -/
theorem setChain_known {σ : Type} {parse : PState → Bytes → PState × Res (σ × Bytes)} {K : PState → Prop} {D : σ → Bool}
    (hstep : ∀ st st1 a s, parse st a = (st1, .ok (s, [])) → K st1 → K st ∨ D s = true) :
    ∀ (front : List Bytes) (st st2 : PState) (ss : List σ),
      setChain parse st front = some (st2, ss) → K st2 → K st ∨ ∃ s ∈ ss, D s = true := by
  intro front
  induction front with
  | nil =>
    intro st st2 ss h hk
    simp only [setChain, Option.some.injEq, Prod.mk.injEq] at h
    left; rw [h.1]; exact hk
  | cons a as ih =>
    intro st st2 ss h hk
    obtain ⟨st1, s, ss', hs, hc, rfl⟩ := setChain_cons_inv h
    rcases ih st1 st2 ss' hc hk with h1 | ⟨s', hs', hd⟩
    · exact (hstep st st1 a s hs h1).imp id fun hd => ⟨s, List.mem_cons_self, hd⟩
    · exact Or.inr ⟨s', List.mem_cons_of_mem _ hs', hd⟩

theorem v9ParseSet_ok_ne_nil {c : Config} (hw : 0 < c.t.v9SetHdr.wireLen) {st st' : PState} {i : Bytes} {s : V9Set} {r : Bytes}
    (h : v9ParseSet c st i = (st', .ok (s, r))) : i ≠ [] := by
  obtain ⟨hd, r1, body, b, hh, _, _, _⟩ := v9ParseSet_ok_inv h
  obtain ⟨a1, _⟩ := parseLayout_consumes _ _ _ _ _ hh
  intro e; subst e; simp at a1; omega

/-- the flowsets of `front` decode, then the flowset loop fails on what follows: the packet's loop fails
    with the state reached at the failure -/
theorem v9ParseSets_chain_err (c : Config) (hw : 0 < c.t.v9SetHdr.wireLen) :
    ∀ (front : List Bytes) (st st2 st3 : PState) (ss : List V9Set) (n : Nat) (b : Bytes),
      v9SetChain c st front = some (st2, ss) → v9ParseSets c n st2 b = (st3, .err) →
      v9ParseSets c (front.length + n) st (front.flatten ++ b) = (st3, .err) := by
  intro front
  induction front with
  | nil =>
    intro st st2 st3 ss n b h1 h2
    simp only [setChain, Option.some.injEq, Prod.mk.injEq] at h1
    rw [← h1.1] at h2
    simpa using h2
  | cons a as ih =>
    intro st st2 st3 ss n b h1 h2
    obtain ⟨st1, s, ss', hs, hc, _⟩ := setChain_cons_inv h1
    have hne := v9ParseSet_ok_ne_nil hw hs
    have e1 : (a :: as).length + n = (as.length + n) + 1 := by simp only [List.length_cons]; omega
    have e2 : (a :: as).flatten ++ b = a ++ (as.flatten ++ b) := by simp
    rw [e1, e2]
    have hs' := v9ParseSet_ext c _ _ _ _ _ hs (as.flatten ++ b)
    rw [List.nil_append] at hs'
    exact v9ParseSets_succ_err_intro (by simp [hne]) hs' (ih st1 st2 st3 ss' n b hc h2)

theorem v9ParseSets_unknown_head (c : Config) (hw : 0 < c.t.v9SetHdr.wireLen) (st : PState) (n : Nat) (b : Bytes)
    (sh : List Nat) (r1 : Bytes) (tid : Nat)
    (hs : parseLayout c.t.protoFromU8 c.t.v9SetHdr b = some (sh, r1))
    (hid : c.t.v9SetHdr.get "flowset_id" sh = tid)
    (h1 : tid ≠ c.t.v9TemplateId) (h2 : tid ≠ c.t.v9OptTemplateId) (hunk : ¬ KnownV9 st tid) :
    v9ParseSets c (n + 1) st b = (st, .err) := by
  have hne : b ≠ [] := by
    obtain ⟨a1, _⟩ := parseLayout_consumes _ _ _ _ _ hs
    intro e; subst e; simp at a1; omega
  obtain ⟨hT, hO⟩ : amLookup tid st.v9T = none ∧ amLookup tid st.v9O = none := by
    simpa [KnownV9] using hunk
  apply v9ParseSets_succ_err_here hne
  unfold v9ParseSet
  simp only [hs, hid]
  cases ht : takeN (c.t.v9SetHdr.get "length" sh - 4) r1 with
  | none => rfl
  | some x => simp only [v9ParseBody_unknown h1 h2 hO hT]

/-- `p` is a V9 packet (version word allowed and dispatched to V9, `body` behind it) whose flowsets are a chain
    `front` decoding in turn from `st` to `st2` as `ss`, followed — within the header's count — by a flowset whose
    header carries the data id `tid` -/
def V9UnknownAt (c : Config) (st : PState) (p body : Bytes) (tid : Nat) (st2 : PState) (ss : List V9Set) : Prop :=
  ∃ (v : Nat) (hd : List Nat) (front : List Bytes) (b : Bytes) (sh : List Nat) (r1 : Bytes),
    beU 2 p = some (v, body) ∧ c.allowed.contains v = true ∧ c.t.dispatch.lookup v = some 9 ∧
    parseLayout c.t.protoFromU8 c.t.v9Hdr body = some (hd, front.flatten ++ b) ∧
    v9SetChain c st front = some (st2, ss) ∧ front.length < c.t.v9Hdr.get "count" hd ∧
    parseLayout c.t.protoFromU8 c.t.v9SetHdr b = some (sh, r1) ∧ c.t.v9SetHdr.get "flowset_id" sh = tid ∧
    tid ≠ c.t.v9TemplateId ∧ tid ≠ c.t.v9OptTemplateId

theorem parsePacket_v9_unknown (c : Config) (hw : 0 < c.t.v9SetHdr.wireLen) {st st2 : PState} {p body : Bytes} {tid : Nat}
    {ss : List V9Set} (h : V9UnknownAt c st p body tid st2 ss) (hunk : ¬ KnownV9 st2 tid) :
    parsePacket c st p = (st2, .fail (.partialParse 9 body)) := by
  obtain ⟨v, hd, front, b, sh, r1, hv, ha, hdp, hh, hfront, hcount, hs, hid, h1, h2⟩ := h
  obtain ⟨n, hn⟩ : ∃ n, c.t.v9Hdr.get "count" hd = front.length + (n + 1) := ⟨c.t.v9Hdr.get "count" hd - front.length - 1, by omega⟩
  have hl := v9ParseSets_chain_err c hw front st st2 st2 ss (n + 1) b hfront
    (v9ParseSets_unknown_head c hw st2 n b sh r1 tid hs hid h1 h2 hunk)
  have e : parseV9 c st body = (st2, .err) := by simp [parseV9, hh, hn, hl]
  simp only [parsePacket, hv, ha, ↓reduceIte, hdp]
  rw [parseVersioned_9, e]; rfl

theorem ipParseSet_ok_ne_nil {c : Config} (hw : 0 < c.t.ipSetHdr.wireLen) {st st' : PState} {i : Bytes} {s : IpSet} {r : Bytes}
    (h : ipParseSet c st i = (st', .ok (s, r))) : i ≠ [] := by
  have := ipParseSet_progress c hw _ _ _ _ _ h
  intro e; subst e; simp at this

/-- the sets of `front` decode, the next set fails: the set loop reports exactly the sets of `front` -/
theorem ipParseSets_chain_stop (c : Config) (hw : 0 < c.t.ipSetHdr.wireLen) :
    ∀ (front : List Bytes) (st st2 st3 : PState) (ss : List IpSet) (f : Nat) (b : Bytes),
      ipSetChain c st front = some (st2, ss) → ipParseSet c st2 b = (st3, .err) →
      front.length < f →
      ipParseSets c f st (front.flatten ++ b) = (st3, .ok ss) := by
  intro front
  induction front with
  | nil =>
    intro st st2 st3 ss f b h1 h2 hf
    simp only [setChain, Option.some.injEq, Prod.mk.injEq] at h1
    obtain ⟨e1, e2⟩ := h1
    subst e1 e2
    obtain ⟨f', rfl⟩ : ∃ f', f = f' + 1 := ⟨f - 1, by simp at hf; omega⟩
    simp [ipParseSets, h2]
  | cons a as ih =>
    intro st st2 st3 ss f b h1 h2 hf
    obtain ⟨st1, s, ss', hs, hc, e⟩ := setChain_cons_inv h1
    subst e
    obtain ⟨f', rfl⟩ : ∃ f', f = f' + 1 := ⟨f - 1, by simp at hf; omega⟩
    have hne := ipParseSet_ok_ne_nil hw hs
    have e2 : (a :: as).flatten ++ b = a ++ (as.flatten ++ b) := by simp
    rw [e2]
    have hs' := ipParseSet_ext c _ _ _ _ _ hs (as.flatten ++ b)
    rw [List.nil_append] at hs'
    have hlen : ¬ (as.flatten ++ b).length = (a ++ (as.flatten ++ b)).length := by
      have : 0 < a.length := by cases a with | nil => exact absurd rfl hne | cons _ _ => simp
      simp only [List.length_append]; omega
    have := ih st1 st2 st3 ss' f' b hc h2 (by simp only [List.length_cons] at hf; omega)
    simp only [ipParseSets, hs', hlen, ↓reduceIte, this]

theorem ipParseSet_unknown_head (c : Config) (st : PState) (b : Bytes) (sh : List Nat) (r1 : Bytes) (tid : Nat)
    (hs : parseLayout c.t.protoFromU8 c.t.ipSetHdr b = some (sh, r1))
    (hid : c.t.ipSetHdr.get "header_id" sh = tid)
    (h1 : c.t.ipSetMinRange ≤ tid) (h2 : tid ≠ c.t.ipOptTemplateId) (hunk : ¬ KnownIp st tid) :
    ipParseSet c st b = (st, .err) := by
  obtain ⟨hT, hO⟩ : amLookup tid st.ipT = none ∧ amLookup tid st.ipO = none := by
    simpa [KnownIp] using hunk
  unfold ipParseSet
  simp only [hs, hid]
  cases ht : takeN (c.t.ipSetHdr.get "length" sh - 4) r1 with
  | none => rfl
  | some x => simp only [ipParseBody_unknown h1 h2 hT hO]

/-- `p` is ONE complete IPFIX message (header `hd`) whose sets are a chain `front` decoding in turn from `st` to
    `st2` as `ss`, followed by a set whose header carries the data id `tid` -/
def IpUnknownAt (c : Config) (st : PState) (p : Bytes) (hd : List Nat) (tid : Nat) (st2 : PState) (ss : List IpSet) : Prop :=
  ∃ (v : Nat) (body r : Bytes) (front : List Bytes) (b : Bytes) (sh : List Nat) (r1 : Bytes),
    beU 2 p = some (v, body) ∧ c.allowed.contains v = true ∧ c.t.dispatch.lookup v = some 10 ∧
    parseLayout c.t.protoFromU8 c.t.ipHdr body = some (hd, r) ∧
    takeN (c.t.ipHdr.get "length" hd - 16) r = some (front.flatten ++ b, []) ∧
    ipSetChain c st front = some (st2, ss) ∧
    parseLayout c.t.protoFromU8 c.t.ipSetHdr b = some (sh, r1) ∧ c.t.ipSetHdr.get "header_id" sh = tid ∧
    c.t.ipSetMinRange ≤ tid ∧ tid ≠ c.t.ipOptTemplateId

theorem parsePacket_ipfix_unknown (c : Config) (hw : 0 < c.t.ipSetHdr.wireLen) {st st2 : PState} {p : Bytes} {hd : List Nat}
    {tid : Nat} {ss : List IpSet} (h : IpUnknownAt c st p hd tid st2 ss) (hunk : ¬ KnownIp st2 tid) :
    parsePacket c st p = (st2, .ok (.ipfix hd ss) []) := by
  obtain ⟨v, body, r, front, b, sh, r1, hv, ha, hdp, hh, ht, hfront, hs, hid, h1, h2⟩ := h
  have hflen : front.length ≤ front.flatten.length := by
    clear ht
    induction front generalizing st ss with
    | nil => simp
    | cons a as ih =>
      obtain ⟨st1, s, ss', hs1, hc, _⟩ := setChain_cons_inv hfront
      have hne := ipParseSet_ok_ne_nil hw hs1
      have : 0 < a.length := by cases a with | nil => exact absurd rfl hne | cons _ _ => simp
      have := ih hc
      simp only [List.length_cons, List.flatten_cons, List.length_append]; omega
  have hl := ipParseSets_chain_stop c hw front st st2 st2 ss ((front.flatten ++ b).length + 1) b hfront
    (ipParseSet_unknown_head c st2 b sh r1 tid hs hid h1 h2 hunk)
    (by rw [List.length_append]; omega)
  have e : parseIpfix c st body = (st2, .ok (.ipfix hd ss, [])) := parseIpfix_ok_intro hh ht hl
  simp only [parsePacket, hv, ha, ↓reduceIte, hdp]
  rw [parseVersioned_10, e]; rfl

theorem chainOk_no_error (c : Config) : ∀ (pre : List Bytes) (st : PState),
    chainOk c st pre = true → ∀ p ∈ (foldCalls c st pre).2, ∀ k r, p ≠ .error k r := by
  intro pre
  induction pre with
  | nil => intro st _ p hp; simp [foldCalls] at hp
  | cons q qs ih =>
    intro st h p hp
    simp only [chainOk, Bool.and_eq_true] at h
    obtain ⟨h1, h2⟩ := h
    obtain ⟨st', pkt, hpk, _⟩ := selfDelimiting_inv h1
    rw [hpk] at h2
    rw [foldCalls_cons_selfDelimiting c hpk] at hp
    simp only [List.mem_cons] at hp
    rcases hp with e | hp
    · subst e; exact P1.parsePacket_ok_not_error hpk
    · exact ih st' h2 p hp

theorem noRecordsFor_concat (tid proto : Nat) (pkts0 : List Packet) (last : Packet)
    (h9 : proto = 9 → ∀ hd ss, Packet.v9 hd ss ∈ pkts0 ++ [last] → ∀ s ∈ ss, s.id ≠ tid)
    (h10 : proto = 10 → ∀ hd ss, Packet.ipfix hd ss ∈ pkts0 ++ [last] → ∀ s ∈ ss, s.id ≠ tid)
    (hlast : (proto = 9 ∧ ∃ body rem, last = .error (.partialParse 9 body) rem) ∨ (proto = 10 ∧ ∃ hd ss, last = .ipfix hd ss))
    (hne : ∀ p ∈ pkts0, ∀ k r, p ≠ .error k r) :
    Preds.noRecordsFor tid proto (pkts0 ++ [last]) = true := by
  unfold Preds.noRecordsFor
  simp only [Bool.and_eq_true, List.all_eq_true, List.dropLast_concat, List.getLast?_concat]
  refine ⟨⟨?_, ?_⟩, ?_⟩
  · intro x hx
    cases x with
    | v9 hd ss =>
      by_cases hp : proto = 9
      · have := h9 hp hd ss hx
        simp only [Bool.or_eq_true, List.all_eq_true]
        right; intro s hs; simpa using this s hs
      · simp [hp]
    | ipfix hd ss =>
      by_cases hp : proto = 10
      · have := h10 hp hd ss hx
        simp only [Bool.or_eq_true, List.all_eq_true]
        right; intro s hs; simpa using this s hs
      · simp [hp]
    | _ => rfl
  · rcases hlast with ⟨hp, body, rem, e⟩ | ⟨hp, hd, ss, e⟩
    · subst e hp; rfl
    · subst e hp; rfl
  · intro x hx
    cases x with
    | error k r => exact absurd rfl (hne _ hx k r)
    | _ => rfl

theorem v9SetChain_known (c : Config) (tid : Nat) : ∀ (front : List Bytes) (st st2 : PState) (ss : List V9Set),
    v9SetChain c st front = some (st2, ss) → KnownV9 st2 tid →
    KnownV9 st tid ∨ ∃ s ∈ ss, v9Defines tid s = true :=
  setChain_known fun st st1 a s hs h1 => by
    cases hd : v9Defines tid s with
    | true => exact Or.inr rfl
    | false =>
      obtain ⟨a1, a2⟩ := P1.replayV9Set_other tid st s hd
      rw [P1.v9ParseSet_ok_replay c _ _ _ _ _ hs] at h1
      unfold KnownV9 at h1 ⊢
      rw [a1, a2] at h1
      exact Or.inl h1

theorem ipSetChain_known (c : Config) (tid : Nat) : ∀ (front : List Bytes) (st st2 : PState) (ss : List IpSet),
    ipSetChain c st front = some (st2, ss) → KnownIp st2 tid →
    KnownIp st tid ∨ ∃ s ∈ ss, ipDefines tid s = true :=
  setChain_known fun st st1 a s hs h1 => by
    cases hd : ipDefines tid s with
    | true => exact Or.inr rfl
    | false =>
      obtain ⟨a1, a2⟩ := P1.replayIpSet_other tid st s hd
      rw [P1.ipParseSet_ok_replay c _ _ _ _ _ hs] at h1
      unfold KnownIp at h1 ⊢
      rw [a1, a2] at h1
      exact Or.inl h1

theorem V9UnknownAt.ne_nil {c : Config} {st st2 : PState} {p body : Bytes} {tid : Nat} {ss : List V9Set}
    (h : V9UnknownAt c st p body tid st2 ss) : p ≠ [] := by
  obtain ⟨v, _, _, _, _, _, hv, _⟩ := h
  have := (beU_some hv).1
  intro e; subst e; simp at this

theorem V9UnknownAt.data_id {c : Config} {st st2 : PState} {p body : Bytes} {tid : Nat} {ss : List V9Set}
    (h : V9UnknownAt c st p body tid st2 ss) : tid ≠ c.t.v9TemplateId ∧ tid ≠ c.t.v9OptTemplateId := by
  obtain ⟨_, _, _, _, _, _, _, _, _, _, _, _, _, _, h1, h2⟩ := h
  exact ⟨h1, h2⟩

/-- an id known in front of the unknown flowset was known at the start of the packet or is defined by one of its flowsets -/
theorem V9UnknownAt.known {c : Config} {st st2 : PState} {p body : Bytes} {tid : Nat} {ss : List V9Set}
    (h : V9UnknownAt c st p body tid st2 ss) (hk : KnownV9 st2 tid) : KnownV9 st tid ∨ ∃ s ∈ ss, v9Defines tid s = true := by
  obtain ⟨_, _, front, _, _, _, _, _, _, _, hfront, _⟩ := h
  exact v9SetChain_known c tid front _ st2 ss hfront hk

theorem IpUnknownAt.data_id {c : Config} {st st2 : PState} {p : Bytes} {hd : List Nat} {tid : Nat} {ss : List IpSet}
    (h : IpUnknownAt c st p hd tid st2 ss) : c.t.ipSetMinRange ≤ tid ∧ tid ≠ c.t.ipOptTemplateId := by
  obtain ⟨_, _, _, _, _, _, _, _, _, _, _, _, _, _, _, h1, h2⟩ := h
  exact ⟨h1, h2⟩

theorem IpUnknownAt.known {c : Config} {st st2 : PState} {p : Bytes} {hd : List Nat} {tid : Nat} {ss : List IpSet}
    (h : IpUnknownAt c st p hd tid st2 ss) (hk : KnownIp st2 tid) : KnownIp st tid ∨ ∃ s ∈ ss, ipDefines tid s = true := by
  obtain ⟨_, _, _, front, _, _, _, _, _, _, _, _, hfront, _⟩ := h
  exact ipSetChain_known c tid front _ st2 ss hfront hk

instance (st : PState) (id : Nat) : Decidable (KnownV9 st id) := by unfold KnownV9; infer_instance
instance (st : PState) (id : Nat) : Decidable (KnownIp st id) := by unfold KnownIp; infer_instance

end Netflow.C1x
