/-
  Lemmas/ReadBack.lean — helper lemmas for the C16 read-back theorem (`Props/C16c.lean`):
  the name-keyed reader `readJ` (JsonRead.lean) inverts `toJ` up to the normal form `normPkt`.
-/
import NetflowModel.JsonRead
import NetflowModel.Lemmas.JsonFaithful
namespace Netflow.P2
open Netflow Netflow.JRead Netflow.B1

@[simp] theorem optAll_map_comp {α β γ : Type} (f : β → Option γ) (g : α → β) :
    ∀ l : List α, optAll f (l.map g) = optAll (fun a => f (g a)) l
  | [] => rfl
  | a :: l => by simp only [List.map_cons, optAll, optAll_map_comp f g l]

@[simp] theorem optAll_some {α β : Type} (h : α → β) : ∀ l : List α, optAll (fun a => some (h a)) l = some (l.map h)
  | [] => rfl
  | a :: l => by simp only [optAll, optAll_some h l, List.map_cons]

theorem optAll_congr {α β : Type} {f g : α → Option β} : ∀ {l : List α}, (∀ a ∈ l, f a = g a) → optAll f l = optAll g l
  | [], _ => rfl
  | a :: l, H => by
    simp only [optAll, H a List.mem_cons_self, optAll_congr fun x hx => H x (List.mem_cons_of_mem _ hx)]

theorem optAll_map {α β γ : Type} {f : β → Option γ} {g : α → β} {h : α → γ} {l : List α}
    (H : ∀ a ∈ l, f (g a) = some (h a)) : optAll f (l.map g) = some (l.map h) := by
  rw [optAll_map_comp, optAll_congr H, optAll_some]

@[simp] theorem field_cons_self (k : String) (v : JVal) (kvs : List (String × JVal)) :
    field k (.obj ((k, v) :: kvs)) = some v := by
  simp [field, List.lookup]

@[simp] theorem field_cons_ne {k k' : String} (h : k ≠ k') (v : JVal) (kvs : List (String × JVal)) :
    field k (.obj ((k', v) :: kvs)) = field k (.obj kvs) := by
  have : (k == k') = false := by simpa using h
  simp only [field, List.lookup, this]

@[simp] theorem field_nil (k : String) : field k (.obj []) = none := rfl

@[simp] theorem fieldWith_eq {α : Type} (k : String) (g : JVal → Option α) (j : JVal) :
    fieldWith k g j = (field k j).bind g := by
  unfold fieldWith; cases field k j <;> rfl

@[simp] theorem fieldOpt_eq {α : Type} (k : String) (g : JVal → Option α) (j : JVal) :
    fieldOpt k g j = match field k j with | some v => (g v).map some | none => some none := rfl

@[simp] theorem fieldArr_eq {α : Type} (k : String) (g : JVal → Option α) (j : JVal) :
    fieldArr k g j = (field k j).bind fun v => (getArr v).bind (optAll g) := by
  unfold fieldArr fieldWith
  cases field k j with
  | none => rfl
  | some v => dsimp only [Option.bind]; cases getArr v <;> rfl

@[simp] theorem getNat_num (n : Nat) : getNat (.num (n : Int)) = some n := by
  simp [getNat]

@[simp] theorem getInt_num (z : Int) : getInt (.num z) = some z := rfl
@[simp] theorem getStr_str (b : Bytes) : getStr (.str b) = some b := rfl
@[simp] theorem getStr_strJ (s : String) : getStr (strJ s) = some (textOf s) := rfl
@[simp] theorem getStr_nameOf (tbl : List (Nat × String)) (d : Nat) : getStr (nameOf tbl d) = some (nameBytes tbl d) := rfl
@[simp] theorem getArr_arr (xs : List JVal) : getArr (.arr xs) = some xs := rfl

theorem getByte_num (x : UInt8) : getByte (.num (x.toNat : Int)) = some x := by
  have h : (x.toNat : Int) < 256 := by have := x.toNat_lt; omega
  simp [getByte, h]

@[simp] theorem getBytes_bytesJ (b : Bytes) : getBytes (bytesJ b) = some b := by
  simpa [getBytes, bytesJ, getByte_num] using optAll_some id b

@[simp] theorem getTagged_one (t : String) (v : JVal) : getTagged (.obj [(t, v)]) = some (t, v) := rfl

@[simp] theorem readScalar_num (n : Nat) : readScalar (.num (n : Int)) = some (.nat n) := by
  simp [readScalar]

@[simp] theorem readScalar_strJ (s : String) : readScalar (strJ s) = some (.text (textOf s)) := rfl
@[simp] theorem readScalar_nameOf (tbl : List (Nat × String)) (d : Nat) :
    readScalar (nameOf tbl d) = some (.text (nameBytes tbl d)) := rfl

theorem dataNumberJ_dnInt (d : DataNumber) : dataNumberJ d = .num (dnInt d) := by cases d <;> rfl

theorem readFieldValue_J (nm : JNames) (v : FieldValue) :
    readFieldValue (fieldValueJ nm v) = some (normFieldValue nm v) := by
  cases v <;> simp [readFieldValue, fieldValueJ, normFieldValue, dataNumberJ_dnInt]

theorem keyNat_toString (n : Nat) : keyNat (toString n) = some n := by
  have h2 : (Nat.toDigits 10 n).all Char.isDigit = true := by
    rw [List.all_eq_true]
    intro c hc
    exact Nat.isDigit_of_mem_toDigits (by decide) (by decide) hc
  simp only [keyNat, toString_toList, h2, ne_eq, Nat.toDigits_ne_nil, not_false_eq_true, and_self, ↓reduceIte,
    Nat.ofDigitChars_ten_toDigits]

theorem readEntry_J (nm : JNames) (names : List (Nat × String)) (d : Nat) (v : FieldValue) :
    readEntry (.arr [nameOf names d, fieldValueJ nm v]) = some (nameBytes names d, normFieldValue nm v) := by
  simp only [readEntry, getStr_nameOf, readFieldValue_J]

/-- strictly ascending indices (what a `BTreeMap<usize, _>` iterates) -/
def KeysAsc (r : Rec) : Prop := (r.map (·.1)).Pairwise (· < ·)

/-- the entries of a record object, inserted one by one into the index-sorted map -/
def foldEntries (nm : JNames) (names : List (Nat × String)) (r : Rec) : NRec :=
  r.foldr (fun e acc => amInsert e.1 (nameBytes names e.2.1, normFieldValue nm e.2.2) acc) []

theorem readMembers_fold (nm : JNames) (names : List (Nat × String)) (r : Rec) :
    readRec (recJ nm names r) = some (foldEntries nm names r) := by
  simp only [readRec, recJ, foldEntries]
  induction r with
  | nil => rfl
  | cons e r ih => simp only [List.map_cons, readMembers, keyNat_toString, readEntry_J, ih, List.foldr_cons]

/-- inserting ascending keys from the right only ever prepends -/
theorem foldEntries_of_asc (nm : JNames) (names : List (Nat × String)) :
    ∀ {r : Rec}, KeysAsc r → foldEntries nm names r = normRecN nm names r
  | [], _ => rfl
  | e :: r, h => by
    simp only [KeysAsc, List.map_cons, List.pairwise_cons] at h
    rw [foldEntries, List.foldr_cons, ← foldEntries, foldEntries_of_asc nm names h.2]
    cases r with
    | nil => rfl
    | cons e' r' =>
      have : e.1 < e'.1 := h.1 _ (by simp)
      simp [normRecN, amInsert, this]

theorem readRec_J (nm : JNames) (names : List (Nat × String)) (r : Rec) (h : KeysAsc r) :
    readRec (recJ nm names r) = some (normRecN nm names r) := by
  rw [readMembers_fold, foldEntries_of_asc nm names h]

theorem readScalar_lfieldJ (nm : JNames) (f : LField) (v : Nat) :
    readScalar (lfieldJ nm f v) = some (normLField nm f v) := by
  unfold lfieldJ normLField
  cases f.kind <;> simp only [readScalar_nameOf]
  all_goals (split <;> simp)

/-- a struct object is read back member by member, each found by its name, whenever the layout's field names are
    pairwise distinct and there is one value per field -/
theorem readStruct_J (nm : JNames) (lay : Layout) (vals : List Nat) (hn : (lay.map (·.name)).Nodup)
    (hl : vals.length = lay.length) :
    readStruct (lay.map (·.name)) (layoutJ nm lay vals) = some (normStruct nm lay vals) := by
  have hz : lay.map (·.name) = (lay.zip vals).map (fun p => p.1.name) := by
    have : (lay.zip vals).map (fun p => p.1.name) = ((lay.zip vals).map Prod.fst).map (·.name) := by
      simp [List.map_map]
    rw [this, List.map_fst_zip (by omega)]
  rw [layoutJ_eq, readStruct, normStruct, hz]
  apply optAll_map
  intro p hp
  have hk : (((lay.zip vals).map fun p => (p.1.name, lfieldJ nm p.1 p.2)).map (·.1)).Nodup := by
    rw [List.map_map]
    have : ((fun x : String × JVal => x.1) ∘ fun p : LField × Nat => (p.1.name, lfieldJ nm p.1 p.2)) =
        fun p => p.1.name := rfl
    rw [this, ← hz]; exact hn
  have hm : (p.1.name, lfieldJ nm p.1 p.2) ∈ (lay.zip vals).map fun p => (p.1.name, lfieldJ nm p.1 p.2) :=
    List.mem_map.mpr ⟨p, hp, rfl⟩
  simp only [fieldWith, field, lookup_of_mem hk hm, readScalar_lfieldJ, Option.map_some]

theorem readTField_J (names : List (Nat × String)) (disc : Nat → Nat) (f : TField) :
    readTField (tfieldJ names disc f) = some (normTField names disc f) := by
  simp [readTField, tfieldJ, normTField]

theorem readTField_ipJ (c : Config) (nm : JNames) (f : IpTField) :
    readTField (ipTFieldJ c nm f) = some (normIpTField c nm f) := by
  obtain ⟨t, l, e⟩ := f
  cases e <;> simp [readTField, ipTFieldJ, normIpTField]

/-- every record of every data body has strictly ascending indices -/
def V9Asc : V9Body → Prop
  | .data recs _ => ∀ r ∈ recs, KeysAsc r
  | _ => True

def IpAsc : IpBody → Prop
  | .data recs _ => ∀ r ∈ recs, KeysAsc r
  | .optData recs _ => ∀ r ∈ recs, KeysAsc r
  | _ => True

theorem readV9Body_J (c : Config) (nm : JNames) (b : V9Body) (h : V9Asc b) :
    readV9Body (v9BodyJ c nm b) = some (normV9Body c nm b) := by
  cases b with
  | templates ts pad => simp [readV9Body, v9BodyJ, normV9Body, readV9Template, readTField_J]
  | optTemplates ts pad => simp [readV9Body, v9BodyJ, normV9Body, readV9OptTemplate, readTField_J]
  | data recs pad =>
    simp [readV9Body, v9BodyJ, normV9Body, optAll_congr fun r hr => readRec_J nm nm.v9Field r (h r hr)]
  | optData ss os pad => simp [readV9Body, v9BodyJ, normV9Body, readScopeData, readOptionData]

theorem readIpBody_J (c : Config) (nm : JNames) (b : IpBody) (h : IpAsc b) :
    readIpBody (ipBodyJ c nm b) = some (normIpBody c nm b) := by
  cases b with
  | template t => simp [readIpBody, ipBodyJ, normIpBody, readTField_ipJ]
  | optTemplate t => simp [readIpBody, ipBodyJ, normIpBody, readTField_ipJ]
  | data recs pad =>
    simp [readIpBody, ipBodyJ, normIpBody, optAll_congr fun r hr => readRec_J nm nm.ipField r (h r hr)]
  | optData recs pad =>
    simp [readIpBody, ipBodyJ, normIpBody, optAll_congr fun r hr => readRec_J nm nm.ipField r (h r hr)]

theorem readErrKind_J (k : ErrKind) : readErrKind (errKindJ k) = some (normErr k) := by
  cases k <;> simp [readErrKind, errKindJ, normErr]

/-- the Rust field names of each of the six derive(Nom) structs are pairwise distinct -/
structure SchemaOk (c : Config) : Prop where
  v5Hdr : (c.t.v5Hdr.map (·.name)).Nodup
  v5Rec : (c.t.v5Rec.map (·.name)).Nodup
  v7Hdr : (c.t.v7Hdr.map (·.name)).Nodup
  v7Rec : (c.t.v7Rec.map (·.name)).Nodup
  v9Hdr : (c.t.v9Hdr.map (·.name)).Nodup
  ipHdr : (c.t.ipHdr.map (·.name)).Nodup

theorem layoutWf_length {nm : JNames} {lay : Layout} {vals : List Nat} (h : layoutWf nm lay vals = true) :
    vals.length = lay.length := by
  simp only [layoutWf, Bool.and_eq_true, beq_iff_eq] at h
  exact h.1

theorem readHdrSets_J {α β γ : Type} {rh : JVal → Option α} {rs : JVal → Option β} {hj : JVal} {ha : α}
    {l : List γ} {g : γ → JVal} {f : γ → β} (h1 : rh hj = some ha) (h2 : ∀ x ∈ l, rs (g x) = some (f x)) :
    readHdrSets rh rs (.obj [("header", hj), ("flowsets", .arr (l.map g))]) = some (ha, l.map f) := by
  simp [readHdrSets, h1, optAll_congr h2]

/-- READ-BACK, parametric form: for any tables whose struct field names are pairwise distinct, any packet with one
    value per struct field (`pktWf`) and index-sorted records, the name-keyed reader applied to the JSON tree of the
    packet returns the packet's normal form. -/
theorem readJ_toJ (c : Config) (nm : JNames) (hs : SchemaOk c) (p : Packet) (hw : pktWf c nm p = true)
    (hk : PktAll V9Asc IpAsc p) : readJ (schemaOf c) (toJ c nm p) = some (normPkt c nm p) := by
  cases p with
  | v5 h rs =>
    simp only [pktWf, Bool.and_eq_true, List.all_eq_true] at hw
    simp [readJ, toJ, normPkt]
    exact readHdrSets_J (readStruct_J nm c.t.v5Hdr h hs.v5Hdr (layoutWf_length hw.1))
      fun r hr => readStruct_J nm c.t.v5Rec r hs.v5Rec (layoutWf_length (hw.2 r hr))
  | v7 h rs =>
    simp only [pktWf, Bool.and_eq_true, List.all_eq_true] at hw
    simp [readJ, toJ, normPkt]
    exact readHdrSets_J (readStruct_J nm c.t.v7Hdr h hs.v7Hdr (layoutWf_length hw.1))
      fun r hr => readStruct_J nm c.t.v7Rec r hs.v7Rec (layoutWf_length (hw.2 r hr))
  | v9 h ss =>
    simp only [pktWf, Bool.and_eq_true, List.all_eq_true] at hw
    simp [readJ, toJ, normPkt]
    exact readHdrSets_J (readStruct_J nm c.t.v9Hdr h hs.v9Hdr (layoutWf_length hw.1))
      fun s hs' => by simp [readV9Set, readV9Body_J c nm s.body (hk s hs')]
  | ipfix h ss =>
    simp only [pktWf, Bool.and_eq_true, List.all_eq_true] at hw
    simp [readJ, toJ, normPkt]
    exact readHdrSets_J (readStruct_J nm c.t.ipHdr h hs.ipHdr (layoutWf_length hw.1))
      fun s hs' => by simp [readIpSet, readIpBody_J c nm s.body (hk s hs')]
  | error k rem => simp [readJ, toJ, normPkt, readErrKind_J]

theorem v9Asc_of_keysOk {b : V9Body} (h : V9KeysOk b) : V9Asc b := by
  cases b with
  | data recs pad =>
    obtain ⟨n, hn⟩ := h
    intro r hr
    rw [KeysAsc, hn r hr]
    exact List.pairwise_lt_range
  | _ => trivial

theorem singleton_of_mem_ipBlocks {n k : Nat} {l : List Nat} (h : l ∈ ipBlocks n k) : ∃ j, l = [j] := by
  simp only [ipBlocks, List.mem_flatten, List.mem_replicate] at h
  obtain ⟨bl, ⟨_, rfl⟩, hl⟩ := h
  obtain ⟨j, _, rfl⟩ := List.mem_map.mp hl
  exact ⟨j, rfl⟩

theorem keysAsc_of_blocks {recs : List Rec} {n k : Nat} (h : recs.map (fun m => m.map (·.1)) = ipBlocks n k) :
    ∀ r ∈ recs, KeysAsc r := by
  intro r hr
  have : r.map (·.1) ∈ ipBlocks n k := by
    rw [← h]; exact List.mem_map.mpr ⟨r, hr, rfl⟩
  obtain ⟨j, hj⟩ := singleton_of_mem_ipBlocks this
  unfold KeysAsc
  rw [hj]
  simp

theorem ipAsc_of_keysOk {b : IpBody} (h : IpKeysOk b) : IpAsc b := by
  cases b with
  | data recs pad => obtain ⟨n, k, hk⟩ := h; exact keysAsc_of_blocks hk
  | optData recs pad => obtain ⟨n, k, hk⟩ := h; exact keysAsc_of_blocks hk
  | _ => trivial

theorem pktAll_asc {p : Packet} (h : PktAll V9KeysOk IpKeysOk p) : PktAll V9Asc IpAsc p := by
  cases p with
  | v9 hd ss => exact fun s hs => v9Asc_of_keysOk (h s hs)
  | ipfix hd ss => exact fun s hs => ipAsc_of_keysOk (h s hs)
  | _ => trivial

/-! ### the normal form forgets nothing but paddings and width tags

  `writeN` writes a normal form as a JSON tree; `writeN (normPkt p) = toJ p`, so `toJ` factors through the normal
  form and (with `B1.toJ_inj`) two well-formed packets with the same normal form agree up to `B1.jnorm`. -/

def ofNVal : NVal → JVal
  | .nat n => .num n
  | .text b => .str b

def ofStruct (s : NStruct) : JVal := .obj (s.map fun p => (p.1, ofNVal p.2))

def ofFieldValue : NFieldValue → JVal
  | .str s => .obj [("String", .str s)]
  | .num z => .obj [("DataNumber", .num z)]
  | .f64 b => .obj [("Float64", .f64 b)]
  | .dur s ns => .obj [("Duration", .obj [("secs", .num s), ("nanos", .num ns)])]
  | .ip4 t => .obj [("Ip4Addr", .str t)]
  | .ip6 t => .obj [("Ip6Addr", .str t)]
  | .mac t => .obj [("MacAddr", .str t)]
  | .vec b => .obj [("Vec", bytesJ b)]
  | .proto n => .obj [("ProtocolType", .str n)]
  | .unknown b => .obj [("Unknown", bytesJ b)]

def ofRec (r : NRec) : JVal := .obj (r.map fun e => (toString e.1, .arr [.str e.2.1, ofFieldValue e.2.2]))

def ofTField (f : NTField) : JVal :=
  .obj ([("field_type_number", .num f.typ), ("field_type", .str f.name), ("field_length", .num f.len)] ++
        (match f.ent with | some e => [("enterprise_number", JVal.num e)] | none => []))

def ofV9Body : NV9Body → JVal
  | .templates ts =>
    .obj [("Template", .obj [("templates", .arr (ts.map fun t =>
      .obj [("template_id", .num t.id), ("field_count", .num t.fieldCount), ("fields", .arr (t.fields.map ofTField))]))])]
  | .optTemplates ts =>
    .obj [("OptionsTemplate", .obj [("templates", .arr (ts.map fun t =>
      .obj [("template_id", .num t.id), ("options_scope_length", .num t.scopeLen), ("options_length", .num t.optLen),
            ("scope_fields", .arr (t.scope.map ofTField)), ("option_fields", .arr (t.opts.map ofTField))]))])]
  | .data recs => .obj [("Data", .obj [("fields", .arr (recs.map ofRec))])]
  | .optData ss os =>
    .obj [("OptionsData", .obj [
      ("scope_fields", .arr (ss.map fun s => .obj [(s.1, bytesJ s.2)])),
      ("options_fields", .arr (os.map fun o => .obj [("field_type", .str o.1), ("field_value", bytesJ o.2)]))])]

def ofIpBody : NIpBody → JVal
  | .template i n fs =>
    .obj [("Template", .obj [("template_id", .num i), ("field_count", .num n), ("fields", .arr (fs.map ofTField))])]
  | .optTemplate i n sc fs =>
    .obj [("OptionsTemplate", .obj [("template_id", .num i), ("field_count", .num n), ("scope_field_count", .num sc),
                                    ("fields", .arr (fs.map ofTField))])]
  | .data recs => .obj [("Data", .obj [("fields", .arr (recs.map ofRec))])]
  | .optData recs => .obj [("OptionsData", .obj [("fields", .arr (recs.map ofRec))])]

def ofErr : NErr → JVal
  | .incomplete => .obj [("Incomplete", .anyStr)]
  | .partialParse v rem => .obj [("Partial", .obj [("version", .num v), ("remaining", bytesJ rem), ("error", .anyStr)])]
  | .unknownVersion rem => .obj [("UnknownVersion", bytesJ rem)]

/-- a writer of normal forms (error messages, which the normal form does not keep, as the wildcard) -/
def writeN : NormPkt → JVal
  | .v5 h rs => .obj [("V5", .obj [("header", ofStruct h), ("flowsets", .arr (rs.map ofStruct))])]
  | .v7 h rs => .obj [("V7", .obj [("header", ofStruct h), ("flowsets", .arr (rs.map ofStruct))])]
  | .v9 h ss =>
    .obj [("V9", .obj [("header", ofStruct h),
      ("flowsets", .arr (ss.map fun s =>
        .obj [("header", .obj [("flowset_id", .num s.id), ("length", .num s.len)]), ("body", ofV9Body s.body)]))])]
  | .ipfix h ss =>
    .obj [("IPFix", .obj [("header", ofStruct h),
      ("flowsets", .arr (ss.map fun s =>
        .obj [("header", .obj [("header_id", .num s.id), ("length", .num s.len)]), ("body", ofIpBody s.body)]))])]
  | .error k rem => .obj [("Error", .obj [("error", ofErr k), ("remaining", bytesJ rem)])]

theorem str_nameBytes (tbl : List (Nat × String)) (d : Nat) : JVal.str (nameBytes tbl d) = nameOf tbl d := rfl
theorem str_textOf (s : String) : JVal.str (textOf s) = strJ s := rfl

theorem ofNVal_normLField (nm : JNames) (f : LField) (v : Nat) : ofNVal (normLField nm f v) = lfieldJ nm f v := by
  unfold normLField lfieldJ
  cases f.kind
  case protoOf => rfl
  all_goals
    by_cases hc : nm.ipv4Fields.contains f.name = true
    · simp only [hc, ↓reduceIte, ofNVal, str_textOf]
    · simp only [hc, Bool.false_eq_true, ↓reduceIte, ofNVal]

theorem ofStruct_normStruct (nm : JNames) (lay : Layout) (vals : List Nat) :
    ofStruct (normStruct nm lay vals) = layoutJ nm lay vals := by
  simp [ofStruct, normStruct, layoutJ_eq, List.map_map, Function.comp_def, ofNVal_normLField]

theorem ofFieldValue_norm (nm : JNames) (v : FieldValue) : ofFieldValue (normFieldValue nm v) = fieldValueJ nm v := by
  cases v <;> simp [ofFieldValue, normFieldValue, fieldValueJ, dataNumberJ_dnInt] <;> rfl

theorem ofRec_norm (nm : JNames) (names : List (Nat × String)) (r : Rec) :
    ofRec (normRecN nm names r) = recJ nm names r := by
  simp only [ofRec, normRecN, recJ, List.map_map, Function.comp_def, ofFieldValue_norm]
  rfl

theorem ofTField_norm (names : List (Nat × String)) (disc : Nat → Nat) (f : TField) :
    ofTField (normTField names disc f) = tfieldJ names disc f := rfl

theorem ofTField_normIp (c : Config) (nm : JNames) (f : IpTField) :
    ofTField (normIpTField c nm f) = ipTFieldJ c nm f := rfl

theorem ofV9Body_norm (c : Config) (nm : JNames) (b : V9Body) : ofV9Body (normV9Body c nm b) = v9BodyJ c nm b := by
  cases b <;>
    simp [ofV9Body, normV9Body, v9BodyJ, List.map_map, Function.comp_def, ofTField_norm, ofRec_norm, str_nameBytes]

theorem ofIpBody_norm (c : Config) (nm : JNames) (b : IpBody) : ofIpBody (normIpBody c nm b) = ipBodyJ c nm b := by
  cases b <;>
    simp [ofIpBody, normIpBody, ipBodyJ, List.map_map, Function.comp_def, ofTField_normIp, ofRec_norm]

theorem ofErr_norm (k : ErrKind) : ofErr (normErr k) = errKindJ k := by cases k <;> rfl

/-- `toJ` factors through the normal form -/
theorem writeN_normPkt (c : Config) (nm : JNames) (p : Packet) : writeN (normPkt c nm p) = toJ c nm p := by
  cases p <;>
    simp [writeN, normPkt, toJ, List.map_map, Function.comp_def, ofStruct_normStruct, ofV9Body_norm, ofIpBody_norm,
      ofErr_norm]

theorem dnInt_eq_dnVal (d : DataNumber) : dnInt d = dnVal d := by cases d <;> rfl

theorem normFieldValue_normFv (nm : JNames) (v : FieldValue) : normFieldValue nm (normFv v) = normFieldValue nm v := by
  cases v <;> simp [normFv, normFieldValue, dnInt_eq_dnVal, dnVal_normDn]

theorem normRecN_normRec (nm : JNames) (names : List (Nat × String)) (r : Rec) :
    normRecN nm names (normRec r) = normRecN nm names r := by
  simp [normRecN, normRec, List.map_map, Function.comp_def, normFieldValue_normFv]

theorem normV9Body_jnorm (c : Config) (nm : JNames) (b : V9Body) : normV9Body c nm (numV9 (padV9 b)) = normV9Body c nm b := by
  cases b <;> simp [padV9, numV9, normV9Body, List.map_map, Function.comp_def, normRecN_normRec]

theorem normIpBody_jnorm (c : Config) (nm : JNames) (b : IpBody) : normIpBody c nm (numIp (padIp b)) = normIpBody c nm b := by
  cases b <;> simp [padIp, numIp, normIpBody, List.map_map, Function.comp_def, normRecN_normRec]

theorem normPkt_jnorm (c : Config) (nm : JNames) (p : Packet) : normPkt c nm (jnorm p) = normPkt c nm p := by
  cases p <;>
    simp [jnorm, erasePads, forgetWidths, normPkt, List.map_map, Function.comp_def, normV9Body_jnorm, normIpBody_jnorm]

theorem lookup_perm {β : Type} {l l' : List (String × β)} (hp : l.Perm l') (hn : (l.map (·.1)).Nodup) (a : String) :
    l.lookup a = l'.lookup a := by
  have hn' : (l'.map (·.1)).Nodup := (hp.map _).nodup_iff.mp hn
  cases h : l.lookup a with
  | some b => exact (lookup_of_mem hn' (hp.mem_iff.mp (lookup_mem h))).symm
  | none =>
    cases h' : l'.lookup a with
    | none => rfl
    | some b =>
      have := lookup_of_mem hn (hp.mem_iff.mpr (lookup_mem h'))
      rw [h] at this
      cases this

/-- a member is found wherever it stands -/
theorem field_perm {kvs kvs' : List (String × JVal)} (hp : kvs.Perm kvs') (hn : (kvs.map (·.1)).Nodup) (k : String) :
    field k (.obj kvs) = field k (.obj kvs') :=
  lookup_perm hp hn k

theorem readStruct_perm (names : List String) {kvs kvs' : List (String × JVal)} (hp : kvs.Perm kvs')
    (hn : (kvs.map (·.1)).Nodup) : readStruct names (.obj kvs) = readStruct names (.obj kvs') := by
  unfold readStruct
  congr 1
  funext n
  simp only [fieldWith, field_perm hp hn n]

/-- whatever order the members of a record object are written in, the reader returns the index-sorted record -/
theorem readRec_perm (nm : JNames) (names : List (Nat × String)) (r r' : Rec) (hp : r'.Perm r) (h : KeysAsc r) :
    readRec (recJ nm names r') = some (normRecN nm names r) := by
  have hn : (r.map (·.1)).Nodup := by
    unfold KeysAsc at h
    exact h.imp (fun hlt => Nat.ne_of_lt hlt)
  have hn' : (r'.map (·.1)).Nodup := (hp.map _).nodup_iff.mpr hn
  have e : foldEntries nm names r' = foldEntries nm names r := by
    unfold foldEntries
    apply hp.foldr_eq'
    intro x hx y hy z
    by_cases hk : x.1 = y.1
    · rw [eq_of_map_nodup hn' x hx y hy hk]
    · exact (amInsert_comm hk _ _ z).symm
  rw [readMembers_fold, e, ← readMembers_fold, readRec_J nm names r h]

end Netflow.P2
