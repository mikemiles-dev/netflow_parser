/-
  Lemmas/Records.lean — what a decoded record is, said once: every entry of a V9 record / every single-entry map of an
  IPFIX record comes from one field of the governing template, carries that field's index and discriminant, and its
  value is what `parseValue` made of some bytes (or the raw bytes of an enterprise field).  The record loops only collect
  such records, and the data bodies are what the loops return.  Properties of decoded values and keys (kinds, ranges,
  UTF-8, exportability, JSON names, …) are corollaries, drawn where they are used
  (Lemmas/JsonFaithful.lean, ExportRange.lean, Feature.lean, Props/C13b.lean).
-/
import NetflowModel.Lemmas.Inversion
namespace Netflow

/-! ## one value -/

/-- an IPFIX value is the raw bytes of an enterprise field, or `parseValue` at the (possibly variable) length -/
theorem ipParseValue_cases {c : Config} {f : IpTField} {i r : Bytes} {v : FieldValue} (h : ipParseValue c f i = some (v, r)) :
    ∃ len r1, ipFieldLength f i = some (len, r1) ∧
      ((f.ent.isSome = true ∧ ∃ b, takeN len r1 = some (b, r) ∧ v = .vec b) ∨
       (f.ent = none ∧ parseValue c.vc (c.t.ipTy (c.t.ipField f.typ)) len r1 = some (v, r))) := by
  unfold ipParseValue at h
  split at h
  · cases h
  · next len r1 hl =>
    refine ⟨len, r1, hl, ?_⟩
    split at h
    · next e he =>
      split at h
      · cases h
      · next b r' ht => cases h; exact Or.inl ⟨by rw [he]; rfl, b, ht, rfl⟩
    · next he => exact Or.inr ⟨he, h⟩

/-- a field value the record parsers can produce: a result of `parseValue`, or the raw bytes of an enterprise field -/
def Decoded (c : Config) (v : FieldValue) : Prop :=
  (∃ ty len i r, parseValue c.vc ty len i = some (v, r)) ∨ ∃ b, v = .vec b

theorem ipParseValue_decoded {c : Config} {f : IpTField} {i : Bytes} {v : FieldValue} {r : Bytes}
    (h : ipParseValue c f i = some (v, r)) : Decoded c v := by
  obtain ⟨len, r1, _, ⟨_, b, _, rfl⟩ | ⟨_, hp⟩⟩ := ipParseValue_cases h
  · exact .inr ⟨b, rfl⟩
  · exact .inl ⟨_, _, _, _, hp⟩

/-! ## one record -/

/-- every entry of a V9 record is the value of one template field, decoded by `parseValue` at the library type of its
    discriminant and the field's declared length -/
theorem v9ParseRec_mem {c : Config} : ∀ {fs : List TField} {idx : Nat} {i r : Bytes} {rec : Rec},
    v9ParseRec c fs idx i = some (rec, r) → ∀ e ∈ rec, ∃ f ∈ fs, e.2.1 = c.t.v9Field f.typ ∧
      ∃ i r, parseValue c.vc (c.t.v9Ty e.2.1) f.len i = some (e.2.2, r)
  | [], _, _, _, _, h, _, he => by cases h; cases he
  | f :: fs, _, i, _, _, h, e, he => by
    obtain ⟨v, r1, es, hv, hr, rfl⟩ := v9ParseRec_cons.mp h
    rcases List.mem_cons.mp he with rfl | he
    · exact ⟨f, List.mem_cons_self, rfl, i, r1, hv⟩
    · obtain ⟨f', hf', x⟩ := v9ParseRec_mem hr e he
      exact ⟨f', List.mem_cons_of_mem _ hf', x⟩

/-- **V9 record**: indices count up from `idx`, discriminants are the template's in order, every value was decoded -/
theorem v9ParseRec_spec (c : Config) : ∀ (fields : List TField) (idx : Nat) (i : Bytes) (rec : Rec) (r : Bytes),
    v9ParseRec c fields idx i = some (rec, r) →
    rec.map (·.1) = List.range' idx fields.length ∧ rec.map (·.2.1) = fields.map (fun f => c.t.v9Field f.typ) ∧
    ∀ e ∈ rec, Decoded c e.2.2
  | [], idx, i, rec, r, h => by
    cases h
    exact ⟨rfl, rfl, fun _ he => nomatch he⟩
  | f :: fs, idx, i, rec, r, h => by
    have hd (e : Entry) (he : e ∈ rec) : Decoded c e.2.2 :=
      have ⟨_, _, _, _, _, hp⟩ := v9ParseRec_mem h e he
      .inl ⟨_, _, _, _, hp⟩
    obtain ⟨v, r1, es, hv, hr, rfl⟩ := v9ParseRec_cons.mp h
    obtain ⟨h1, h2, _⟩ := v9ParseRec_spec c fs _ _ _ _ hr
    exact ⟨by simp [h1, List.range'_succ], by simp [h2], hd⟩

/-- every map of an IPFIX record is the single entry of one template field, its value decoded by `ipParseValue` -/
theorem ipParseRec_mem {c : Config} : ∀ {fs : List IpTField} {idx : Nat} {i r : Bytes} {recs : List Rec},
    ipParseRec c fs idx i = some (recs, r) → ∀ m ∈ recs, ∃ f ∈ fs, ∃ k v i r,
      ipParseValue c f i = some (v, r) ∧ m = [(k, ipFieldDisc c f, v)]
  | [], _, _, _, _, h, _, hm => by cases h; cases hm
  | f :: fs, idx, i, _, _, h, m, hm => by
    obtain ⟨v, r1, es, hv, hr, rfl⟩ := ipParseRec_cons.mp h
    rcases List.mem_cons.mp hm with rfl | hm
    · exact ⟨f, List.mem_cons_self, idx, v, i, r1, hv, rfl⟩
    · obtain ⟨f', hf', x⟩ := ipParseRec_mem hr m hm
      exact ⟨f', List.mem_cons_of_mem _ hf', x⟩

/-- **IPFIX record**: one single-entry map per template field, in order -/
theorem ipParseRec_spec (c : Config) : ∀ (fields : List IpTField) (idx : Nat) (i : Bytes) (recs : List Rec) (r : Bytes),
    ipParseRec c fields idx i = some (recs, r) →
    recs.map (fun m => m.map (·.1)) = (List.range' idx fields.length).map (fun k => [k]) ∧
    recs.map (fun m => m.map (·.2.1)) = fields.map (fun f => [ipFieldDisc c f]) ∧
    ∀ m ∈ recs, ∀ e ∈ m, (∃ f, e.2.1 = ipFieldDisc c f) ∧ Decoded c e.2.2
  | [], idx, i, recs, r, h => by
    cases h
    exact ⟨rfl, rfl, fun _ hm => nomatch hm⟩
  | f :: fs, idx, i, recs, r, h => by
    have hd (m : Rec) (hm : m ∈ recs) (e : Entry) (he : e ∈ m) : (∃ f, e.2.1 = ipFieldDisc c f) ∧ Decoded c e.2.2 := by
      obtain ⟨f', _, k, v, i', r', hv, rfl⟩ := ipParseRec_mem h m hm
      rw [List.mem_singleton.mp he]
      exact ⟨⟨f', rfl⟩, ipParseValue_decoded hv⟩
    obtain ⟨v, r1, es, hv, hr, rfl⟩ := ipParseRec_cons.mp h
    obtain ⟨h1, h2, _⟩ := ipParseRec_spec c fs _ _ _ _ hr
    exact ⟨by simp [h1, List.range'_succ], by simp [h2], hd⟩

/-! ## the record loops and the set bodies -/

theorem v9RecLoop_all (c : Config) (fs : List TField) (P : Rec → Prop)
    (hP : ∀ i rec r, v9ParseRec c fs 0 i = some (rec, r) → P rec) :
    ∀ (n : Nat) (i : Bytes) (acc : List Rec), (∀ x ∈ acc, P x) → ∀ x ∈ (v9RecLoop c fs n i acc).1, P x
  | 0, _, _, h => h
  | n + 1, i, acc, h => by
    cases hr : v9ParseRec c fs 0 i with
    | none => rw [v9RecLoop_succ_none hr]; exact v9RecLoop_all c fs P hP n i acc h
    | some x =>
      rw [v9RecLoop_succ_some hr]
      refine v9RecLoop_all c fs P hP n _ _ fun y hy => ?_
      rcases List.mem_append.mp hy with hy | hy
      · exact h y hy
      · rw [List.mem_singleton.mp hy]; exact hP _ _ _ hr

/-- what holds of every run of maps one `ipParseRec` returns, and of concatenations, holds of the loop's result -/
theorem ipRecLoop_ind {c : Config} {fs : List IpTField} {P : List Rec → Prop}
    (h1 : ∀ i es r, ipParseRec c fs 0 i = some (es, r) → P es) (happ : ∀ es more, P es → P more → P (es ++ more)) :
    ∀ (fuel : Nat) (i : Bytes) (recs : List Rec) (r : Bytes), ipRecLoop c fs fuel i = .ok (recs, r) → P recs
  | 0, _, _, _, h => nomatch h
  | fuel + 1, i, recs, r, h => by
    obtain ⟨es, r1, hp, ⟨_, rfl, _⟩ | ⟨_, _, more, hm, rfl⟩⟩ := ipRecLoop_ok_inv h
    · exact h1 _ _ _ hp
    · exact happ _ _ (h1 _ _ _ hp) (ipRecLoop_ind h1 happ fuel _ _ _ hm)

theorem ipRecLoop_forall {c : Config} {fs : List IpTField} {Q : Rec → Prop}
    (h1 : ∀ i es r, ipParseRec c fs 0 i = some (es, r) → ∀ m ∈ es, Q m) {fuel : Nat} {i : Bytes} {recs : List Rec}
    {r : Bytes} (h : ipRecLoop c fs fuel i = .ok (recs, r)) : ∀ m ∈ recs, Q m :=
  ipRecLoop_ind (P := fun recs => ∀ m ∈ recs, Q m) h1
    (fun _ _ ha hb m hm => (List.mem_append.mp hm).elim (ha m) (hb m)) fuel i recs r h

/-- the data records of a decoded V9 flowset come from the record loop over one template's fields -/
theorem v9ParseBody_data {c : Config} {st st' : PState} {id : Nat} {body : Bytes} {recs : List Rec} {pad : Bytes}
    (h : v9ParseBody c st id body = (st', .ok (.data recs pad))) :
    ∃ fs n, recs = (v9RecLoop c fs n body []).1 := by
  rcases v9ParseBody_ok_inv h with ⟨_, _, _, _, _, e⟩ | ⟨_, _, _, _, _, _, e⟩ | ⟨_, _, _, _, _, _, _, _, _, _, _, e⟩ |
    ⟨_, _, _, _, t, _, _, e⟩
  · cases e
  · cases e
  · cases e
  · cases e; exact ⟨_, _, rfl⟩

/-- the records of a decoded IPFIX data or options-data set come from the record loop over one template's fields -/
theorem ipParseBody_data {c : Config} {st st' : PState} {id : Nat} {body : Bytes} {b : IpBody} {recs : List Rec}
    {pad : Bytes} (h : ipParseBody c st id body = (st', .ok b)) (hb : b = .data recs pad ∨ b = .optData recs pad) :
    ∃ fs fuel, ipRecLoop c fs fuel body = .ok (recs, pad) := by
  rcases ipParseBody_ok_inv h with ⟨_, _, _, _, _, _, e⟩ | ⟨_, _, _, _, _, e⟩ |
    ⟨_, _, _, fs, recs', pad', _, hl, ⟨_, _, _, e⟩ | ⟨_, _, _, _, e⟩⟩
  · rcases hb with hb | hb <;> rw [hb] at e <;> cases e
  · rcases hb with hb | hb <;> rw [hb] at e <;> cases e
  · rcases hb with hb | hb <;> rw [hb] at e <;> cases e
    exact ⟨_, _, hl⟩
  · rcases hb with hb | hb <;> rw [hb] at e <;> cases e
    exact ⟨_, _, hl⟩

/-- what holds of every record `v9ParseRec` returns holds of the data records of a V9 flowset -/
theorem v9ParseBody_recs {c : Config} {P : Rec → Prop} (hP : ∀ fs i rec r, v9ParseRec c fs 0 i = some (rec, r) → P rec)
    {st st' : PState} {id : Nat} {body : Bytes} {recs : List Rec} {pad : Bytes}
    (h : v9ParseBody c st id body = (st', .ok (.data recs pad))) : ∀ rec ∈ recs, P rec := by
  obtain ⟨fs, n, rfl⟩ := v9ParseBody_data h
  exact v9RecLoop_all c fs P (hP fs) _ _ _ (fun _ h => nomatch h)

/-- … and what holds of every map `ipParseRec` returns, of the records of an IPFIX data or options-data set -/
theorem ipParseBody_recs {c : Config} {P : Rec → Prop}
    (hP : ∀ fs i es r, ipParseRec c fs 0 i = some (es, r) → ∀ m ∈ es, P m) {st st' : PState} {id : Nat}
    {body : Bytes} {b : IpBody} {recs : List Rec} {pad : Bytes} (h : ipParseBody c st id body = (st', .ok b))
    (hb : b = .data recs pad ∨ b = .optData recs pad) : ∀ m ∈ recs, P m := by
  obtain ⟨fs, fuel, hl⟩ := ipParseBody_data h hb
  exact ipRecLoop_forall (hP fs) hl

/-- a property of every decoded value holds of every value in the data records of a V9 flowset -/
theorem v9ParseBody_values {c : Config} {Q : FieldValue → Prop} (hQ : ∀ v, Decoded c v → Q v) {st st' : PState} {id : Nat}
    {body : Bytes} {recs : List Rec} {pad : Bytes} (h : v9ParseBody c st id body = (st', .ok (.data recs pad))) :
    ∀ rec ∈ recs, ∀ e ∈ rec, Q e.2.2 :=
  v9ParseBody_recs (fun _ _ _ _ hr e he => hQ _ ((v9ParseRec_spec c _ _ _ _ _ hr).2.2 e he)) h

/-- … and of every value in the records of an IPFIX data or options-data set -/
theorem ipParseBody_values {c : Config} {Q : FieldValue → Prop} (hQ : ∀ v, Decoded c v → Q v) {st st' : PState} {id : Nat}
    {body : Bytes} {b : IpBody} {recs : List Rec} {pad : Bytes} (h : ipParseBody c st id body = (st', .ok b))
    (hb : b = .data recs pad ∨ b = .optData recs pad) : ∀ rec ∈ recs, ∀ e ∈ rec, Q e.2.2 :=
  ipParseBody_recs (fun _ _ _ _ hp m hm e he => hQ _ ((ipParseRec_spec c _ _ _ _ _ hp).2.2 m hm e he).2) h hb

end Netflow
