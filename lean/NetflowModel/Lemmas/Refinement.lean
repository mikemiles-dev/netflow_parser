/-
  Lemmas/Refinement.lean — helpers for the UNIFIED refinement theorem (Props/C06Refine.lean):
  the parser state represents the exporter-side template memory of BOTH protocols (`Repr`), one
  conformant message of ANY version is decoded as `Spec.expMsg` says (`step`), a call is a chain of
  such messages (`call_chain`), a history is a sequence of calls (`Refines`).

  It rests on theorems of Props modules (hence those imports): the per-protocol print-then-parse
  theorems are `C04_partial` (V9), `C05_partial` (IPFIX), `B4.parsePacket_encFixed` (V5/V7, Lemmas/FixedRoundTrip.lean); the other protocol's
  representation is carried across a message by the frame theorems of C06; the `parse_bytes`
  recursion is handled by the chain lemmas of C11.
-/
import NetflowModel.Lemmas.FixedRoundTrip
import NetflowModel.Props.C04
import NetflowModel.Props.C05
import NetflowModel.Props.C06
import NetflowModel.Props.C11
namespace Netflow.B4
open Netflow Netflow.Spec Netflow.Props

/-- the parser state `st` represents the exporter memory `D`: the V9 caches represent `D.v9`
    (`Repr9`, Lemmas/V9Templates.lean), the IPFIX caches represent `D.ip` (`ReprIp`,
    Lemmas/IpfixSets.lean).  The two components talk about disjoint parts of `D` and of `st`. -/
structure Repr (D : Defs) (st : PState) : Prop where
  v9 : Repr9 D.v9 st
  ip : ReprIp D.ip st

theorem Repr.empty : Repr {} {} := ⟨Repr9.empty, ReprIp.empty⟩

/-- `Repr9` reads only the two V9 caches -/
theorem Repr9.congr {d : List (Nat × V9Def)} {st st' : PState} (h : Repr9 d st)
    (hT : st'.v9T = st.v9T) (hO : st'.v9O = st.v9O) : Repr9 d st' :=
  ⟨hT ▸ h.sT, hO ▸ h.sO, hT ▸ h.t, hO ▸ h.o⟩

/-- `ReprIp` reads only the two IPFIX caches -/
theorem ReprIp.congr {d : List (Nat × IpDef)} {st st' : PState} (h : ReprIp d st)
    (hT : st'.ipT = st.ipT) (hO : st'.ipO = st.ipO) : ReprIp d st' :=
  ⟨hT ▸ h.sortedT, hO ▸ h.sortedO, fun id => by rw [h.look id, absIp, absIp, hT, hO]⟩

def isIpfixMsg : Msg → Bool
  | .ipfix _ => true
  | _ => false

def isIpfixPkt : Packet → Bool
  | .ipfix _ _ => true
  | _ => false

def isV9Msg : Msg → Bool
  | .v9 _ => true
  | _ => false

def isV9Pkt : Packet → Bool
  | .v9 _ _ => true
  | _ => false

/-- the packet kind returned tells which caches may have changed: only an IPFIX packet comes with
    changed IPFIX caches, only a V9 packet with changed V9 caches -/
theorem parsePacket_frame {c : Config} {st st' : PState} {buf : Bytes} {p : Packet} {rest : Bytes}
    (hp : parsePacket c st buf = (st', .ok p rest)) :
    (isIpfixPkt p = false → st'.ipT = st.ipT ∧ st'.ipO = st.ipO) ∧
    (isV9Pkt p = false → st'.v9T = st.v9T ∧ st'.v9O = st.v9O) := by
  obtain ⟨v, kind, -, -, -, hpv⟩ := parsePacket_ok_versioned hp
  rcases parseVersioned_ok_inv hpv with ⟨_, rfl, _⟩ | ⟨_, rfl, _⟩ | ⟨_, hp9⟩ | ⟨_, hp10⟩
  · exact ⟨fun _ => ⟨rfl, rfl⟩, fun _ => ⟨rfl, rfl⟩⟩
  · exact ⟨fun _ => ⟨rfl, rfl⟩, fun _ => ⟨rfl, rfl⟩⟩
  · obtain ⟨_, _, _, _, _, rfl⟩ := parseV9_ok_inv hp9
    have := C06_v9_touches_only_v9 c st (buf.drop 2)
    rw [hp9] at this
    exact ⟨fun _ => this, fun h => by simp [isV9Pkt] at h⟩
  · obtain ⟨_, _, _, _, _, _, _, rfl⟩ := parseIpfix_ok_inv hp10
    have := C06_ipfix_touches_only_ipfix c st (buf.drop 2)
    rw [hp10] at this
    exact ⟨fun h => by simp [isIpfixPkt] at h, fun _ => this⟩

theorem expV9Sets_length (c : Config) (names : List (Nat × String)) :
    ∀ (ss : List V9FS) (d d2 : List (Nat × V9Def)) (outs : List V9Set),
      expV9Sets c names d ss = some (d2, some outs) → outs.length = ss.length
  | [], _, _, _, h => by
    simp only [expV9Sets, Option.some.injEq, Prod.mk.injEq] at h
    obtain ⟨-, rfl⟩ := h
    rfl
  | s :: ss, d, d2, outs, h => by
    obtain ⟨d1, a, b, -, h2, rfl⟩ := expV9Sets_cons_some h
    rw [List.length_cons, List.length_cons, expV9Sets_length c names ss d1 d2 b h2]

theorem expMsgs_cons {c : Config} {names : List (Nat × String)} {D D' : Defs} {m : Msg} {ms : List Msg}
    {es : List Exp} (h : expMsgs c names D (m :: ms) = some (D', es)) :
    ∃ D1 e es', es = e :: es' ∧ expMsg c names D m = some (D1, e) ∧ expMsgs c names D1 ms = some (D', es') := by
  simp only [expMsgs] at h
  split at h
  · simp at h
  · next D1 e h1 =>
    split at h
    · simp at h
    · next D2 es' h2 =>
      simp only [Option.some.injEq, Prod.mk.injEq] at h
      obtain ⟨rfl, rfl⟩ := h
      exact ⟨D1, e, es', rfl, h1, h2⟩

theorem expMsgs_nil_inv {c : Config} {names : List (Nat × String)} {D D' : Defs} {pkts : List Packet}
    (h : expMsgs c names D [] = some (D', pkts.map .pkt)) : D' = D ∧ pkts = [] := by
  simp only [expMsgs, Option.some.injEq, Prod.mk.injEq, List.nil_eq, List.map_eq_nil_iff] at h
  exact ⟨h.1.symm, h.2⟩

theorem expMsgs_cons_inv {c : Config} {names : List (Nat × String)} {D D' : Defs} {m : Msg} {ms : List Msg}
    {pkts : List Packet} (h : expMsgs c names D (m :: ms) = some (D', pkts.map .pkt)) :
    ∃ D1 p pkts', pkts = p :: pkts' ∧ expMsg c names D m = some (D1, .pkt p) ∧
      expMsgs c names D1 ms = some (D', pkts'.map .pkt) := by
  obtain ⟨D1, e, es', he, h1, h2⟩ := expMsgs_cons h
  cases pkts with
  | nil => simp at he
  | cons p pkts' =>
    simp only [List.map_cons, List.cons.injEq] at he
    obtain ⟨rfl, rfl⟩ := he
    exact ⟨D1, p, pkts', rfl, h1, h2⟩

theorem expMsgs_cons_intro {c : Config} {names : List (Nat × String)} {D D1 D' : Defs} {m : Msg} {ms : List Msg}
    {p : Packet} {pkts : List Packet} (h1 : expMsg c names D m = some (D1, .pkt p))
    (h2 : expMsgs c names D1 ms = some (D', pkts.map .pkt)) :
    expMsgs c names D (m :: ms) = some (D', (p :: pkts).map .pkt) := by
  simp only [expMsgs, h1, h2, List.map_cons]

/-- the specification's fold over a concatenation is the fold over the parts -/
theorem expMsgs_append_inv {c : Config} {names : List (Nat × String)} :
    ∀ (a b : List Msg) (D D' : Defs) (pkts : List Packet),
      expMsgs c names D (a ++ b) = some (D', pkts.map .pkt) →
      ∃ D1 p1 p2, pkts = p1 ++ p2 ∧ expMsgs c names D a = some (D1, p1.map .pkt) ∧
        expMsgs c names D1 b = some (D', p2.map .pkt) := by
  intro a
  induction a with
  | nil =>
    intro b D D' pkts h
    exact ⟨D, [], pkts, rfl, rfl, h⟩
  | cons m a ih =>
    intro b D D' pkts h
    rw [List.cons_append] at h
    obtain ⟨D1, p, pkts', e, h1, h2⟩ := expMsgs_cons_inv h
    obtain ⟨D2, p1, p2, e', h3, h4⟩ := ih b D1 D' pkts' h2
    subst e e'
    exact ⟨D2, p :: p1, p2, rfl, expMsgs_cons_intro h1 h3, h4⟩

theorem expMsgs_append_intro {c : Config} {names : List (Nat × String)} :
    ∀ (a b : List Msg) (D D1 D' : Defs) (p1 p2 : List Packet),
      expMsgs c names D a = some (D1, p1.map .pkt) → expMsgs c names D1 b = some (D', p2.map .pkt) →
      expMsgs c names D (a ++ b) = some (D', (p1 ++ p2).map .pkt) := by
  intro a
  induction a with
  | nil =>
    intro b D D1 D' p1 p2 h1 h2
    simp only [expMsgs, Option.some.injEq, Prod.mk.injEq] at h1
    obtain ⟨e1, e2⟩ := h1
    subst e1
    cases p1 with
    | nil => simpa using h2
    | cons _ _ => simp at e2
  | cons m a ih =>
    intro b D D1 D' p1 p2 h1 h2
    obtain ⟨D2, p, p1', e, h3, h4⟩ := expMsgs_cons_inv h1
    subst e
    rw [List.cons_append, List.cons_append]
    exact expMsgs_cons_intro h3 (ih b D2 D1 D' p1' p2 h4 h2)

/-- conformance of ONE message relative to the exporter memory before it: the conditions the
    specification's notion of "expected packet" does not impose but the print-then-parse theorems
    need.  V5/V7: `fixedConf` (Lemmas/FixedRoundTrip.lean); V9: `C04Conformant`; IPFIX: `C05Conformant`. -/
def MsgConformant (c : Config) (names : List (Nat × String)) (D : Defs) : Msg → Bool
  | .v5 h rs => fixedConf c names ciscoV5Hdr ciscoV5Rec h rs
  | .v7 h rs => fixedConf c names ciscoV7Hdr ciscoV7Rec h rs
  | .v9 m => C04Conformant c names D.v9 m
  | .ipfix m => C05Conformant c D.ip m
  | .raw _ => false

/-- conformance threaded through a message list: each message is judged against the memory as
    updated by everything before it -/
def MsgsConformant (c : Config) (names : List (Nat × String)) : Defs → List Msg → Bool
  | _, [] => true
  | D, m :: ms =>
    MsgConformant c names D m &&
    (match expMsg c names D m with
     | some (D1, _) => MsgsConformant c names D1 ms
     | none => false)

theorem MsgsConformant_cons_inv {c : Config} {names : List (Nat × String)} {D D1 : Defs} {m : Msg} {ms : List Msg} {e : Exp}
    (h : MsgsConformant c names D (m :: ms) = true) (h1 : expMsg c names D m = some (D1, e)) :
    MsgConformant c names D m = true ∧ MsgsConformant c names D1 ms = true := by
  simpa only [MsgsConformant, h1, Bool.and_eq_true] using h

theorem MsgsConformant_append_inv {c : Config} {names : List (Nat × String)} :
    ∀ (a b : List Msg) (D D1 : Defs) (p1 : List Packet),
      MsgsConformant c names D (a ++ b) = true → expMsgs c names D a = some (D1, p1.map .pkt) →
      MsgsConformant c names D a = true ∧ MsgsConformant c names D1 b = true := by
  intro a
  induction a with
  | nil =>
    intro b D D1 p1 h h1
    simp only [expMsgs, Option.some.injEq, Prod.mk.injEq] at h1
    rw [← h1.1]
    exact ⟨rfl, h⟩
  | cons m a ih =>
    intro b D D1 p1 h h1
    obtain ⟨D2, p, p1', e, h3, h4⟩ := expMsgs_cons_inv h1
    rw [List.cons_append] at h
    obtain ⟨c1, c2⟩ := MsgsConformant_cons_inv h h3
    obtain ⟨c3, c4⟩ := ih b D2 D1 p1' c2 h4
    refine ⟨?_, c4⟩
    simp only [MsgsConformant, h3, c1, c3, Bool.and_self]

/-- every (decidable) fact about the configuration that the four print-then-parse theorems and the
    `parse_bytes` chain lemmas use; all hold for the generated tables with the default allowed list
    (`SideConds.generated`) -/
structure SideConds (c : Config) : Prop where
  arms : DnArmsOk c.t.dnArms
  v9Layout : V9LayoutOk c.t
  ipfix : c.t.ipfixOk = true
  noProto : NoProto c
  fixed : fixedTablesOk c.t = true
  framing : c.t.framingOk = true
  a5 : c.allowed.contains 5 = true
  a7 : c.allowed.contains 7 = true
  a9 : c.allowed.contains 9 = true
  a10 : c.allowed.contains 10 = true

theorem SideConds.generated (c : Config) (hc : c.t = Generated.tables) (h5 : c.allowed.contains 5 = true)
    (h7 : c.allowed.contains 7 = true) (h9 : c.allowed.contains 9 = true) (h10 : c.allowed.contains 10 = true) :
    SideConds c :=
  { arms := by rw [hc]; exact dnArmsOk_generated
    v9Layout := by rw [hc]; exact v9LayoutOk_generated
    ipfix := by rw [hc]; exact C05_generated_tables
    noProto := C05_generated_noProto c hc
    fixed := by rw [hc]; exact fixedTablesOk_generated
    framing := by rw [hc]; exact C02_generated_framing
    a5 := h5, a7 := h7, a9 := h9, a10 := h10 }

/-- what a message of each version may change, on both sides of the refinement -/
def Untouched (m : Msg) (D D' : Defs) (st st' : PState) : Prop :=
  match m with
  | .v9 _ => D'.ip = D.ip ∧ st'.ipT = st.ipT ∧ st'.ipO = st.ipO
  | .ipfix _ => D'.v9 = D.v9 ∧ st'.v9T = st.v9T ∧ st'.v9O = st.v9O
  | _ => D' = D ∧ st' = st

/-- one conformant message of any version, followed by nothing: decoded as expected, both
    representations re-established, the other protocol's half untouched, and the packet satisfies
    C11's count condition -/
theorem step_nil (c : Config) (names : List (Nat × String)) (H : SideConds c)
    (D D' : Defs) (st : PState) (m : Msg) (p : Packet)
    (hR : Repr D st) (hconf : MsgConformant c names D m = true) (hexp : expMsg c names D m = some (D', .pkt p)) :
    ∃ st', parsePacket c st (enc m) = (st', .ok p []) ∧ pktCountOk c p = true ∧ Repr D' st' ∧ Untouched m D D' st st' := by
  cases m with
  | v5 h rs =>
    simp only [expMsg, Option.some.injEq, Prod.mk.injEq, Exp.pkt.injEq] at hexp
    obtain ⟨rfl, rfl⟩ := hexp
    have := parsePacket_encFixed c names .v5 H.fixed H.a5 st h rs [] hconf
    rw [List.append_nil] at this
    exact ⟨st, this, rfl, hR, rfl, rfl⟩
  | v7 h rs =>
    simp only [expMsg, Option.some.injEq, Prod.mk.injEq, Exp.pkt.injEq] at hexp
    obtain ⟨rfl, rfl⟩ := hexp
    have := parsePacket_encFixed c names .v7 H.fixed H.a7 st h rs [] hconf
    rw [List.append_nil] at this
    exact ⟨st, this, rfl, hR, rfl, rfl⟩
  | v9 m =>
    obtain ⟨st', hp, hR'⟩ := C04_partial c names H.arms H.v9Layout H.a9 D D' st m p [] hR.v9 hexp hconf
    rw [List.append_nil] at hp
    obtain ⟨ss, hc, he, rfl, hip⟩ := expMsg_v9_inv hexp
    obtain ⟨f1, f2⟩ := (parsePacket_frame hp).1 rfl
    refine ⟨st', hp, ?_, ⟨hR', ?_⟩, hip, f1, f2⟩
    · have hi := H.v9Layout.2.1
      simp [pktCountOk, Layout.get, hi, hc, expV9Sets_length c names _ _ _ _ he]
    · rw [hip]; exact ReprIp.congr hR.ip f1 f2
  | ipfix m =>
    have hexp' : expMsg c names ⟨D.v9, D.ip⟩ (.ipfix m) = some (⟨D'.v9, D'.ip⟩, .pkt p) := hexp
    obtain ⟨st', hp, hR'⟩ := C05_partial c H.ipfix H.noProto H.a10 names D.v9 D'.v9 D.ip D'.ip st m p [] hR.ip hconf hexp'
    rw [List.append_nil] at hp
    obtain ⟨ss, _, hv9, rfl, _⟩ := expMsg_ipfix_inv c names D D' m p hexp
    obtain ⟨f1, f2⟩ := (parsePacket_frame hp).2 rfl
    refine ⟨st', hp, rfl, ⟨?_, hR'⟩, hv9, f1, f2⟩
    rw [hv9]; exact Repr9.congr hR.v9 f1 f2
  | raw b => simp [MsgConformant] at hconf

/-- …and followed by ANY bytes (`C11_step`): same packet, same state change, the trailing bytes returned -/
theorem step (c : Config) (names : List (Nat × String)) (H : SideConds c)
    (D D' : Defs) (st : PState) (m : Msg) (p : Packet)
    (hR : Repr D st) (hconf : MsgConformant c names D m = true) (hexp : expMsg c names D m = some (D', .pkt p)) :
    ∃ st', (∀ rest, parsePacket c st (enc m ++ rest) = (st', .ok p rest)) ∧ selfDelimiting c st (enc m) = true ∧
      Repr D' st' ∧ Untouched m D D' st st' := by
  obtain ⟨st', hp, hc, hR', hU⟩ := step_nil c names H D D' st m p hR hconf hexp
  refine ⟨st', fun rest => C11_step c st st' (enc m) p hp hc rest, ?_, hR', hU⟩
  simp [selfDelimiting, hp, hc]

/-- a conformant message list, written by `Spec.enc`, is a chain of self-delimiting packets in the
    sense of C11; delivered one message per call it yields exactly the expected packets, and the
    final state represents the final exporter memory -/
theorem call_chain (c : Config) (names : List (Nat × String)) (H : SideConds c) :
    ∀ (ms : List Msg) (D D' : Defs) (st : PState) (pkts : List Packet),
      Repr D st → MsgsConformant c names D ms = true → expMsgs c names D ms = some (D', pkts.map .pkt) →
      ∃ st', chainOk c st (ms.map enc) = true ∧ foldCalls c st (ms.map enc) = (st', pkts) ∧ Repr D' st' := by
  intro ms
  induction ms with
  | nil =>
    intro D D' st pkts hR _ hexp
    simp only [expMsgs, Option.some.injEq, Prod.mk.injEq] at hexp
    obtain ⟨e1, e2⟩ := hexp
    subst e1
    cases pkts with
    | cons _ _ => simp at e2
    | nil => exact ⟨st, rfl, rfl, hR⟩
  | cons m ms ih =>
    intro D D' st pkts hR hconf hexp
    obtain ⟨D1, p, pkts', e, h1, h2⟩ := expMsgs_cons_inv hexp
    subst e
    obtain ⟨c1, c2⟩ := MsgsConformant_cons_inv hconf h1
    obtain ⟨st1, hp, hsd, hR1, _⟩ := step c names H D D1 st m p hR c1 h1
    have hp0 := hp []
    rw [List.append_nil] at hp0
    obtain ⟨st2, hc, hf, hR2⟩ := ih D1 D' st1 pkts' hR1 c2 h2
    refine ⟨st2, ?_, ?_, hR2⟩
    · simp only [List.map_cons, chainOk, hsd, hp0, hc, Bool.and_self]
    · rw [List.map_cons, foldCalls_cons_selfDelimiting c hp0, hf]

/-- one `parse_bytes` call on the bytes of a conformant message list -/
theorem call_refines (c : Config) (names : List (Nat × String)) (H : SideConds c)
    (ms : List Msg) (D D' : Defs) (st : PState) (pkts : List Packet)
    (hR : Repr D st) (hconf : MsgsConformant c names D ms = true)
    (hexp : expMsgs c names D ms = some (D', pkts.map .pkt)) :
    ∃ st', parseBytes c st (ms.flatMap enc) = (st', .done pkts) ∧ Repr D' st' ∧
      foldCalls c st (ms.map enc) = (st', pkts) := by
  obtain ⟨st', hc, hf, hR'⟩ := call_chain c names H ms D D' st pkts hR hconf hexp
  refine ⟨st', ?_, hR', hf⟩
  have := C11_chain c H.framing st (ms.map enc) hc
  rw [← List.flatMap_def, hf] at this
  exact this

/-- the refinement, call by call: call `k` returns exactly the packets the specification expects
    for its messages from the memory `D_{k-1}`, and afterwards the parser state represents `D_k` -/
def Refines (c : Config) (names : List (Nat × String)) : Defs → PState → List (List Msg) → Prop
  | _, _, [] => True
  | D, st, ms :: rest =>
    ∃ D1 pkts st1, expMsgs c names D ms = some (D1, pkts.map .pkt) ∧
      parseBytes c st (ms.flatMap enc) = (st1, .done pkts) ∧ Repr D1 st1 ∧ Refines c names D1 st1 rest

theorem history_refines (c : Config) (names : List (Nat × String)) (H : SideConds c) :
    ∀ (hist : List (List Msg)) (D D' : Defs) (st : PState) (pkts : List Packet),
      Repr D st → MsgsConformant c names D hist.flatten = true →
      expMsgs c names D hist.flatten = some (D', pkts.map .pkt) →
      Refines c names D st hist ∧
      ∃ st', foldCalls c st (hist.map (·.flatMap enc)) = (st', pkts) ∧ Repr D' st' := by
  intro hist
  induction hist with
  | nil =>
    intro D D' st pkts hR _ hexp
    simp only [List.flatten_nil, expMsgs, Option.some.injEq, Prod.mk.injEq] at hexp
    obtain ⟨e1, e2⟩ := hexp
    subst e1
    cases pkts with
    | cons _ _ => simp at e2
    | nil => exact ⟨trivial, st, rfl, hR⟩
  | cons ms hist ih =>
    intro D D' st pkts hR hconf hexp
    rw [List.flatten_cons] at hconf hexp
    obtain ⟨D1, p1, p2, e, h1, h2⟩ := expMsgs_append_inv ms hist.flatten D D' pkts hexp
    subst e
    obtain ⟨c1, c2⟩ := MsgsConformant_append_inv ms hist.flatten D D1 p1 hconf h1
    obtain ⟨st1, hp, hR1, _⟩ := call_refines c names H ms D D1 st p1 hR c1 h1
    obtain ⟨hr, st2, hf, hR2⟩ := ih D1 D' st1 p2 hR1 c2 h2
    refine ⟨⟨D1, p1, st1, h1, hp, hR1, hr⟩, st2, ?_, hR2⟩
    simp only [List.map_cons, foldCalls, hp, Outcome.pkts, hf]

def Exp.pkt? : Exp → Option Packet
  | .pkt p => some p
  | .inexpressible _ => none

def Exp.isPkt : Exp → Bool
  | .pkt _ => true
  | .inexpressible _ => false

theorem filterMap_pkt (pkts : List Packet) : (pkts.map Exp.pkt).filterMap Exp.pkt? = pkts := by
  induction pkts with
  | nil => rfl
  | cons p ps ih => simp [Exp.pkt?, ih]

theorem all_isPkt_elim : ∀ (es : List Exp), es.all Exp.isPkt = true → es = (es.filterMap Exp.pkt?).map .pkt := by
  intro es
  induction es with
  | nil => intro _; rfl
  | cons e es ih =>
    intro h
    simp only [List.all_cons, Bool.and_eq_true] at h
    cases e with
    | pkt p =>
      have : (Exp.pkt p :: es).filterMap Exp.pkt? = p :: es.filterMap Exp.pkt? := by simp [Exp.pkt?]
      rw [this, List.map_cons, ← ih h.2]
    | inexpressible v => simp [Exp.isPkt] at h

/-- the specification expects a packet for every message of the list (none is rejected, none is
    inexpressible in the crate's result types) -/
def expAllPkt (c : Config) (names : List (Nat × String)) (D : Defs) (ms : List Msg) : Bool :=
  match expMsgs c names D ms with
  | some (_, es) => es.all Exp.isPkt
  | none => false

theorem expAllPkt_elim {c : Config} {names : List (Nat × String)} {D : Defs} {ms : List Msg}
    (h : expAllPkt c names D ms = true) :
    ∃ (D' : Defs) (pkts : List Packet), expMsgs c names D ms = some (D', pkts.map .pkt) := by
  unfold expAllPkt at h
  cases he : expMsgs c names D ms with
  | none => simp [he] at h
  | some x =>
    obtain ⟨D', es⟩ := x
    simp only [he] at h
    exact ⟨D', es.filterMap Exp.pkt?, by rw [← all_isPkt_elim es h]⟩

/-- decidable check of the CONCLUSION for one call (used for the `_fails` witnesses): the call
    returns exactly the expected packets -/
def callOk (c : Config) (names : List (Nat × String)) (D : Defs) (st : PState) (ms : List Msg) : Bool :=
  match expMsgs c names D ms with
  | some (_, es) => decide ((parseBytes c st (ms.flatMap enc)).2 = .done (es.filterMap Exp.pkt?))
  | none => true

theorem Refines.callOk {c : Config} {names : List (Nat × String)} {D : Defs} {st : PState} {ms : List Msg}
    {rest : List (List Msg)} (h : Refines c names D st (ms :: rest)) : callOk c names D st ms = true := by
  obtain ⟨D1, pkts, st1, he, hp, _, _⟩ := h
  simp only [B4.callOk, he, hp, filterMap_pkt, decide_true]

theorem expMsgs_length {c : Config} {names : List (Nat × String)} :
    ∀ (ms : List Msg) (D D' : Defs) (es : List Exp), expMsgs c names D ms = some (D', es) → es.length = ms.length
  | [], _, _, _, h => by
    simp only [expMsgs, Option.some.injEq, Prod.mk.injEq] at h
    obtain ⟨-, rfl⟩ := h
    rfl
  | m :: ms, D, D', es, h => by
    obtain ⟨D1, e, es', rfl, -, h2⟩ := expMsgs_cons h
    rw [List.length_cons, List.length_cons, expMsgs_length ms D1 D' es' h2]

theorem map_map_enc_flatten (hist : List (List Msg)) :
    (hist.map (fun ms => ms.map enc)).map List.flatten = hist.map (fun ms => ms.flatMap enc) := by
  induction hist with
  | nil => rfl
  | cons ms hist ih => simp only [List.map_cons, ih, List.flatMap_def]

theorem isV9Msg_of_isIpfixMsg {m : Msg} (h : isIpfixMsg m = true) : isV9Msg m = false := by
  cases m <;> first | rfl | cases h

theorem isIpfixMsg_of_isV9Msg {m : Msg} (h : isV9Msg m = true) : isIpfixMsg m = false := by
  cases m <;> first | rfl | cases h

/-- conformance of a message that is not IPFIX does not look at the IPFIX half of the memory -/
theorem MsgConformant_not_ipfix (c : Config) (names : List (Nat × String)) (D : Defs) (ip0 : List (Nat × IpDef))
    {m : Msg} (h : isIpfixMsg m = false) : MsgConformant c names ⟨D.v9, ip0⟩ m = MsgConformant c names D m := by
  cases m <;> first | rfl | cases h

theorem MsgConformant_not_v9 (c : Config) (names : List (Nat × String)) (D : Defs) (v0 : List (Nat × V9Def))
    {m : Msg} (h : isV9Msg m = false) : MsgConformant c names ⟨v0, D.ip⟩ m = MsgConformant c names D m := by
  cases m <;> first | rfl | cases h

/-- the expected packet has the kind of its message -/
theorem expMsg_kind {c : Config} {names : List (Nat × String)} {D D1 : Defs} {m : Msg} {p : Packet}
    (h : expMsg c names D m = some (D1, .pkt p)) : isIpfixPkt p = isIpfixMsg m ∧ isV9Pkt p = isV9Msg m := by
  cases m with
  | v5 _ _ | v7 _ _ =>
    simp only [expMsg, Option.some.injEq, Prod.mk.injEq, Exp.pkt.injEq] at h
    rw [← h.2]; exact ⟨rfl, rfl⟩
  | v9 vm => obtain ⟨_, _, _, rfl, _⟩ := expMsg_v9_inv h; exact ⟨rfl, rfl⟩
  | ipfix im => obtain ⟨_, _, _, rfl, _⟩ := expMsg_ipfix_inv c names D D1 im p h; exact ⟨rfl, rfl⟩
  | raw _ => simp [expMsg] at h

/-- a message that is not IPFIX neither reads nor writes the IPFIX half of the memory -/
theorem expMsg_not_ipfix {c : Config} {names : List (Nat × String)} {D D1 : Defs} {m : Msg} {e : Exp}
    (hm : isIpfixMsg m = false) (h : expMsg c names D m = some (D1, e)) (ip0 : List (Nat × IpDef)) :
    expMsg c names ⟨D.v9, ip0⟩ m = some (⟨D1.v9, ip0⟩, e) ∧ D1.ip = D.ip := by
  cases m with
  | ipfix _ => simp [isIpfixMsg] at hm
  | raw _ => simp [expMsg] at h
  | v5 _ _ | v7 _ _ =>
    simp only [expMsg, Option.some.injEq, Prod.mk.injEq] at h ⊢
    obtain ⟨rfl, rfl⟩ := h
    exact ⟨⟨rfl, rfl⟩, rfl⟩
  | v9 vm =>
    simp only [expMsg] at h ⊢
    split at h
    · simp at h
    · next hc =>
      rw [if_neg hc]
      split at h <;> simp only [Option.some.injEq, Prod.mk.injEq, reduceCtorEq] at h
      all_goals
        next he =>
        obtain ⟨rfl, rfl⟩ := h
        simp

/-- a message that is not V9 neither reads nor writes the V9 half of the memory -/
theorem expMsg_not_v9 {c : Config} {names : List (Nat × String)} {D D1 : Defs} {m : Msg} {e : Exp}
    (hm : isV9Msg m = false) (h : expMsg c names D m = some (D1, e)) (v0 : List (Nat × V9Def)) :
    expMsg c names ⟨v0, D.ip⟩ m = some (⟨v0, D1.ip⟩, e) ∧ D1.v9 = D.v9 := by
  cases m with
  | v9 _ => simp [isV9Msg] at hm
  | raw _ => simp [expMsg] at h
  | v5 _ _ | v7 _ _ =>
    simp only [expMsg, Option.some.injEq, Prod.mk.injEq] at h ⊢
    obtain ⟨rfl, rfl⟩ := h
    exact ⟨⟨rfl, rfl⟩, rfl⟩
  | ipfix im =>
    simp only [expMsg] at h ⊢
    split at h <;> simp only [Option.some.injEq, Prod.mk.injEq, reduceCtorEq] at h
    all_goals
      next he =>
      obtain ⟨rfl, rfl⟩ := h
      simp

/-- deleting the IPFIX messages from a conformant stream (and replacing the IPFIX memory by anything):
    the specification expects exactly the non-IPFIX packets, and ends in the same V9 memory -/
theorem expMsgs_drop_ipfix (c : Config) (names : List (Nat × String)) (ip0 : List (Nat × IpDef)) :
    ∀ (ms : List Msg) (D D' : Defs) (pkts : List Packet),
      expMsgs c names D ms = some (D', pkts.map .pkt) → MsgsConformant c names D ms = true →
      expMsgs c names ⟨D.v9, ip0⟩ (ms.filter (fun m => !isIpfixMsg m)) =
        some (⟨D'.v9, ip0⟩, (pkts.filter (fun p => !isIpfixPkt p)).map .pkt) ∧
      MsgsConformant c names ⟨D.v9, ip0⟩ (ms.filter (fun m => !isIpfixMsg m)) = true
  | [], D, D', pkts, h, _ => by
    obtain ⟨rfl, rfl⟩ := expMsgs_nil_inv h
    exact ⟨rfl, rfl⟩
  | m :: ms, D, D', pkts, h, hc => by
    obtain ⟨D1, p, pkts', rfl, h1, h2⟩ := expMsgs_cons_inv h
    obtain ⟨c1, c2⟩ := MsgsConformant_cons_inv hc h1
    obtain ⟨i1, i2⟩ := expMsgs_drop_ipfix c names ip0 ms D1 D' pkts' h2 c2
    obtain ⟨kp, -⟩ := expMsg_kind h1
    cases hm : isIpfixMsg m with
    | true =>
      -- dropped: an IPFIX message leaves the V9 half as it was
      have hv9 : D1.v9 = D.v9 := (expMsg_not_v9 (isV9Msg_of_isIpfixMsg hm) h1 []).2
      rw [List.filter_cons_of_neg (by simp [hm]), List.filter_cons_of_neg (by simp [kp, hm]), ← hv9]
      exact ⟨i1, i2⟩
    | false =>
      obtain ⟨g1, -⟩ := expMsg_not_ipfix hm h1 ip0
      have c1' := (MsgConformant_not_ipfix c names D ip0 hm).trans c1
      rw [List.filter_cons_of_pos (by simp [hm]), List.filter_cons_of_pos (by simp [kp, hm])]
      exact ⟨expMsgs_cons_intro g1 i1, by simp only [MsgsConformant, g1, c1', i2, Bool.and_self]⟩

/-- symmetric: deleting the V9 messages (and replacing the V9 memory by anything) -/
theorem expMsgs_drop_v9 (c : Config) (names : List (Nat × String)) (v0 : List (Nat × V9Def)) :
    ∀ (ms : List Msg) (D D' : Defs) (pkts : List Packet),
      expMsgs c names D ms = some (D', pkts.map .pkt) → MsgsConformant c names D ms = true →
      expMsgs c names ⟨v0, D.ip⟩ (ms.filter (fun m => !isV9Msg m)) =
        some (⟨v0, D'.ip⟩, (pkts.filter (fun p => !isV9Pkt p)).map .pkt) ∧
      MsgsConformant c names ⟨v0, D.ip⟩ (ms.filter (fun m => !isV9Msg m)) = true
  | [], D, D', pkts, h, _ => by
    obtain ⟨rfl, rfl⟩ := expMsgs_nil_inv h
    exact ⟨rfl, rfl⟩
  | m :: ms, D, D', pkts, h, hc => by
    obtain ⟨D1, p, pkts', rfl, h1, h2⟩ := expMsgs_cons_inv h
    obtain ⟨c1, c2⟩ := MsgsConformant_cons_inv hc h1
    obtain ⟨i1, i2⟩ := expMsgs_drop_v9 c names v0 ms D1 D' pkts' h2 c2
    obtain ⟨-, kp⟩ := expMsg_kind h1
    cases hm : isV9Msg m with
    | true =>
      have hip : D1.ip = D.ip := (expMsg_not_ipfix (isIpfixMsg_of_isV9Msg hm) h1 []).2
      rw [List.filter_cons_of_neg (by simp [hm]), List.filter_cons_of_neg (by simp [kp, hm]), ← hip]
      exact ⟨i1, i2⟩
    | false =>
      obtain ⟨g1, -⟩ := expMsg_not_v9 hm h1 v0
      have c1' := (MsgConformant_not_v9 c names D v0 hm).trans c1
      rw [List.filter_cons_of_pos (by simp [hm]), List.filter_cons_of_pos (by simp [kp, hm])]
      exact ⟨expMsgs_cons_intro g1 i1, by simp only [MsgsConformant, g1, c1', i2, Bool.and_self]⟩

end Netflow.B4
