/-
  Lemmas/Replay.lean — the template caches after a call are the REPLAY of the template records the
  call reported (helpers for Props/C06c.lean, and the state lemmas the flag and oracle proofs rest on).

  Every parsing stage, from the set body up to `parseBytesF`, is characterised: result `ok` ⇒ new
  state = replay of what was returned; anything else ⇒ state unchanged, with the single exception of
  a V9 packet that fails after some flowsets were already parsed (`replayPktX` accounts for those).
  The IPFIX set loop can report an error only when a set consumes no byte at all; that needs a set
  header that occupies no bytes, and then no set ever has a body, so the state is unchanged
  (`ipParseSets_err_frame`, no hypothesis on the tables).
-/
import NetflowModel.Lemmas.State
import NetflowModel.Lemmas.Locality

namespace Netflow.C1x
open Netflow

/- `v9Defines` / `ipDefines` are stated in the oracle's namespace (the C07 clause of Lemmas/Oracles speaks of them) but are
   needed here first: what a replay leaves alone is phrased with them. -/

/-- the flowset is a template / options-template flowset containing a definition of `tid` -/
def v9Defines (tid : Nat) (s : V9Set) : Bool :=
  match s.body with
  | .templates ts _ => ts.any (·.id == tid)
  | .optTemplates ts _ => ts.any (·.id == tid)
  | _ => false

def ipDefines (tid : Nat) (s : IpSet) : Bool :=
  match s.body with
  | .template t => t.id == tid
  | .optTemplate t => t.id == tid
  | _ => false

end Netflow.C1x

namespace Netflow.P1
open Netflow Netflow.C1x

/-- what a reported V9 flowset body teaches the caches -/
def replayV9Body (st : PState) : V9Body → PState
  | .templates ts _ => insertV9Templates st ts
  | .optTemplates ts _ => insertV9OptTemplates st ts
  | _ => st

def replayV9Set (st : PState) (s : V9Set) : PState := replayV9Body st s.body

/-- what a reported IPFIX set body teaches the caches -/
def replayIpBody (st : PState) : IpBody → PState
  | .template t => { st with ipT := amInsert t.id t st.ipT, ipO := amErase t.id st.ipO }
  | .optTemplate t => { st with ipO := amInsert t.id t st.ipO, ipT := amErase t.id st.ipT }
  | _ => st

def replayIpSet (st : PState) (s : IpSet) : PState := replayIpBody st s.body

/-- apply to the caches exactly the template records REPORTED in a packet, in order -/
def replayPkt (st : PState) : Packet → PState
  | .v9 _ ss => ss.foldl replayV9Set st
  | .ipfix _ ss => ss.foldl replayIpSet st
  | _ => st

def replay (st : PState) (pkts : List Packet) : PState := pkts.foldl replayPkt st

/-- the list ends in the error a failing V9 parse is reported as -/
def endsInV9Err (pkts : List Packet) : Bool :=
  match pkts.getLast? with
  | some (.error (.partialParse 9 _) _) => true
  | _ => false

/-- a packet reports a V9 / IPFIX set that defines template id `id` -/
def pktDefinesV9 (id : Nat) : Packet → Bool
  | .v9 _ ss => ss.any (v9Defines id)
  | _ => false

def pktDefinesIp (id : Nat) : Packet → Bool
  | .ipfix _ ss => ss.any (ipDefines id)
  | _ => false

/-- the packets of an outcome -/
def outPkts : Outcome → List Packet
  | .done ps => ps
  | .panic ps => ps
  | .overflow ps => ps

/-- everything a history of calls reports, in order (the state is threaded as `parseBytes` does) -/
def histPkts (c : Config) : PState → List Bytes → List Packet
  | _, [] => []
  | st, b :: bs => outPkts (parseBytes c st b).2 ++ histPkts c (parseBytes c st b).1 bs

/-- the flowsets the V9 flowset loop parses before it ends (normally or at the first failing flowset) -/
def v9SetsDone (c : Config) : Nat → PState → Bytes → List V9Set
  | 0, _, _ => []
  | n + 1, st, i =>
    if i.isEmpty then v9SetsDone c n st i
    else
      match v9ParseSet c st i with
      | (st', .ok (s, r)) => s :: v9SetsDone c n st' r
      | _ => []

/-- the flowsets of a V9 packet body (input after the version word) that parse, in state `st` -/
def v9Learned (c : Config) (st : PState) (body : Bytes) : List V9Set :=
  match parseLayout c.t.protoFromU8 c.t.v9Hdr body with
  | none => []
  | some (h, r) => v9SetsDone c (c.t.v9Hdr.get "count" h) st r

/-- like `replayPkt`, but the error a failing V9 packet is reported as replays the flowsets of the
    recorded remaining bytes that parse -/
def replayPktX (c : Config) (st : PState) : Packet → PState
  | .error (.partialParse 9 b) _ => (v9Learned c st b).foldl replayV9Set st
  | p => replayPkt st p

def replayX (c : Config) (st : PState) (pkts : List Packet) : PState := pkts.foldl (replayPktX c) st

theorem replay_nil (st : PState) : replay st [] = st := rfl

theorem replay_append (st : PState) (a b : List Packet) : replay st (a ++ b) = replay (replay st a) b := by
  simp [replay, List.foldl_append]

theorem endsInV9Err_iff (pkts : List Packet) :
    endsInV9Err pkts = false ↔ ∀ b r, pkts.getLast? ≠ some (.error (.partialParse 9 b) r) := by
  unfold endsInV9Err
  constructor
  · intro h b r e
    rw [e] at h
    simp at h
  · intro h
    split
    · rename_i b r e
      exact absurd e (h b r)
    · rfl

theorem v9ParseBody_ok_replay (c : Config) (st st' : PState) (id : Nat) (b : Bytes) (body : V9Body)
    (h : v9ParseBody c st id b = (st', .ok body)) : st' = replayV9Body st body := by
  rcases v9ParseBody_ok_inv h with ⟨_, _, _, _, e, rfl⟩ | ⟨_, _, _, _, _, e, rfl⟩ | ⟨_, _, e, _, _, _, _, _, _, _, _, rfl⟩ |
    ⟨_, _, e, _, _, _, _, rfl⟩ <;> exact e

theorem v9ParseSet_ok_replay (c : Config) (st st' : PState) (i : Bytes) (s : V9Set) (r : Bytes)
    (h : v9ParseSet c st i = (st', .ok (s, r))) : st' = replayV9Set st s := by
  obtain ⟨hd, r1, body, b, _, _, hb, rfl⟩ := v9ParseSet_ok_inv h
  exact v9ParseBody_ok_replay c _ _ _ _ _ hb

theorem v9ParseSet_notok_frame (c : Config) (st : PState) (i : Bytes)
    (h : ∀ x, (v9ParseSet c st i).2 ≠ .ok x) : (v9ParseSet c st i).1 = st := by
  unfold v9ParseSet at h ⊢
  have := v9ParseBody_err_frame c st
  grind

theorem v9ParseSets_state (c : Config) : ∀ (n : Nat) (st : PState) (i : Bytes),
    (v9ParseSets c n st i).1 = (v9SetsDone c n st i).foldl replayV9Set st := by
  intro n
  induction n with
  | zero => intro st i; rfl
  | succ n ih =>
    intro st i
    unfold v9ParseSets v9SetsDone
    by_cases he : i.isEmpty = true
    · simp only [he, ↓reduceIte]; exact ih st i
    · simp only [he, Bool.false_eq_true, ↓reduceIte]
      cases hs : v9ParseSet c st i with
      | mk st1 res =>
        cases res with
        | ok sr =>
          obtain ⟨s, r1⟩ := sr
          have e1 := v9ParseSet_ok_replay c _ _ _ _ _ hs
          have e2 := ih st1 r1
          simp only [List.foldl_cons, ← e1, ← e2]
          cases v9ParseSets c n st1 r1 with
          | mk st2 res2 => cases res2 <;> rfl
        | _ =>
          have := v9ParseSet_notok_frame c st i (by rw [hs]; simp)
          rw [hs] at this
          simpa using this

theorem v9SetsDone_ok (c : Config) : ∀ (n : Nat) (st st' : PState) (i : Bytes) (ss : List V9Set) (r : Bytes),
    v9ParseSets c n st i = (st', .ok (ss, r)) → v9SetsDone c n st i = ss := by
  intro n
  induction n with
  | zero => intro st st' i ss r h; cases h; rfl
  | succ n ih =>
    intro st st' i ss r h
    by_cases hne : i = []
    · subst hne
      rw [v9ParseSets_nil] at h
      exact ih st st' [] ss r (by rw [v9ParseSets_nil]; exact h)
    · obtain ⟨st1, s, r1, ss', hs, hrest, rfl⟩ := v9ParseSets_succ_ok_inv hne h
      have he : i.isEmpty = false := by cases i with | nil => exact absurd rfl hne | cons _ _ => rfl
      simp only [v9SetsDone, he, Bool.false_eq_true, ↓reduceIte, hs, ih _ _ _ _ _ hrest]

theorem parseV9_state (c : Config) (st : PState) (i : Bytes) :
    (parseV9 c st i).1 = (v9Learned c st i).foldl replayV9Set st := by
  unfold parseV9 v9Learned
  cases parseLayout c.t.protoFromU8 c.t.v9Hdr i with
  | none => rfl
  | some hr =>
    obtain ⟨h, r⟩ := hr
    simp only
    rw [← v9ParseSets_state]
    cases v9ParseSets c (c.t.v9Hdr.get "count" h) st r with
    | mk st2 res2 => cases res2 <;> rfl

theorem v9Learned_ok (c : Config) (st st' : PState) (i : Bytes) (hd : List Nat) (ss : List V9Set) (r : Bytes)
    (h : parseV9 c st i = (st', .ok (.v9 hd ss, r))) : v9Learned c st i = ss := by
  obtain ⟨h', r1, ss', hh, hs, e⟩ := parseV9_ok_inv h
  cases e
  rw [v9Learned, hh]
  exact v9SetsDone_ok c _ _ _ _ _ _ hs

theorem parseV9_ok_replay (c : Config) (st st' : PState) (i : Bytes) (p : Packet) (r : Bytes)
    (h : parseV9 c st i = (st', .ok (p, r))) : st' = replayPkt st p := by
  obtain ⟨hd, r1, ss, _, _, rfl⟩ := parseV9_ok_inv h
  have e := parseV9_state c st i
  rw [h, v9Learned_ok c st st' i hd ss r h] at e
  exact e

theorem ipParseBody_ok_replay (c : Config) (st st' : PState) (id : Nat) (b : Bytes) (body : IpBody)
    (h : ipParseBody c st id b = (st', .ok body)) : st' = replayIpBody st body := by
  rcases ipParseBody_ok_inv h with ⟨_, _, _, _, _, e, rfl⟩ | ⟨_, _, _, _, e, rfl⟩ |
    ⟨_, _, e, _, _, _, _, _, ⟨_, _, _, rfl⟩ | ⟨_, _, _, _, rfl⟩⟩ <;> exact e

theorem ipParseSet_ok_replay (c : Config) (st st' : PState) (i : Bytes) (s : IpSet) (r : Bytes)
    (h : ipParseSet c st i = (st', .ok (s, r))) : st' = replayIpSet st s := by
  obtain ⟨hd, r1, body, b, _, _, hb, rfl⟩ := ipParseSet_ok_inv h
  exact ipParseBody_ok_replay c _ _ _ _ _ hb

theorem ipParseSets_ok_replay (c : Config) : ∀ (f : Nat) (st st' : PState) (i : Bytes) (ss : List IpSet),
    ipParseSets c f st i = (st', .ok ss) → st' = ss.foldl replayIpSet st := by
  intro f
  induction f with
  | zero => intro st st' i ss h; cases h
  | succ f ih =>
    intro st st' i ss h
    rcases ipParseSets_succ_ok_iff.1 h with ⟨hs, rfl⟩ | ⟨st1, s, r, ss', hs, _, hrest, rfl⟩
    · exact ipParseSet_err_state hs
    · rw [ih _ _ _ _ hrest, ipParseSet_ok_replay c _ _ _ _ _ hs]; rfl

/-- a layout that occupies no bytes decodes to the same values whatever the input, and consumes nothing -/
theorem parseLayout_zero_width (proto : Nat → Nat) (lay : Layout) (hw : lay.wireLen = 0) :
    ∃ vals, ∀ i, parseLayout proto lay i = some (vals, i) := by
  have hd : ∀ (lay : Layout) (acc : List Nat) (i : Bytes), lay.wireLen = 0 →
      decodeFields proto lay acc i = decodeFields proto lay acc [] := by
    intro lay
    induction lay with
    | nil => intro _ _ _; rfl
    | cons f fs ih =>
      intro acc i hw
      rw [Layout.wireLen_cons] at hw
      have hv : fieldVal proto f acc i = fieldVal proto f acc [] := by
        unfold fieldVal
        cases hk : f.kind with
        | wire w => rw [show w = 0 by simpa [hk, FKind.width] using Nat.eq_zero_of_add_eq_zero_right hw]; rfl
        | _ => rfl
      rw [decodeFields, decodeFields, hv, ih _ _ (by omega), ih _ ([].drop _) (by omega)]
  exact ⟨decodeFields proto lay [] [], fun i => by rw [parseLayout_eq, hw, if_pos (Nat.zero_le _), hd lay [] i hw]; rfl⟩

theorem ipParseBody_nil_frame (c : Config) (st : PState) (id : Nat) : (ipParseBody c st id []).1 = st := by
  have h1 : parseIpTemplate [] = .err := by simp [parseIpTemplate, beU]
  have h2 : parseIpOptTemplate [] = .err := by simp [parseIpOptTemplate, beU]
  unfold ipParseBody
  rw [h1, h2]
  grind

theorem ipParseSets_frame_of_set_frame (c : Config) (hs : ∀ st i, (ipParseSet c st i).1 = st) :
    ∀ (f : Nat) (st : PState) (i : Bytes), (ipParseSets c f st i).1 = st := by
  intro f
  induction f with
  | zero => intro st i; simp [ipParseSets]
  | succ f ih =>
    intro st i
    unfold ipParseSets
    have := hs st i
    grind

/-- the IPFIX set loop reports an error (`Many0`: a set that consumed nothing) only when the set
    header occupies no bytes — and then nothing was learned.  No hypothesis on the tables. -/
theorem ipParseSets_err_frame (c : Config) (f : Nat) (st st' : PState) (i : Bytes)
    (h : ipParseSets c f st i = (st', .err)) : st' = st := by
  by_cases hw : 0 < c.t.ipSetHdr.wireLen
  · have := ipParseSets_no_err c hw f st i
    rw [h] at this
    simp at this
  · obtain ⟨vals, hv⟩ := parseLayout_zero_width c.t.protoFromU8 c.t.ipSetHdr (by omega)
    by_cases hl : c.t.ipSetHdr.get "length" vals - 4 = 0
    · -- every set has an empty body
      have hs : ∀ st i, (ipParseSet c st i).1 = st := by
        intro st i
        unfold ipParseSet
        have ht : takeN 0 i = some ([], i) := by simp [takeN]
        simp only [hv, hl, ht]
        have := ipParseBody_nil_frame c st (c.t.ipSetHdr.get "header_id" vals)
        grind
      have := ipParseSets_frame_of_set_frame c hs f st i
      rw [h] at this
      exact this
    · -- every set that parses consumes its (non-empty) body
      have hp : ∀ st st' i s r, ipParseSet c st i = (st', .ok (s, r)) → r.length < i.length := by
        intro st st' i s r hps
        obtain ⟨h, r1, body, b, hh, ht, _, _⟩ := ipParseSet_ok_inv hps
        rw [hv] at hh
        cases hh
        have : c.t.ipSetHdr.get "length" vals - 4 + r.length = i.length := (takeN_consumes _).sized _ _ _ ht
        omega
      have := ipParseSets_no_err_of_progress c hp f st i
      rw [h] at this
      simp at this

theorem parseIpfix_ok_replay (c : Config) (st st' : PState) (i : Bytes) (p : Packet) (r : Bytes)
    (h : parseIpfix c st i = (st', .ok (p, r))) : st' = replayPkt st p := by
  obtain ⟨hd, r1, body, ss, _, _, hs, rfl⟩ := parseIpfix_ok_inv h
  exact ipParseSets_ok_replay c _ _ _ _ _ hs

/-- an IPFIX message that is reported as an error teaches nothing (no hypothesis on the tables) -/
theorem parseIpfix_err_frame (c : Config) (st st' : PState) (i : Bytes)
    (h : parseIpfix c st i = (st', .err)) : st' = st := by
  rcases parseIpfix_err_inv h with ⟨e, _⟩ | ⟨_, _, _, _, _, _, hs⟩
  · exact e
  · exact ipParseSets_err_frame c _ _ _ _ hs

/-- an accepted packet: V5 / V7 (caches untouched) or what `parseV9` / `parseIpfix` returned -/
theorem parsePacket_ok_cases {c : Config} {st st' : PState} {buf : Bytes} {p : Packet} {r : Bytes}
    (h : parsePacket c st buf = (st', .ok p r)) :
    (st' = st ∧ ∃ hd rs, p = .v5 hd rs) ∨ (st' = st ∧ ∃ hd rs, p = .v7 hd rs) ∨
    parseV9 c st (buf.drop 2) = (st', .ok (p, r)) ∨ parseIpfix c st (buf.drop 2) = (st', .ok (p, r)) := by
  rcases parsePacket_inv _ _ _ _ _ h with ⟨_, _, hs⟩ | ⟨_, _, _, _, hs⟩ | ⟨_, _, _, _, _, hs⟩ | ⟨v, kind, _, _, _, hpv⟩
  · cases hs
  · cases hs
  · cases hs
  · rcases parseVersioned_ok_inv hpv with ⟨_, e, hd, rs, _, ep⟩ | ⟨_, e, hd, rs, _, ep⟩ | ⟨_, hp⟩ | ⟨_, hp⟩
    · exact Or.inl ⟨e, hd, rs, ep⟩
    · exact Or.inr (Or.inl ⟨e, hd, rs, ep⟩)
    · exact Or.inr (Or.inr (Or.inl hp))
    · exact Or.inr (Or.inr (Or.inr hp))

theorem parsePacket_ok_replay {c : Config} {st st' : PState} {buf : Bytes} {p : Packet} {r : Bytes}
    (h : parsePacket c st buf = (st', .ok p r)) : st' = replayPkt st p := by
  rcases parsePacket_ok_cases h with ⟨e, hd, rs, rfl⟩ | ⟨e, hd, rs, rfl⟩ | hp | hp
  · exact e
  · exact e
  · exact parseV9_ok_replay c _ _ _ _ _ hp
  · exact parseIpfix_ok_replay c _ _ _ _ _ hp

theorem parsePacket_ok_not_error {c : Config} {st st' : PState} {buf : Bytes} {p : Packet} {r : Bytes}
    (h : parsePacket c st buf = (st', .ok p r)) : ∀ e b, p ≠ .error e b := by
  intro e b hp
  subst hp
  rcases parsePacket_ok_cases h with ⟨_, _, _, ep⟩ | ⟨_, _, _, ep⟩ | hp | hp
  · cases ep
  · cases ep
  · obtain ⟨_, _, _, _, _, ep⟩ := parseV9_ok_inv hp; cases ep
  · obtain ⟨_, _, _, _, _, _, _, ep⟩ := parseIpfix_ok_inv hp; cases ep

theorem parsePacket_unallowed_frame {c : Config} {st st' : PState} {buf : Bytes}
    (h : parsePacket c st buf = (st', .unallowed)) : st' = st := by
  rcases parsePacket_inv _ _ _ _ _ h with ⟨_, _, hs⟩ | ⟨_, _, _, e, _⟩ | ⟨_, _, _, _, _, hs⟩ | ⟨v, kind, _, _, _, hpv⟩
  · cases hs
  · exact e
  · cases hs
  · exact absurd (congrArg Prod.snd hpv) (parseVersioned_ne_unallowed c st kind _)

theorem parseVersioned_failX (c : Config) (st st' : PState) (k : Nat) (i : Bytes) (e : ErrKind)
    (h : parseVersioned c st k i = (st', .fail e)) :
    (e = .partialParse 9 i ∧ st' = (parseV9 c st i).1) ∨ (st' = st ∧ ∀ b, e ≠ .partialParse 9 b) := by
  rcases parseVersioned_fail_inv h with ⟨_, e1, _, rfl⟩ | ⟨_, e1, _, rfl⟩ | ⟨_, hp, rfl⟩ | ⟨_, hp, rfl⟩ | ⟨_, _, _, _, e1, rfl⟩
  · exact Or.inr ⟨e1, fun b hb => by cases hb⟩
  · exact Or.inr ⟨e1, fun b hb => by cases hb⟩
  · exact Or.inl ⟨rfl, by rw [hp]⟩
  · exact Or.inr ⟨parseIpfix_err_frame c st st' i hp, fun b hb => by cases hb⟩
  · exact Or.inr ⟨e1, fun b hb => by cases hb⟩

theorem parsePacket_failX (c : Config) (st st' : PState) (buf : Bytes) (e : ErrKind)
    (h : parsePacket c st buf = (st', .fail e)) : st' = replayPktX c st (.error e buf) := by
  rcases parsePacket_inv c st st' buf _ h with ⟨_, e1, hs⟩ | ⟨_, _, _, e1, hs⟩ | ⟨_, _, _, _, e1, hs⟩ | ⟨v, k, hv, ha, hd, hp⟩
  · simp only [Step.fail.injEq] at hs; subst e1 hs; rfl
  · simp at hs
  · simp only [Step.fail.injEq] at hs; subst e1 hs; rfl
  · rcases parseVersioned_failX c _ _ _ _ _ hp with ⟨e1, e2⟩ | ⟨e1, e2⟩
    · subst e1
      simp only [replayPktX]
      rw [e2, parseV9_state]
    · subst e1
      cases e with
      | partialParse ver b =>
        by_cases hv9 : ver = 9
        · subst hv9; exact absurd rfl (e2 b)
        · unfold replayPktX
          split
          · rename_i heq; simp at heq; exact absurd heq.1.1 hv9
          · rfl
      | _ => rfl

theorem parsePacket_okX (c : Config) (st st' : PState) (buf : Bytes) (p : Packet) (r : Bytes)
    (h : parsePacket c st buf = (st', .ok p r)) : st' = replayPktX c st p := by
  rw [parsePacket_ok_replay h]
  cases p with
  | error e b => exact absurd rfl (parsePacket_ok_not_error h e b)
  | _ => rfl

theorem replayV9Set_other (id : Nat) (st : PState) (s : V9Set) (h : v9Defines id s = false) :
    amLookup id (replayV9Set st s).v9T = amLookup id st.v9T ∧
    amLookup id (replayV9Set st s).v9O = amLookup id st.v9O := by
  unfold replayV9Set replayV9Body
  unfold v9Defines at h
  split
  · rename_i ts pad hb
    rw [hb] at h
    simp only [List.any_eq_false, beq_iff_eq] at h
    exact insertV9Templates_other id ts st h
  · rename_i ts pad hb
    rw [hb] at h
    simp only [List.any_eq_false, beq_iff_eq] at h
    exact insertV9OptTemplates_other id ts st h
  · exact ⟨rfl, rfl⟩

theorem replayV9Set_ip (st : PState) (s : V9Set) :
    (replayV9Set st s).ipT = st.ipT ∧ (replayV9Set st s).ipO = st.ipO := by
  unfold replayV9Set replayV9Body
  split
  · exact insertV9Templates_ip _ st
  · exact insertV9OptTemplates_ip _ st
  · exact ⟨rfl, rfl⟩

theorem replayIpSet_other (id : Nat) (st : PState) (s : IpSet) (h : ipDefines id s = false) :
    amLookup id (replayIpSet st s).ipT = amLookup id st.ipT ∧
    amLookup id (replayIpSet st s).ipO = amLookup id st.ipO := by
  unfold replayIpSet replayIpBody
  unfold ipDefines at h
  split
  · rename_i t hb
    rw [hb] at h
    have ht : id ≠ t.id := by intro e; simp [e] at h
    simp [amLookup_amInsert, ht, amLookup_amErase_ne ht]
  · rename_i t hb
    rw [hb] at h
    have ht : id ≠ t.id := by intro e; simp [e] at h
    simp [amLookup_amInsert, ht, amLookup_amErase_ne ht]
  · exact ⟨rfl, rfl⟩

theorem replayIpSet_v9 (st : PState) (s : IpSet) :
    (replayIpSet st s).v9T = st.v9T ∧ (replayIpSet st s).v9O = st.v9O := by
  unfold replayIpSet replayIpBody
  split <;> exact ⟨rfl, rfl⟩

theorem foldl_replayV9Set_other (id : Nat) (ss : List V9Set) (st : PState) (h : ss.any (v9Defines id) = false) :
    amLookup id (ss.foldl replayV9Set st).v9T = amLookup id st.v9T ∧
    amLookup id (ss.foldl replayV9Set st).v9O = amLookup id st.v9O :=
  foldl_inv (P := fun s => amLookup id s.v9T = amLookup id st.v9T ∧ amLookup id s.v9O = amLookup id st.v9O) ss st
    (fun s a ha hs => by
      obtain ⟨x, y⟩ := replayV9Set_other id s a (by simpa using List.any_eq_false.1 h a ha)
      exact ⟨x.trans hs.1, y.trans hs.2⟩) ⟨rfl, rfl⟩

theorem foldl_replayIpSet_other (id : Nat) (ss : List IpSet) (st : PState) (h : ss.any (ipDefines id) = false) :
    amLookup id (ss.foldl replayIpSet st).ipT = amLookup id st.ipT ∧
    amLookup id (ss.foldl replayIpSet st).ipO = amLookup id st.ipO :=
  foldl_inv (P := fun s => amLookup id s.ipT = amLookup id st.ipT ∧ amLookup id s.ipO = amLookup id st.ipO) ss st
    (fun s a ha hs => by
      obtain ⟨x, y⟩ := replayIpSet_other id s a (by simpa using List.any_eq_false.1 h a ha)
      exact ⟨x.trans hs.1, y.trans hs.2⟩) ⟨rfl, rfl⟩

theorem foldl_replayV9Set_ip (ss : List V9Set) (st : PState) :
    (ss.foldl replayV9Set st).ipT = st.ipT ∧ (ss.foldl replayV9Set st).ipO = st.ipO :=
  foldl_inv (P := fun s => s.ipT = st.ipT ∧ s.ipO = st.ipO) ss st
    (fun s a _ hs => ⟨(replayV9Set_ip s a).1.trans hs.1, (replayV9Set_ip s a).2.trans hs.2⟩) ⟨rfl, rfl⟩

theorem foldl_replayIpSet_v9 (ss : List IpSet) (st : PState) :
    (ss.foldl replayIpSet st).v9T = st.v9T ∧ (ss.foldl replayIpSet st).v9O = st.v9O :=
  foldl_inv (P := fun s => s.v9T = st.v9T ∧ s.v9O = st.v9O) ss st
    (fun s a _ hs => ⟨(replayIpSet_v9 s a).1.trans hs.1, (replayIpSet_v9 s a).2.trans hs.2⟩) ⟨rfl, rfl⟩

theorem replayPkt_other_v9 (id : Nat) (st : PState) (p : Packet) (h : pktDefinesV9 id p = false) :
    amLookup id (replayPkt st p).v9T = amLookup id st.v9T ∧
    amLookup id (replayPkt st p).v9O = amLookup id st.v9O := by
  cases p with
  | v9 hd ss => exact foldl_replayV9Set_other id ss st h
  | ipfix hd ss =>
    obtain ⟨a, b⟩ := foldl_replayIpSet_v9 ss st
    simp [replayPkt, a, b]
  | _ => exact ⟨rfl, rfl⟩

theorem replayPkt_other_ip (id : Nat) (st : PState) (p : Packet) (h : pktDefinesIp id p = false) :
    amLookup id (replayPkt st p).ipT = amLookup id st.ipT ∧
    amLookup id (replayPkt st p).ipO = amLookup id st.ipO := by
  cases p with
  | ipfix hd ss => exact foldl_replayIpSet_other id ss st h
  | v9 hd ss =>
    obtain ⟨a, b⟩ := foldl_replayV9Set_ip ss st
    simp [replayPkt, a, b]
  | _ => exact ⟨rfl, rfl⟩

theorem replay_other_v9 (id : Nat) (ps : List Packet) (st : PState) (h : ∀ p ∈ ps, pktDefinesV9 id p = false) :
    amLookup id (replay st ps).v9T = amLookup id st.v9T ∧
    amLookup id (replay st ps).v9O = amLookup id st.v9O :=
  foldl_inv (P := fun s => amLookup id s.v9T = amLookup id st.v9T ∧ amLookup id s.v9O = amLookup id st.v9O) ps st
    (fun s p hp hs => by
      obtain ⟨x, y⟩ := replayPkt_other_v9 id s p (h p hp)
      exact ⟨x.trans hs.1, y.trans hs.2⟩) ⟨rfl, rfl⟩

theorem replay_other_ip (id : Nat) (ps : List Packet) (st : PState) (h : ∀ p ∈ ps, pktDefinesIp id p = false) :
    amLookup id (replay st ps).ipT = amLookup id st.ipT ∧
    amLookup id (replay st ps).ipO = amLookup id st.ipO :=
  foldl_inv (P := fun s => amLookup id s.ipT = amLookup id st.ipT ∧ amLookup id s.ipO = amLookup id st.ipO) ps st
    (fun s p hp hs => by
      obtain ⟨x, y⟩ := replayPkt_other_ip id s p (h p hp)
      exact ⟨x.trans hs.1, y.trans hs.2⟩) ⟨rfl, rfl⟩

theorem replayIpSet_agreeIp (s1 s2 : PState) (s : IpSet) (h : AgreeIp s1 s2) :
    AgreeIp (replayIpSet s1 s) (replayIpSet s2 s) := by
  obtain ⟨h1, h2⟩ := h
  unfold replayIpSet replayIpBody
  split <;> simp [AgreeIp, h1, h2]

theorem replayPkt_agreeIp (s1 s2 : PState) (p : Packet) (h : AgreeIp s1 s2) :
    AgreeIp (replayPkt s1 p) (replayPkt s2 p) := by
  cases p with
  | ipfix hd ss => exact foldl_rel ss s1 s2 (fun s t a _ => replayIpSet_agreeIp s t a) h
  | v9 hd ss =>
    obtain ⟨a1, a2⟩ := foldl_replayV9Set_ip ss s1
    obtain ⟨b1, b2⟩ := foldl_replayV9Set_ip ss s2
    exact ⟨a1.trans (h.1.trans b1.symm), a2.trans (h.2.trans b2.symm)⟩
  | _ => exact h

theorem replay_agreeIp (ps : List Packet) (s1 s2 : PState) (h : AgreeIp s1 s2) : AgreeIp (replay s1 ps) (replay s2 ps) :=
  foldl_rel ps s1 s2 (fun s t p _ => replayPkt_agreeIp s t p) h

/-- the packet loop, unconditionally: the state after a call is the extended replay of what was reported -/
theorem _root_.Netflow.Run.replayX {c : Config} {st st' : PState} {buf : Bytes} {pkts : List Packet} (h : Run c st buf st' pkts) :
    st' = replayX c st pkts := by
  induction h with
  | nil => rfl
  | ok hp _ ih => rw [ih, parsePacket_okX c _ _ _ _ _ hp]; rfl
  | fail _ hp => rw [parsePacket_failX c _ _ _ _ hp]; rfl
  | unallowed _ hp => rw [parsePacket_unallowed_frame hp]; rfl

theorem parseBytesF_replayX (c : Config) (f : Nat) (st st' : PState) (buf : Bytes) (pkts : List Packet)
    (h : parseBytesF c f st buf = (st', .done pkts)) : st' = replayX c st pkts :=
  (parseBytesF_run c f st st' buf pkts h).replayX

theorem replayPktX_eq_replayPkt (c : Config) (st : PState) (p : Packet)
    (h : ∀ b r, p ≠ .error (.partialParse 9 b) r) : replayPktX c st p = replayPkt st p := by
  unfold replayPktX
  split
  · rename_i b r
    exact absurd rfl (h b r)
  · rfl

theorem replayX_eq_replay (c : Config) (ps : List Packet) (st : PState)
    (h : ∀ b r, Packet.error (.partialParse 9 b) r ∉ ps) : replayX c st ps = replay st ps :=
  foldl_rel (R := Eq) ps st st
    (fun s t p hp e => by
      rw [e, replayPktX_eq_replayPkt c t p (fun b r hb => h b r (hb ▸ hp))]) rfl

theorem replayX_concat (c : Config) (st : PState) (front : List Packet) (last : Packet) :
    replayX c st (front ++ [last]) = replayPktX c (replayX c st front) last := by
  simp [replayX, List.foldl_append]

/-- an error element can only be the last element of a call's result -/
theorem _root_.Netflow.Run.errors_last {c : Config} {st st' : PState} {buf : Bytes} {pkts : List Packet}
    (h : Run c st buf st' pkts) : ∀ p ∈ pkts.dropLast, ∀ e r, p ≠ .error e r := by
  induction h with
  | nil => intro p hp; cases hp
  | @ok _ _ _ _ _ pkt ps hp _ ih =>
    intro p hm
    cases ps with
    | nil => cases hm
    | cons q qs =>
      rw [List.dropLast_cons_cons] at hm
      rcases List.mem_cons.1 hm with rfl | hm
      · exact parsePacket_ok_not_error hp
      · exact ih p hm
  | fail => intro p hp; cases hp
  | unallowed => intro p hp; cases hp

theorem parseBytesF_errors_last (c : Config) (f : Nat) (st st' : PState) (buf : Bytes) (pkts : List Packet)
    (h : parseBytesF c f st buf = (st', .done pkts)) : ∀ p ∈ pkts.dropLast, ∀ e r, p ≠ .error e r :=
  (parseBytesF_run c f st st' buf pkts h).errors_last

theorem replayPktX_agreeIp (c : Config) (s t : PState) (p : Packet) (h : AgreeIp s t) :
    AgreeIp (replayPktX c s p) (replayPkt t p) := by
  unfold replayPktX
  split
  · obtain ⟨a, b⟩ := foldl_replayV9Set_ip (v9Learned c s _) s
    exact ⟨a.trans h.1, b.trans h.2⟩
  · exact replayPkt_agreeIp s t _ h

/-- the packet loop: the IPFIX maps are always the replay of what was reported; the whole state is,
    unless the call ended in a failing V9 packet -/
theorem parseBytesF_replay (c : Config) (f : Nat) (st st' : PState) (buf : Bytes) (pkts : List Packet)
    (h : parseBytesF c f st buf = (st', .done pkts)) :
    AgreeIp st' (replay st pkts) ∧ (endsInV9Err pkts = false → st' = replay st pkts) := by
  rw [parseBytesF_replayX c f st st' buf pkts h]
  refine ⟨foldl_rel pkts st st (fun s t p _ => replayPktX_agreeIp c s t p) ⟨rfl, rfl⟩, fun hl => ?_⟩
  refine replayX_eq_replay c pkts st fun b r hm => ?_
  cases hg : pkts.getLast? with
  | none => rw [List.getLast?_eq_none_iff.1 hg] at hm; cases hm
  | some a =>
    obtain ⟨ys, e⟩ := List.getLast?_eq_some_iff.1 hg
    have hd : pkts.dropLast = ys := by rw [e, List.dropLast_concat]
    rw [e, List.mem_append, List.mem_singleton] at hm
    rcases hm with hm | rfl
    · exact parseBytesF_errors_last c f st st' buf pkts h _ (hd ▸ hm) _ _ rfl
    · rw [endsInV9Err, hg] at hl; cases hl

theorem parseBytes_replay (c : Config) (st st' : PState) (buf : Bytes) (pkts : List Packet)
    (h : parseBytes c st buf = (st', .done pkts)) :
    AgreeIp st' (replay st pkts) ∧ (endsInV9Err pkts = false → st' = replay st pkts) :=
  parseBytesF_replay c _ _ _ _ _ h

theorem parseBytes_eq_done (c : Config) (st : PState) (buf : Bytes) :
    parseBytes c st buf = ((parseBytes c st buf).1, .done (outPkts (parseBytes c st buf).2)) := by
  obtain ⟨pkts, hd⟩ := parseBytes_done c st buf
  apply Prod.ext
  · rfl
  · simp only [hd, outPkts]

theorem endsInV9Err_false_of_not_mem (pkts : List Packet)
    (h : ∀ b r, Packet.error (.partialParse 9 b) r ∉ pkts) : endsInV9Err pkts = false := by
  rw [endsInV9Err_iff]
  intro b r e
  exact h b r (List.mem_of_getLast? e)

theorem hist_replay (c : Config) : ∀ (hist : List Bytes) (st : PState),
    (∀ b r, Packet.error (.partialParse 9 b) r ∉ histPkts c st hist) →
    hist.foldl (fun s b => (parseBytes c s b).1) st = replay st (histPkts c st hist) := by
  intro hist
  induction hist with
  | nil => intro st _; rfl
  | cons b bs ih =>
    intro st h
    simp only [List.foldl_cons, histPkts]
    have h1 : ∀ b' r, Packet.error (.partialParse 9 b') r ∉ outPkts (parseBytes c st b).2 :=
      fun b' r hm => h b' r (by simp only [histPkts]; exact List.mem_append_left _ hm)
    have h2 : ∀ b' r, Packet.error (.partialParse 9 b') r ∉ histPkts c (parseBytes c st b).1 bs :=
      fun b' r hm => h b' r (by simp only [histPkts]; exact List.mem_append_right _ hm)
    have e := (parseBytes_replay c st _ b _ (parseBytes_eq_done c st b)).2 (endsInV9Err_false_of_not_mem _ h1)
    rw [replay_append, ← e]
    exact ih _ h2

theorem hist_replay_ip (c : Config) : ∀ (hist : List Bytes) (st : PState),
    AgreeIp (hist.foldl (fun s b => (parseBytes c s b).1) st) (replay st (histPkts c st hist)) := by
  intro hist
  induction hist with
  | nil => intro st; exact ⟨rfl, rfl⟩
  | cons b bs ih =>
    intro st
    simp only [List.foldl_cons, histPkts]
    have e := (parseBytes_replay c st _ b _ (parseBytes_eq_done c st b)).1
    rw [replay_append]
    obtain ⟨i1, i2⟩ := ih (parseBytes c st b).1
    obtain ⟨j1, j2⟩ := replay_agreeIp (histPkts c (parseBytes c st b).1 bs) _ _ e
    exact ⟨i1.trans j1, i2.trans j2⟩

def v9IsTemplateSet (s : V9Set) : Bool :=
  match s.body with
  | .templates _ _ => true
  | .optTemplates _ _ => true
  | _ => false

def ipIsTemplateSet (s : IpSet) : Bool :=
  match s.body with
  | .template _ => true
  | .optTemplate _ => true
  | _ => false

/-- the packet reports at least one template / options-template set -/
def pktHasTemplateSet : Packet → Bool
  | .v9 _ ss => ss.any v9IsTemplateSet
  | .ipfix _ ss => ss.any ipIsTemplateSet
  | _ => false

theorem replayPkt_no_template (st : PState) (p : Packet) (h : pktHasTemplateSet p = false) : replayPkt st p = st := by
  cases p with
  | v9 hd ss =>
    refine foldl_inv (P := (· = st)) ss st (fun s a ha hs => ?_) rfl
    have h1 := List.any_eq_false.1 h a ha
    unfold v9IsTemplateSet at h1
    rw [hs]
    unfold replayV9Set replayV9Body
    split <;> simp_all
  | ipfix hd ss =>
    refine foldl_inv (P := (· = st)) ss st (fun s a ha hs => ?_) rfl
    have h1 := List.any_eq_false.1 h a ha
    unfold ipIsTemplateSet at h1
    rw [hs]
    unfold replayIpSet replayIpBody
    split <;> simp_all
  | _ => rfl

theorem replay_no_template (ps : List Packet) (st : PState) (h : ∀ p ∈ ps, pktHasTemplateSet p = false) :
    replay st ps = st :=
  foldl_inv (P := (· = st)) ps st (fun s p hp hs => by rw [hs]; exact replayPkt_no_template st p (h p hp)) rfl

end Netflow.P1
