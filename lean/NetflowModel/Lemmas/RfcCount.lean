/-
  Lemmas/RfcCount.lean — for Props/C04c.lean: the V9 header `count` as RFC 3954 defines it (number of RECORDS in the
  packet, not number of flowsets).  The flowset loop skips every iteration that starts with empty input, so a packet
  that ends its buffer decodes the same under any `count ≥ number of flowsets`.
-/
import NetflowModel.Lemmas.V9Frame
import NetflowModel.Lemmas.Inversion
namespace Netflow.P3
open Netflow Netflow.Spec

theorem v9ParseSets_add (c : Config) (k : Nat) :
    ∀ (n : Nat) (st st' : PState) (i : Bytes) (ss : List V9Set),
      v9ParseSets c n st i = (st', .ok (ss, [])) → v9ParseSets c (n + k) st i = (st', .ok (ss, [])) := by
  intro n
  induction n with
  | zero =>
    intro st st' i ss h
    rw [v9ParseSets_zero] at h
    cases h
    rw [Nat.zero_add]
    exact v9ParseSets_nil c k st
  | succ n ih =>
    intro st st' i ss h
    rw [show n + 1 + k = (n + k) + 1 by omega]
    by_cases hne : i = []
    · subst hne
      rw [v9ParseSets_nil] at h ⊢
      exact h
    · obtain ⟨st1, s, r1, ss', hs, hrest, rfl⟩ := v9ParseSets_succ_ok_inv hne h
      exact v9ParseSets_succ_ok_intro hne hs (ih _ _ _ _ hrest)

theorem v9ParseSets_enc_le (c : Config) (names : List (Nat × String)) (harms : DnArmsOk c.t.dnArms) (hl : V9LayoutOk c.t)
    (ss : List V9FS) (n : Nat) (hn : ss.length ≤ n) (d d2 : List (Nat × V9Def)) (st : PState) (outs : List V9Set)
    (hR : Repr9 d st) (hexp : expV9Sets c names d ss = some (d2, some outs)) (hconf : setsConf c names d ss = true) :
    ∃ st', v9ParseSets c n st (ss.flatMap encV9FS) = (st', .ok (outs, [])) ∧ Repr9 d2 st' := by
  obtain ⟨st', hp, hR'⟩ := v9ParseSets_enc c names harms hl ss d d2 st outs [] hR hexp hconf
  rw [List.append_nil] at hp
  obtain ⟨k, rfl⟩ := Nat.exists_eq_add_of_le hn
  exact ⟨st', v9ParseSets_add c k _ st st' _ outs hp, hR'⟩

/-- the header-level conformance conditions (numbers fit their wire widths) and the per-flowset
    conditions `setsConf`; NOTHING relates `count` to the number of flowsets.  (Same formula as
    `Props.C04Conformant`.) -/
def hdrSetsConf (c : Config) (names : List (Nat × String)) (d : List (Nat × V9Def)) (m : V9Msg) : Bool :=
  decide (m.count < 65536) && decide (m.sysUpTime < 4294967296) && decide (m.unixSecs < 4294967296) &&
  decide (m.seq < 4294967296) && decide (m.sourceId < 4294967296) && setsConf c names d m.sets

/-- number of records in one flowset: template records, options-template records, or data records -/
def fsRecords : V9FS → Nat
  | .templates ts _ => ts.length
  | .optTemplates ts _ => ts.length
  | .data _ recs _ => recs.length

/-- RFC 3954 §5.1 `Count`: "the total number of records in the Export Packet, which is the sum of
    Options FlowSet records, Template FlowSet records, and Data FlowSet records" -/
def rfcCount (m : V9Msg) : Nat := (m.sets.map fsRecords).sum

theorem length_le_sum_fsRecords : ∀ (ss : List V9FS), (∀ s ∈ ss, 1 ≤ fsRecords s) → ss.length ≤ (ss.map fsRecords).sum
  | [], _ => Nat.le_refl _
  | s :: ss, h => by
    have h1 := h s (List.mem_cons_self ..)
    have h2 := length_le_sum_fsRecords ss (fun x hx => h x (List.mem_cons_of_mem _ hx))
    simp only [List.length_cons, List.map_cons, List.sum_cons]
    omega

theorem length_le_rfcCount (m : V9Msg) (h : ∀ s ∈ m.sets, 1 ≤ fsRecords s) : m.sets.length ≤ rfcCount m :=
  length_le_sum_fsRecords m.sets h

/-- decidable form of "no flowset is empty" -/
def noEmptySet (m : V9Msg) : Bool := m.sets.all fun s => decide (1 ≤ fsRecords s)

theorem length_le_rfcCount_of_noEmptySet (m : V9Msg) (h : noEmptySet m = true) : m.sets.length ≤ rfcCount m := by
  apply length_le_rfcCount
  intro s hs
  simp only [noEmptySet, List.all_eq_true, decide_eq_true_eq] at h
  exact h s hs

/-- the count is strictly larger than the number of flowsets as soon as one flowset holds two records
    (so `Spec.expMsg`, which demands `count = number of flowsets`, rejects the RFC-conformant header) -/
theorem length_lt_sum_fsRecords : ∀ (ss : List V9FS), (∀ s ∈ ss, 1 ≤ fsRecords s) → (∃ s ∈ ss, 2 ≤ fsRecords s) →
    ss.length < (ss.map fsRecords).sum
  | [], _, h => by obtain ⟨s, hs, _⟩ := h; cases hs
  | s :: ss, h, h2 => by
    have h1 := h s (List.mem_cons_self ..)
    have hle := length_le_sum_fsRecords ss (fun x hx => h x (List.mem_cons_of_mem _ hx))
    simp only [List.length_cons, List.map_cons, List.sum_cons]
    obtain ⟨x, hx, hx2⟩ := h2
    rcases List.mem_cons.mp hx with rfl | hx'
    · omega
    · have := length_lt_sum_fsRecords ss (fun x hx => h x (List.mem_cons_of_mem _ hx)) ⟨x, hx', hx2⟩
      omega

end Netflow.P3
