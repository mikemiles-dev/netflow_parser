/-
  Lemmas/RoundTrip.lean — print-then-parse, the parts shared by the V9 and the IPFIX proof: numbers of
  the wire widths 1, 2, 4 (`beU1_toBE`, `beU2_toBE`, `beU4_toBE`), the length of a written set
  (`frame_length`), and the repetition combinators (if an element parser reads back what its writer
  wrote, whatever follows, so do `count` and greedy `many0` over the concatenation of written elements);
  `allSome` of a non-empty list, for the exporters' all-or-nothing results.
-/
import NetflowModel.Lemmas.Inversion
import NetflowModel.Spec.Expected
namespace Netflow
open Spec

theorem takeN_append' {n : Nat} (x r : Bytes) (h : x.length = n) : takeN n (x ++ r) = some (x, r) :=
  takeN_append x r h

theorem beU1_toBE {n : Nat} (h : n < 256) (r : Bytes) : beU 1 (toBE 1 n ++ r) = some (n, r) :=
  beU_toBE_append r h

theorem beU2_toBE {n : Nat} (h : n < 65536) (r : Bytes) : beU 2 (toBE 2 n ++ r) = some (n, r) :=
  beU_toBE_append r h

theorem beU4_toBE {n : Nat} (h : n < 4294967296) (r : Bytes) : beU 4 (toBE 4 n ++ r) = some (n, r) :=
  beU_toBE_append r h

theorem frame_length (id : Nat) (body : Bytes) : (frame id body).length = body.length + 4 := by
  simp only [frame, List.length_append, toBE_length]; omega

theorem flatMap_length_ge {α : Type} (enc : α → Bytes) (k : Nat) (as : List α)
    (h : ∀ a ∈ as, k ≤ (enc a).length) : k * as.length ≤ (as.flatMap enc).length := by
  induction as with
  | nil => simp
  | cons a as ih =>
    have h1 := h a List.mem_cons_self
    have h2 := ih (fun b hb => h b (List.mem_cons_of_mem _ hb))
    simp only [List.flatMap_cons, List.length_append, List.length_cons, Nat.mul_succ]
    omega

/-- print-then-parse for a list: if `p` reads back `out x` from `enc x` followed by anything, `countP p`
    reads back the whole list -/
theorem countP_enc_map {α β : Type} (p : P α) (enc : β → Bytes) (out : β → α) (tail : Bytes) :
    ∀ (xs : List β), (∀ x ∈ xs, ∀ t, p (enc x ++ t) = some (out x, t)) →
      countP p xs.length (xs.flatMap enc ++ tail) = some (xs.map out, tail)
  | [], _ => rfl
  | x :: xs, h => by
    have h1 := h x List.mem_cons_self (xs.flatMap enc ++ tail)
    have h2 := countP_enc_map p enc out tail xs fun y hy => h y (List.mem_cons_of_mem _ hy)
    simp only [List.length_cons, countP, List.flatMap_cons, List.append_assoc, h1, h2, List.map_cons]

theorem countP_roundtrip {α : Type} (p : P α) (enc : α → Bytes) (ok : α → Prop)
    (hp : ∀ a r, ok a → p (enc a ++ r) = some (a, r)) (as : List α) (r : Bytes) (hok : ∀ a ∈ as, ok a) :
    countP p as.length (as.flatMap enc ++ r) = some (as, r) := by
  simpa only [List.map_id] using countP_enc_map p enc id r as fun a ha t => hp a t (hok a ha)

/-- `many0` is greedy: it returns exactly the written elements only if the element parser fails on
    what follows them (`hpad`); every written element must occupy at least one byte (`hpos`), else
    nom's no-progress check fails the loop. -/
theorem many0F_enc {α : Type} (p : P α) (enc : α → Bytes) (ok : α → Prop)
    (hp : ∀ a r, ok a → p (enc a ++ r) = some (a, r)) (hpos : ∀ a, ok a → 0 < (enc a).length) :
    ∀ (as : List α) (pad : Bytes) (fuel : Nat), (∀ a ∈ as, ok a) → p pad = none → as.length < fuel →
      many0F p fuel (as.flatMap enc ++ pad) = .ok (as, pad) := by
  intro as
  induction as with
  | nil =>
    intro pad fuel _ hpad hf
    cases fuel with
    | zero => omega
    | succ f => simp [many0F, hpad]
  | cons a as ih =>
    intro pad fuel hok hpad hf
    cases fuel with
    | zero => omega
    | succ f =>
      have hw := hok a List.mem_cons_self
      have h1 := hpos a hw
      simp only [List.length_cons] at hf
      have hne : ¬ (as.flatMap enc ++ pad).length = (enc a ++ (as.flatMap enc ++ pad)).length := by
        rw [List.length_append (as := enc a)]; omega
      simp only [many0F, List.flatMap_cons, List.append_assoc, hp a _ hw, hne, ↓reduceIte,
        ih pad f (fun x hx => hok x (List.mem_cons_of_mem _ hx)) hpad (by omega)]

theorem many0_enc {α : Type} (p : P α) (enc : α → Bytes) (ok : α → Prop)
    (hp : ∀ a r, ok a → p (enc a ++ r) = some (a, r)) (hpos : ∀ a, ok a → 0 < (enc a).length)
    (as : List α) (pad : Bytes) (hok : ∀ a ∈ as, ok a) (hpad : p pad = none) :
    many0 p (as.flatMap enc ++ pad) = .ok (as, pad) := by
  apply many0F_enc p enc ok hp hpos as pad _ hok hpad
  have := flatMap_length_ge enc 1 as (fun a ha => hpos a (hok a ha))
  rw [List.length_append]
  omega

theorem allSome_cons_some {α : Type} {x : Option α} {xs : List (Option α)} {out : List α}
    (h : allSome (x :: xs) = some out) : ∃ a as, x = some a ∧ allSome xs = some as ∧ out = a :: as := by
  cases x with
  | none => simp [allSome] at h
  | some a =>
    simp only [allSome, Option.map_eq_some_iff] at h
    obtain ⟨as, h1, h2⟩ := h
    exact ⟨a, as, rfl, h1, h2.symm⟩

end Netflow
