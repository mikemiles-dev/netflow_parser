/-
  Lemmas/State.lean — the parser state across a call: outcome shape (no panic, no fuel exhaustion),
  lifting of relations (`Rel2`, `RespV9/Ip`) from the set-body parsers to `parseV9` / `parseIpfix` and of invariants to `parseBytes`,
  `insErase` (the cache update), and the state predicates `AgreeV9/Ip`, `KnownV9/Ip`, `StateWf`,
  `CacheValid`, with `PktAll` / `DataKnown` lifted to every returned packet.
-/
import NetflowModel.Lemmas.Consume
namespace Netflow

/-! ### no panic, no fuel exhaustion

  No function of the model produces `.panic` (the crate's one panic site, a division by the template size, went with /repo's fix bf87dd4), and every
  loop is given more fuel than it has bytes to consume.  Level by level: a bad outcome can only be
  handed up from the level below. -/

theorem parseIpTemplate_no_panic_overflow (b : Bytes) : parseIpTemplate b ≠ .panic ∧ parseIpTemplate b ≠ .overflow := by
  unfold parseIpTemplate
  have := fun i => many0_fuel parseIpTField_suffix i
  grind

theorem parseIpOptTemplate_no_panic_overflow (b : Bytes) : parseIpOptTemplate b ≠ .panic ∧ parseIpOptTemplate b ≠ .overflow := by
  unfold parseIpOptTemplate
  grind

theorem ipRecLoop_no_panic (c : Config) (fs : List IpTField) :
    ∀ (f : Nat) (i : Bytes), ipRecLoop c fs f i ≠ .panic := by
  intro f
  induction f with
  | zero => intro i; simp [ipRecLoop]
  | succ f ih =>
    intro i
    unfold ipRecLoop
    have := ih
    grind

/-- with more fuel than bytes the IPFIX record loop never runs out (an iteration that goes on consumed a byte) -/
theorem ipRecLoop_no_overflow (c : Config) (fs : List IpTField) :
    ∀ (f : Nat) (i : Bytes), i.length < f → ipRecLoop c fs f i ≠ .overflow := by
  intro f
  induction f with
  | zero => intro i h; omega
  | succ f ih =>
    intro i h
    unfold ipRecLoop
    have := ih
    grind

theorem v9ParseBody_no_panic_overflow (c : Config) (st : PState) (id : Nat) (b : Bytes) :
    (v9ParseBody c st id b).2 ≠ .panic ∧ (v9ParseBody c st id b).2 ≠ .overflow := by
  unfold v9ParseBody
  have := fun i => many0_fuel parseV9Template_suffix i
  have := fun i => many0_fuel parseV9OptTemplate_suffix i
  grind

theorem v9ParseSet_no_panic_overflow (c : Config) (st : PState) (i : Bytes) :
    (v9ParseSet c st i).2 ≠ .panic ∧ (v9ParseSet c st i).2 ≠ .overflow := by
  unfold v9ParseSet
  grind [v9ParseBody_no_panic_overflow]

theorem v9ParseSets_no_panic_overflow (c : Config) : ∀ (n : Nat) (st : PState) (i : Bytes),
    (v9ParseSets c n st i).2 ≠ .panic ∧ (v9ParseSets c n st i).2 ≠ .overflow := by
  intro n
  induction n with
  | zero => intro st i; simp [v9ParseSets]
  | succ n ih =>
    intro st i
    unfold v9ParseSets
    grind [v9ParseSet_no_panic_overflow]

theorem parseV9_no_panic_overflow (c : Config) (st : PState) (i : Bytes) :
    (parseV9 c st i).2 ≠ .panic ∧ (parseV9 c st i).2 ≠ .overflow := by
  unfold parseV9
  grind [v9ParseSets_no_panic_overflow]

theorem ipParseBody_no_panic_overflow (c : Config) (st : PState) (id : Nat) (b : Bytes) :
    (ipParseBody c st id b).2 ≠ .panic ∧ (ipParseBody c st id b).2 ≠ .overflow := by
  unfold ipParseBody
  have := fun fs => ipRecLoop_no_overflow c fs (b.length + 1) b (Nat.lt_succ_self _)
  grind [parseIpTemplate_no_panic_overflow, parseIpOptTemplate_no_panic_overflow, ipRecLoop_no_panic]

theorem ipParseSet_no_panic_overflow (c : Config) (st : PState) (i : Bytes) :
    (ipParseSet c st i).2 ≠ .panic ∧ (ipParseSet c st i).2 ≠ .overflow := by
  unfold ipParseSet
  grind [ipParseBody_no_panic_overflow]

theorem ipParseSets_no_panic (c : Config) : ∀ (n : Nat) (st : PState) (i : Bytes),
    (ipParseSets c n st i).2 ≠ .panic := by
  intro n
  induction n with
  | zero => intro st i; simp [ipParseSets]
  | succ n ih =>
    intro st i
    unfold ipParseSets
    grind [ipParseSet_no_panic_overflow]

/-- with more fuel than bytes the IPFIX set loop never runs out (a set that parsed made progress, or the loop stops) -/
theorem ipParseSets_no_overflow (c : Config) : ∀ (f : Nat) (st : PState) (i : Bytes), i.length < f →
    (ipParseSets c f st i).2 ≠ .overflow := by
  intro f
  induction f with
  | zero => intro st i h; omega
  | succ f ih =>
    intro st i h
    unfold ipParseSets
    have := @ipParseSet_le c st
    grind [ipParseSet_no_panic_overflow]

theorem parseIpfix_no_panic_overflow (c : Config) (st : PState) (i : Bytes) :
    (parseIpfix c st i).2 ≠ .panic ∧ (parseIpfix c st i).2 ≠ .overflow := by
  unfold parseIpfix
  have := fun st b => ipParseSets_no_overflow c (List.length b + 1) st b (Nat.lt_succ_self _)
  grind [ipParseSets_no_panic]

theorem parseVersioned_no_panic_overflow (c : Config) (st : PState) (k : Nat) (i : Bytes) :
    (parseVersioned c st k i).2 ≠ .panic ∧ (parseVersioned c st k i).2 ≠ .overflow := by
  have h9 := parseV9_no_panic_overflow c st i
  have h10 := parseIpfix_no_panic_overflow c st i
  rcases parseVersioned_cases c st k i with
    ⟨_, ⟨_, _, _, _, e⟩ | ⟨_, e⟩⟩ | ⟨_, ⟨_, _, _, _, e⟩ | ⟨_, e⟩⟩ | ⟨_, e⟩ | ⟨_, e⟩ | ⟨_, _, _, _, e⟩
  all_goals rw [e]
  any_goals exact ⟨Step.noConfusion, Step.noConfusion⟩
  · exact ⟨fun h => h9.1 (liftRes_panic.1 h), fun h => h9.2 (liftRes_overflow.1 h)⟩
  · exact ⟨fun h => h10.1 (liftRes_panic.1 h), fun h => h10.2 (liftRes_overflow.1 h)⟩

theorem parsePacket_no_panic_overflow (c : Config) (st : PState) (i : Bytes) :
    (parsePacket c st i).2 ≠ .panic ∧ (parsePacket c st i).2 ≠ .overflow := by
  cases hp : parsePacket c st i with
  | mk st' s =>
    show s ≠ .panic ∧ s ≠ .overflow
    rcases parsePacket_inv c st st' i s hp with ⟨_, _, e⟩ | ⟨_, _, _, _, e⟩ | ⟨_, _, _, _, _, e⟩ | ⟨_, k, _, _, _, e⟩
    · subst e; exact ⟨Step.noConfusion, Step.noConfusion⟩
    · subst e; exact ⟨Step.noConfusion, Step.noConfusion⟩
    · subst e; exact ⟨Step.noConfusion, Step.noConfusion⟩
    · have := parseVersioned_no_panic_overflow c st k (i.drop 2)
      rwa [e] at this

theorem parsePacket_no_panic (c : Config) (st : PState) (i : Bytes) : (parsePacket c st i).2 ≠ .panic :=
  (parsePacket_no_panic_overflow c st i).1

theorem parsePacket_no_overflow (c : Config) (st : PState) (i : Bytes) : (parsePacket c st i).2 ≠ .overflow :=
  (parsePacket_no_panic_overflow c st i).2

theorem Outcome.cons_panic {p : Packet} {o : Outcome} {ps : List Packet} :
    o.cons p = .panic ps → ∃ ps', o = .panic ps' := by
  cases o <;> simp [Outcome.cons]

theorem Outcome.cons_overflow {p : Packet} {o : Outcome} {ps : List Packet} :
    o.cons p = .overflow ps → ∃ ps', o = .overflow ps' := by
  cases o <;> simp [Outcome.cons]

theorem parseBytesF_no_panic (c : Config) : ∀ (n : Nat) (st : PState) (i : Bytes) (ps : List Packet),
    (parseBytesF c n st i).2 ≠ .panic ps := by
  intro n
  induction n with
  | zero => intro st i; simp [parseBytesF]
  | succ n ih =>
    intro st i
    unfold parseBytesF
    grind [parsePacket_no_panic, Outcome.cons_panic]

/-- with more fuel than bytes the packet loop never runs out (a packet followed by another consumed ≥ 2 bytes) -/
theorem parseBytesF_no_overflow (c : Config) : ∀ (f : Nat) (st : PState) (buf : Bytes) (ps : List Packet),
    buf.length < f → (parseBytesF c f st buf).2 ≠ .overflow ps := by
  intro f
  induction f with
  | zero => intro st buf ps h; omega
  | succ f ih =>
    intro st buf ps h
    unfold parseBytesF
    have := parsePacket_progress c st
    grind [parsePacket_no_overflow, Outcome.cons_overflow]

/-- `parse_bytes` (model) always returns a list: no panic outcome, no fuel exhaustion -/
theorem parseBytes_done (c : Config) (st : PState) (buf : Bytes) :
    ∃ pkts, (parseBytes c st buf).2 = .done pkts := by
  cases h : (parseBytes c st buf).2 with
  | done ps => exact ⟨ps, rfl⟩
  | panic ps => exact absurd h (parseBytesF_no_panic c _ _ _ _)
  | overflow ps => exact absurd h (parseBytesF_no_overflow c _ _ _ _ (Nat.lt_succ_self _))

/-- packets returned: two bytes each except possibly the last element -/
theorem Run.two_mul_length_le {c : Config} {st st' : PState} {buf : Bytes} {ps : List Packet} (h : Run c st buf st' ps) :
    2 * ps.length ≤ buf.length + 1 := by
  induction h with
  | nil => simp
  | ok hp _ ih => have := parsePacket_progress c _ _ _ _ _ hp; simp only [List.length_cons]; omega
  | fail hne _ => have := List.length_pos_iff.2 hne; simp only [List.length_singleton]; omega
  | unallowed => simp

theorem parseBytesF_count (c : Config) (f : Nat) (st st' : PState) (buf : Bytes) (ps : List Packet)
    (h : parseBytesF c f st buf = (st', .done ps)) : 2 * ps.length ≤ buf.length + 1 :=
  (parseBytesF_run c f st st' buf ps h).two_mul_length_le

/-! ### lifting a relation between parser states from the set-body parsers to `parseV9` / `parseIpfix`

  `Rel2 R x y` : the two runs return the same result and `R`-related states; `RespV9 c R` / `RespIp c R` :
  the V9 / IPFIX set-body parser respects `R` in that sense.  Invariants are the special case
  `R s1 s2 := s1 = s2 ∧ I s1` (the `_pres` lemmas), and only they are carried on to `parseBytes`. -/

def Rel2 {α : Type} (R : PState → PState → Prop) (x y : PState × α) : Prop := x.2 = y.2 ∧ R x.1 y.1

def RespV9 (c : Config) (R : PState → PState → Prop) : Prop :=
  ∀ s1 s2 id b, R s1 s2 → Rel2 R (v9ParseBody c s1 id b) (v9ParseBody c s2 id b)

def RespIp (c : Config) (R : PState → PState → Prop) : Prop :=
  ∀ s1 s2 id b, R s1 s2 → Rel2 R (ipParseBody c s1 id b) (ipParseBody c s2 id b)

theorem Rel2.elim {α : Type} {R : PState → PState → Prop} {x y : PState × α} (h : Rel2 R x y) :
    ∃ s1 s2 a, x = (s1, a) ∧ y = (s2, a) ∧ R s1 s2 := by
  obtain ⟨s1, a⟩ := x
  obtain ⟨s2, b⟩ := y
  obtain ⟨e, hr⟩ := h
  simp only at e hr
  exact ⟨s1, s2, a, rfl, by rw [e], hr⟩

theorem v9ParseSet_rel {c : Config} {R : PState → PState → Prop} (hR : RespV9 c R) (s1 s2 : PState) (i : Bytes)
    (h : R s1 s2) : Rel2 R (v9ParseSet c s1 i) (v9ParseSet c s2 i) := by
  unfold v9ParseSet
  cases parseLayout c.t.protoFromU8 c.t.v9SetHdr i with
  | none => exact ⟨rfl, h⟩
  | some hr =>
    obtain ⟨hd, r⟩ := hr
    simp only
    cases takeN (c.t.v9SetHdr.get "length" hd - 4) r with
    | none => exact ⟨rfl, h⟩
    | some br =>
      obtain ⟨body, r'⟩ := br
      simp only
      obtain ⟨a1, a2, b, e1, e2, hr⟩ := (hR s1 s2 (c.t.v9SetHdr.get "flowset_id" hd) body h).elim
      rw [e1, e2]
      cases b <;> exact ⟨rfl, hr⟩

theorem v9ParseSets_rel {c : Config} {R : PState → PState → Prop} (hR : RespV9 c R) :
    ∀ (n : Nat) (s1 s2 : PState) (i : Bytes), R s1 s2 → Rel2 R (v9ParseSets c n s1 i) (v9ParseSets c n s2 i) := by
  intro n
  induction n with
  | zero => intro s1 s2 i h; exact ⟨rfl, h⟩
  | succ n ih =>
    intro s1 s2 i h
    unfold v9ParseSets
    by_cases he : i.isEmpty = true
    · simp only [he, ↓reduceIte]; exact ih _ _ _ h
    · simp only [he, Bool.false_eq_true, ↓reduceIte]
      obtain ⟨a1, a2, b, e1, e2, hr⟩ := (v9ParseSet_rel hR s1 s2 i h).elim
      rw [e1, e2]
      cases b with
      | ok sr =>
        obtain ⟨s, r⟩ := sr
        simp only
        obtain ⟨a1', a2', b', e1', e2', hr'⟩ := (ih a1 a2 r hr).elim
        rw [e1', e2']
        cases b' <;> exact ⟨rfl, hr'⟩
      | _ => exact ⟨rfl, hr⟩

theorem parseV9_rel {c : Config} {R : PState → PState → Prop} (hR : RespV9 c R) (s1 s2 : PState) (i : Bytes)
    (h : R s1 s2) : Rel2 R (parseV9 c s1 i) (parseV9 c s2 i) := by
  unfold parseV9
  cases parseLayout c.t.protoFromU8 c.t.v9Hdr i with
  | none => exact ⟨rfl, h⟩
  | some hr =>
    obtain ⟨hd, r⟩ := hr
    simp only
    obtain ⟨a1, a2, b, e1, e2, hr⟩ := (v9ParseSets_rel hR (c.t.v9Hdr.get "count" hd) s1 s2 r h).elim
    rw [e1, e2]
    cases b <;> exact ⟨rfl, hr⟩

theorem ipParseSet_rel {c : Config} {R : PState → PState → Prop} (hR : RespIp c R) (s1 s2 : PState) (i : Bytes)
    (h : R s1 s2) : Rel2 R (ipParseSet c s1 i) (ipParseSet c s2 i) := by
  unfold ipParseSet
  cases parseLayout c.t.protoFromU8 c.t.ipSetHdr i with
  | none => exact ⟨rfl, h⟩
  | some hr =>
    obtain ⟨hd, r⟩ := hr
    simp only
    cases takeN (c.t.ipSetHdr.get "length" hd - 4) r with
    | none => exact ⟨rfl, h⟩
    | some br =>
      obtain ⟨body, r'⟩ := br
      simp only
      obtain ⟨a1, a2, b, e1, e2, hr⟩ := (hR s1 s2 (c.t.ipSetHdr.get "header_id" hd) body h).elim
      rw [e1, e2]
      cases b <;> exact ⟨rfl, hr⟩

theorem ipParseSets_rel {c : Config} {R : PState → PState → Prop} (hR : RespIp c R) :
    ∀ (n : Nat) (s1 s2 : PState) (i : Bytes), R s1 s2 → Rel2 R (ipParseSets c n s1 i) (ipParseSets c n s2 i) := by
  intro n
  induction n with
  | zero => intro s1 s2 i h; exact ⟨rfl, h⟩
  | succ n ih =>
    intro s1 s2 i h
    unfold ipParseSets
    obtain ⟨a1, a2, b, e1, e2, hr⟩ := (ipParseSet_rel hR s1 s2 i h).elim
    rw [e1, e2]
    cases b with
    | ok sr =>
      obtain ⟨s, r⟩ := sr
      simp only
      by_cases hl : r.length = i.length
      · simp only [hl, ↓reduceIte]; exact ⟨rfl, hr⟩
      · simp only [hl, ↓reduceIte]
        obtain ⟨a1', a2', b', e1', e2', hr'⟩ := (ih a1 a2 r hr).elim
        rw [e1', e2']
        cases b' <;> exact ⟨rfl, hr'⟩
    | _ => exact ⟨rfl, hr⟩

theorem parseIpfix_rel {c : Config} {R : PState → PState → Prop} (hR : RespIp c R) (s1 s2 : PState) (i : Bytes)
    (h : R s1 s2) : Rel2 R (parseIpfix c s1 i) (parseIpfix c s2 i) := by
  unfold parseIpfix
  cases parseLayout c.t.protoFromU8 c.t.ipHdr i with
  | none => exact ⟨rfl, h⟩
  | some hr =>
    obtain ⟨hd, r⟩ := hr
    simp only
    cases takeN (c.t.ipHdr.get "length" hd - 16) r with
    | none => exact ⟨rfl, h⟩
    | some br =>
      obtain ⟨body, r'⟩ := br
      simp only
      obtain ⟨a1, a2, b, e1, e2, hr⟩ := (ipParseSets_rel hR (body.length + 1) s1 s2 body h).elim
      rw [e1, e2]
      cases b <;> exact ⟨rfl, hr⟩

/-- invariants are the diagonal case of the relational lemmas -/
theorem RespV9.diag {c : Config} {I : PState → Prop} (h9 : ∀ st id b, I st → I (v9ParseBody c st id b).1) :
    RespV9 c (fun s1 s2 => s1 = s2 ∧ I s1) := by
  intro s1 s2 id b ⟨e, hI⟩; subst e; exact ⟨rfl, rfl, h9 _ _ _ hI⟩

theorem RespIp.diag {c : Config} {I : PState → Prop} (hi : ∀ st id b, I st → I (ipParseBody c st id b).1) :
    RespIp c (fun s1 s2 => s1 = s2 ∧ I s1) := by
  intro s1 s2 id b ⟨e, hI⟩; subst e; exact ⟨rfl, rfl, hi _ _ _ hI⟩

theorem v9ParseSets_pres {c : Config} {I : PState → Prop}
    (h9 : ∀ st id b, I st → I (v9ParseBody c st id b).1) (n : Nat) (st : PState) (i : Bytes) (h : I st) :
    I (v9ParseSets c n st i).1 :=
  (v9ParseSets_rel (RespV9.diag h9) n st st i ⟨rfl, h⟩).2.2

theorem ipParseSets_pres {c : Config} {I : PState → Prop}
    (hi : ∀ st id b, I st → I (ipParseBody c st id b).1) (n : Nat) (st : PState) (i : Bytes) (h : I st) :
    I (ipParseSets c n st i).1 :=
  (ipParseSets_rel (RespIp.diag hi) n st st i ⟨rfl, h⟩).2.2

theorem parseV9_pres {c : Config} {I : PState → Prop}
    (h9 : ∀ st id b, I st → I (v9ParseBody c st id b).1)
    (st : PState) (i : Bytes) (h : I st) : I (parseV9 c st i).1 :=
  (parseV9_rel (RespV9.diag h9) st st i ⟨rfl, h⟩).2.2

theorem parseIpfix_pres {c : Config} {I : PState → Prop}
    (hi : ∀ st id b, I st → I (ipParseBody c st id b).1)
    (st : PState) (i : Bytes) (h : I st) : I (parseIpfix c st i).1 :=
  (parseIpfix_rel (RespIp.diag hi) st st i ⟨rfl, h⟩).2.2

theorem parsePacket_pres {c : Config} {I : PState → Prop}
    (h9 : ∀ st id b, I st → I (v9ParseBody c st id b).1) (hi : ∀ st id b, I st → I (ipParseBody c st id b).1)
    (st : PState) (i : Bytes) (h : I st) : I (parsePacket c st i).1 := by
  cases hp : parsePacket c st i with
  | mk st' s =>
    rcases parsePacket_inv c st st' i s hp with ⟨_, e, _⟩ | ⟨_, _, _, e, _⟩ | ⟨_, _, _, _, e, _⟩ | ⟨_, k, _, _, _, e⟩
    · rw [e]; exact h
    · rw [e]; exact h
    · rw [e]; exact h
    · have e' : st' = (parseVersioned c st k (i.drop 2)).1 := by rw [e]
      rw [e']
      by_cases k9 : k = 9
      · subst k9; rw [parseVersioned_9]; exact parseV9_pres h9 st _ h
      by_cases k10 : k = 10
      · subst k10; rw [parseVersioned_10]; exact parseIpfix_pres hi st _ h
      rw [parseVersioned_frame c st k _ k9 k10]; exact h

/-- an invariant of the two set-body parsers is an invariant of `parse_bytes` -/
theorem parseBytes_pres {c : Config} {I : PState → Prop}
    (h9 : ∀ st id b, I st → I (v9ParseBody c st id b).1) (hi : ∀ st id b, I st → I (ipParseBody c st id b).1)
    (st : PState) (buf : Bytes) (h : I st) : I (parseBytes c st buf).1 := by
  obtain ⟨ps, hd⟩ := parseBytes_done c st buf
  exact (parseBytes_run (Prod.ext rfl hd)).inv (parsePacket_pres h9 hi) h

/-- strictly ascending keys (what the model's maps always are); `AmSorted` of Lemmas/AssocMap.lean spelled with
    `Prod.fst`, definitionally the same, so `AmSorted.insert` / `AmSorted.erase` close `amSorted` goals -/
def amSorted {β : Type} (m : List (Nat × β)) : Prop := (m.map Prod.fst).Pairwise (· < ·)

/-! ### a list of definitions folded into two sibling maps

  Both V9 flowset kinds and both IPFIX set kinds update the caches the same way: a definition is
  inserted into the map of its own kind and its id erased from the sibling map (a redefinition with
  the other kind MOVES the id).  `insErase` is that fold on a pair of maps. -/

def insErase {α β : Type} : List (Nat × α) × List (Nat × β) → List (Nat × α) → List (Nat × α) × List (Nat × β)
  | m, [] => m
  | m, kv :: kvs => insErase (amInsert kv.1 kv.2 m.1, amErase kv.1 m.2) kvs

theorem insErase_append {α β : Type} : ∀ (a b : List (Nat × α)) (m : List (Nat × α) × List (Nat × β)),
    insErase m (a ++ b) = insErase (insErase m a) b
  | [], _, _ => rfl
  | _ :: a, b, _ => insErase_append a b _

/-- definitions of other ids leave the entry of `j` alone, in both maps -/
theorem insErase_other {α β : Type} (j : Nat) : ∀ (kvs : List (Nat × α)) (m : List (Nat × α) × List (Nat × β)),
    (∀ u ∈ kvs, u.1 ≠ j) → amLookup j (insErase m kvs).1 = amLookup j m.1 ∧ amLookup j (insErase m kvs).2 = amLookup j m.2
  | [], _, _ => ⟨rfl, rfl⟩
  | kv :: kvs, m, h => by
    have hj : j ≠ kv.1 := fun e => h kv List.mem_cons_self e.symm
    obtain ⟨a1, a2⟩ := insErase_other j kvs (amInsert kv.1 kv.2 m.1, amErase kv.1 m.2)
      fun u hu => h u (List.mem_cons_of_mem _ hu)
    rw [insErase, a1, a2, amLookup_amInsert, if_neg hj, amLookup_amErase_ne hj]
    exact ⟨rfl, rfl⟩

/-- **the latest definition wins**: after `pre ++ (k, v) :: post`, with no redefinition of `k` in
    `post`, the id maps to `v` and — the sibling map being canonical — is no longer a sibling id -/
theorem insErase_latest {α β : Type} (pre post : List (Nat × α)) (k : Nat) (v : α) (m : List (Nat × α) × List (Nat × β))
    (hlast : ∀ u ∈ post, u.1 ≠ k) :
    amLookup k (insErase m (pre ++ (k, v) :: post)).1 = some v ∧
    (AmSorted (insErase m pre).2 → amLookup k (insErase m (pre ++ (k, v) :: post)).2 = none) := by
  obtain ⟨a1, a2⟩ := insErase_other k post (amInsert k v (insErase m pre).1, amErase k (insErase m pre).2) hlast
  rw [insErase_append, insErase, a1, a2, amLookup_amInsert, if_pos rfl]
  exact ⟨rfl, fun hs => amLookup_amErase_self k hs⟩

theorem insErase_sorted {α β : Type} : ∀ (kvs : List (Nat × α)) (m : List (Nat × α) × List (Nat × β)),
    (AmSorted m.1 → AmSorted (insErase m kvs).1) ∧ (AmSorted m.2 → AmSorted (insErase m kvs).2)
  | [], _ => ⟨id, id⟩
  | _ :: kvs, _ =>
    ⟨fun h => (insErase_sorted kvs _).1 (AmSorted.insert _ _ _ h), fun h => (insErase_sorted kvs _).2 (AmSorted.erase _ _ h)⟩

/-- an id defined in one of the two maps stays defined in one of them -/
theorem insErase_known {α β : Type} (id : Nat) : ∀ (kvs : List (Nat × α)) (m : List (Nat × α) × List (Nat × β)),
    (amLookup id m.1).isSome ∨ (amLookup id m.2).isSome →
    (amLookup id (insErase m kvs).1).isSome ∨ (amLookup id (insErase m kvs).2).isSome
  | [], _, h => h
  | kv :: kvs, m, h => by
    refine insErase_known id kvs _ ?_
    by_cases hk : id = kv.1
    · left; rw [amLookup_amInsert, if_pos hk]; rfl
    · rwa [amLookup_amInsert, if_neg hk, amLookup_amErase_ne hk]

/-- the two V9 cache updates are `insErase` on the V9 maps, in either order of the pair -/
theorem insertV9Templates_eq : ∀ (ts : List V9Template) (st : PState),
    insertV9Templates st ts =
      { st with v9T := (insErase (st.v9T, st.v9O) (ts.map fun t => (t.id, t))).1,
                v9O := (insErase (st.v9T, st.v9O) (ts.map fun t => (t.id, t))).2 }
  | [], _ => rfl
  | _ :: ts, _ => by rw [insertV9Templates, insertV9Templates_eq ts]; rfl

theorem insertV9OptTemplates_eq : ∀ (ts : List V9OptTemplate) (st : PState),
    insertV9OptTemplates st ts =
      { st with v9O := (insErase (st.v9O, st.v9T) (ts.map fun t => (t.id, t))).1,
                v9T := (insErase (st.v9O, st.v9T) (ts.map fun t => (t.id, t))).2 }
  | [], _ => rfl
  | _ :: ts, _ => by rw [insertV9OptTemplates, insertV9OptTemplates_eq ts]; rfl

theorem keys_ne_of_forall_ne {α : Type} {ts : List α} (f : α → Nat) {id : Nat} (h : ∀ u ∈ ts, f u ≠ id) :
    ∀ u ∈ ts.map (fun t => (f t, t)), u.1 ≠ id := by
  intro u hu
  obtain ⟨t, ht, rfl⟩ := List.mem_map.1 hu
  exact h t ht

/-! ## a property of decoded set bodies, on every returned packet -/

/-- every V9 flowset body of the packet satisfies `Q9`, every IPFIX set body `Qi` -/
def PktAll (Q9 : V9Body → Prop) (Qi : IpBody → Prop) : Packet → Prop
  | .v9 _ ss => ∀ s ∈ ss, Q9 s.body
  | .ipfix _ ss => ∀ s ∈ ss, Qi s.body
  | _ => True

theorem v9ParseSets_all {c : Config} {Q9 : V9Body → Prop}
    (h9 : ∀ st st' id body b, v9ParseBody c st id body = (st', .ok b) → Q9 b) :
    ∀ (n : Nat) (st st' : PState) (i : Bytes) (ss : List V9Set) (r : Bytes),
      v9ParseSets c n st i = (st', .ok (ss, r)) → ∀ s ∈ ss, Q9 s.body := by
  intro n
  induction n with
  | zero => intro st st' i ss r h; cases h; intro s hs; cases hs
  | succ n ih =>
    intro st st' i ss r h
    by_cases hne : i = []
    · subst hne; rw [v9ParseSets_nil] at h; cases h; intro s hs; cases hs
    · obtain ⟨st1, s0, r1, ss', h1, h2, rfl⟩ := v9ParseSets_succ_ok_inv hne h
      obtain ⟨_, _, _, b, _, _, hb, rfl⟩ := v9ParseSet_ok_inv h1
      intro s hs
      rcases List.mem_cons.1 hs with rfl | hs
      · exact h9 _ _ _ _ _ hb
      · exact ih _ _ _ _ _ h2 s hs

theorem ipParseSets_all {c : Config} {Qi : IpBody → Prop}
    (hi : ∀ st st' id body b, ipParseBody c st id body = (st', .ok b) → Qi b) :
    ∀ (n : Nat) (st st' : PState) (i : Bytes) (ss : List IpSet),
      ipParseSets c n st i = (st', .ok ss) → ∀ s ∈ ss, Qi s.body := by
  intro n
  induction n with
  | zero => intro st st' i ss h; cases h
  | succ n ih =>
    intro st st' i ss h
    rcases ipParseSets_succ_ok_iff.1 h with ⟨_, rfl⟩ | ⟨st1, s0, r, ss', h1, _, h2, rfl⟩
    · intro s hs; cases hs
    · obtain ⟨_, _, _, b, _, _, hb, rfl⟩ := ipParseSet_ok_inv h1
      intro s hs
      rcases List.mem_cons.1 hs with rfl | hs
      · exact hi _ _ _ _ _ hb
      · exact ih _ _ _ _ h2 s hs

theorem parsePacket_all {c : Config} {Q9 : V9Body → Prop} {Qi : IpBody → Prop}
    (h9 : ∀ st st' id body b, v9ParseBody c st id body = (st', .ok b) → Q9 b)
    (hi : ∀ st st' id body b, ipParseBody c st id body = (st', .ok b) → Qi b)
    (st st' : PState) (i : Bytes) (p : Packet) (r : Bytes)
    (h : parsePacket c st i = (st', .ok p r)) : PktAll Q9 Qi p := by
  obtain ⟨_, _, _, _, _, hv⟩ := parsePacket_ok_versioned h
  rcases parseVersioned_ok_inv hv with ⟨_, _, _, _, _, rfl⟩ | ⟨_, _, _, _, _, rfl⟩ | ⟨_, hp⟩ | ⟨_, hp⟩
  · trivial
  · trivial
  · obtain ⟨_, _, ss, _, hs, rfl⟩ := parseV9_ok_inv hp
    exact v9ParseSets_all h9 _ _ _ _ _ _ hs
  · obtain ⟨_, _, _, ss, _, _, hs, rfl⟩ := parseIpfix_ok_inv hp
    exact ipParseSets_all hi _ _ _ _ _ hs

theorem parseBytesF_all {c : Config} {Q9 : V9Body → Prop} {Qi : IpBody → Prop}
    (h9 : ∀ st st' id body b, v9ParseBody c st id body = (st', .ok b) → Q9 b)
    (hi : ∀ st st' id body b, ipParseBody c st id body = (st', .ok b) → Qi b) :
    ∀ (f : Nat) (st st' : PState) (buf : Bytes) (ps : List Packet),
      parseBytesF c f st buf = (st', .done ps) → ∀ p ∈ ps, PktAll Q9 Qi p :=
  parseBytesF_forall (parsePacket_all h9 hi) (fun _ _ => trivial)

/-! ## which caches a set body reads and writes -/

theorem insertV9Templates_ip (ts : List V9Template) (st : PState) :
    (insertV9Templates st ts).ipT = st.ipT ∧ (insertV9Templates st ts).ipO = st.ipO := by
  rw [insertV9Templates_eq]; exact ⟨rfl, rfl⟩

theorem insertV9OptTemplates_ip (ts : List V9OptTemplate) (st : PState) :
    (insertV9OptTemplates st ts).ipT = st.ipT ∧ (insertV9OptTemplates st ts).ipO = st.ipO := by
  rw [insertV9OptTemplates_eq]; exact ⟨rfl, rfl⟩

/-- a V9 flowset body never touches the IPFIX maps -/
theorem v9ParseBody_ip_frame (c : Config) (st : PState) (id : Nat) (b : Bytes) :
    (v9ParseBody c st id b).1.ipT = st.ipT ∧ (v9ParseBody c st id b).1.ipO = st.ipO :=
  v9ParseBody_state (I := fun s => s.ipT = st.ipT ∧ s.ipO = st.ipO) c st id b ⟨rfl, rfl⟩
    (fun ts => insertV9Templates_ip ts st) (fun ts => insertV9OptTemplates_ip ts st)

/-- an IPFIX set body never touches the V9 maps -/
theorem ipParseBody_v9_frame (c : Config) (st : PState) (id : Nat) (b : Bytes) :
    (ipParseBody c st id b).1.v9T = st.v9T ∧ (ipParseBody c st id b).1.v9O = st.v9O :=
  ipParseBody_state (I := fun s => s.v9T = st.v9T ∧ s.v9O = st.v9O) c st id b ⟨rfl, rfl⟩
    (fun _ _ => ⟨rfl, rfl⟩) (fun _ _ => ⟨rfl, rfl⟩)

/-- every cached IPFIX template / options template has a field of non-zero declared length -/
def CacheValid (st : PState) : Prop :=
  (∀ e ∈ st.ipT, ipValid e.2.fields = true) ∧ (∀ e ∈ st.ipO, ipValid e.2.fields = true)

theorem ipParseBody_cache_valid (c : Config) (st : PState) (id : Nat) (b : Bytes) (h : CacheValid st) :
    CacheValid (ipParseBody c st id b).1 := by
  refine ipParseBody_state (I := CacheValid) c st id b h (fun t ht => ⟨fun e he => ?_, fun e he => h.2 e (mem_amErase he)⟩)
    (fun t ht => ⟨fun e he => h.1 e (mem_amErase he), fun e he => ?_⟩)
  · rcases mem_amInsert he with rfl | he
    · exact ht
    · exact h.1 e he
  · rcases mem_amInsert he with rfl | he
    · exact ht
    · exact h.2 e he

/-- the two states have the same V9 caches / the same IPFIX caches -/
def AgreeV9 (s1 s2 : PState) : Prop := s1.v9T = s2.v9T ∧ s1.v9O = s2.v9O
def AgreeIp (s1 s2 : PState) : Prop := s1.ipT = s2.ipT ∧ s1.ipO = s2.ipO

theorem PState.eq_of_agree {a b : PState} (h9 : AgreeV9 a b) (hi : AgreeIp a b) : a = b := by
  cases a
  cases b
  simp only [AgreeV9, AgreeIp] at h9 hi
  simp only [PState.mk.injEq]
  exact ⟨h9.1, h9.2, hi.1, hi.2⟩

theorem v9ParseBody_respects_agree (c : Config) : RespV9 c AgreeV9 := by
  intro s1 s2 id b ⟨h1, h2⟩
  have k1 : ∀ ts, AgreeV9 (insertV9Templates s1 ts) (insertV9Templates s2 ts) := fun ts => by
    rw [insertV9Templates_eq, insertV9Templates_eq, h1, h2]; exact ⟨rfl, rfl⟩
  have k2 : ∀ ts, AgreeV9 (insertV9OptTemplates s1 ts) (insertV9OptTemplates s2 ts) := fun ts => by
    rw [insertV9OptTemplates_eq, insertV9OptTemplates_eq, h1, h2]; exact ⟨rfl, rfl⟩
  unfold Rel2 AgreeV9 v9ParseBody
  rw [h1, h2]
  split
  · cases many0 parseV9Template b with
    | ok x => exact ⟨rfl, k1 _⟩
    | err => exact ⟨rfl, h1, h2⟩
    | outOfFuel => exact ⟨rfl, h1, h2⟩
  · split
    · cases many0 parseV9OptTemplate b with
      | ok x => exact ⟨rfl, k2 _⟩
      | err => exact ⟨rfl, h1, h2⟩
      | outOfFuel => exact ⟨rfl, h1, h2⟩
    · cases amLookup id s2.v9O with
      | some ot =>
        simp only
        cases v9ScopeLoop c ot.scope b with
        | none => exact ⟨rfl, h1, h2⟩
        | some x =>
          simp only
          cases v9OptLoop c ot.opts x.2 with
          | none => exact ⟨rfl, h1, h2⟩
          | some y => exact ⟨rfl, h1, h2⟩
      | none =>
        simp only
        cases amLookup id s2.v9T with
        | some t =>
          simp only
          split
          · exact ⟨rfl, h1, h2⟩
          · exact ⟨rfl, h1, h2⟩
        | none => exact ⟨rfl, h1, h2⟩

theorem ipParseBody_respects_agree (c : Config) : RespIp c AgreeIp := by
  intro s1 s2 id b ⟨h1, h2⟩
  unfold Rel2 AgreeIp ipParseBody
  rw [h1, h2]
  split
  · cases parseIpTemplate b with
    | ok t => simp only; split <;> simp [h1, h2]
    | _ => exact ⟨rfl, h1, h2⟩
  · split
    · cases parseIpOptTemplate b with
      | ok t => simp only; split <;> simp [h1, h2]
      | _ => exact ⟨rfl, h1, h2⟩
    · cases amLookup id s2.ipT with
      | some t =>
        simp only
        split
        · exact ⟨rfl, h1, h2⟩
        · cases ipRecLoop c t.fields (b.length + 1) b <;> exact ⟨rfl, h1, h2⟩
      | none =>
        simp only
        cases amLookup id s2.ipO with
        | some t =>
          simp only
          split
          · exact ⟨rfl, h1, h2⟩
          · cases ipRecLoop c t.fields (b.length + 1) b <;> exact ⟨rfl, h1, h2⟩
        | none => exact ⟨rfl, h1, h2⟩

/-! ## persistence: known ids stay known -/

/-- `id` is defined for the protocol, as a template or as an options template -/
def KnownV9 (st : PState) (id : Nat) : Prop := (amLookup id st.v9T).isSome ∨ (amLookup id st.v9O).isSome
def KnownIp (st : PState) (id : Nat) : Prop := (amLookup id st.ipT).isSome ∨ (amLookup id st.ipO).isSome

theorem insertV9Templates_known (id : Nat) (ts : List V9Template) (st : PState) (h : KnownV9 st id) :
    KnownV9 (insertV9Templates st ts) id := by
  rw [insertV9Templates_eq]; exact insErase_known id _ (st.v9T, st.v9O) h

theorem insertV9OptTemplates_known (id : Nat) (ts : List V9OptTemplate) (st : PState) (h : KnownV9 st id) :
    KnownV9 (insertV9OptTemplates st ts) id := by
  rw [insertV9OptTemplates_eq]; exact (insErase_known id _ (st.v9O, st.v9T) h.symm).symm

theorem v9ParseBody_known (c : Config) (id' : Nat) (st : PState) (id : Nat) (b : Bytes) (h : KnownV9 st id') :
    KnownV9 (v9ParseBody c st id b).1 id' :=
  v9ParseBody_state (I := fun s => KnownV9 s id') c st id b h
    (fun ts => insertV9Templates_known id' ts st h) (fun ts => insertV9OptTemplates_known id' ts st h)

theorem ipParseBody_known (c : Config) (id' : Nat) (st : PState) (id : Nat) (b : Bytes) (h : KnownIp st id') :
    KnownIp (ipParseBody c st id b).1 id' :=
  ipParseBody_state (I := fun s => KnownIp s id') c st id b h
    (fun t _ => insErase_known id' [(t.id, t)] (st.ipT, st.ipO) h)
    (fun t _ => (insErase_known id' [(t.id, t)] (st.ipO, st.ipT) h.symm).symm)

theorem v9ParseBody_knownIp (c : Config) (id' : Nat) (st : PState) (id : Nat) (b : Bytes) (h : KnownIp st id') :
    KnownIp (v9ParseBody c st id b).1 id' := by
  obtain ⟨h1, h2⟩ := v9ParseBody_ip_frame c st id b
  unfold KnownIp; rw [h1, h2]; exact h

theorem ipParseBody_knownV9 (c : Config) (id' : Nat) (st : PState) (id : Nat) (b : Bytes) (h : KnownV9 st id') :
    KnownV9 (ipParseBody c st id b).1 id' := by
  obtain ⟨h1, h2⟩ := ipParseBody_v9_frame c st id b
  unfold KnownV9; rw [h1, h2]; exact h

/-! ## canonical maps -/

/-- all four caches have strictly ascending keys -/
def StateWf (st : PState) : Prop := amSorted st.v9T ∧ amSorted st.v9O ∧ amSorted st.ipT ∧ amSorted st.ipO

theorem StateWf_empty : StateWf {} := by simp [StateWf, amSorted]

theorem v9ParseBody_wf (c : Config) (st : PState) (id : Nat) (b : Bytes) (h : StateWf st) :
    StateWf (v9ParseBody c st id b).1 := by
  obtain ⟨h1, h2, h3, h4⟩ := h
  refine v9ParseBody_state (I := StateWf) c st id b ⟨h1, h2, h3, h4⟩ (fun ts => ?_) (fun ts => ?_)
  · obtain ⟨a1, a2⟩ := insErase_sorted (ts.map fun t => (t.id, t)) (st.v9T, st.v9O)
    rw [insertV9Templates_eq]; exact ⟨a1 h1, a2 h2, h3, h4⟩
  · obtain ⟨a1, a2⟩ := insErase_sorted (ts.map fun t => (t.id, t)) (st.v9O, st.v9T)
    rw [insertV9OptTemplates_eq]; exact ⟨a2 h1, a1 h2, h3, h4⟩

theorem ipParseBody_wf (c : Config) (st : PState) (id : Nat) (b : Bytes) (h : StateWf st) :
    StateWf (ipParseBody c st id b).1 :=
  ipParseBody_state (I := StateWf) c st id b h
    (fun _ _ => ⟨h.1, h.2.1, AmSorted.insert _ _ _ h.2.2.1, AmSorted.erase _ _ h.2.2.2⟩)
    (fun _ _ => ⟨h.1, h.2.1, AmSorted.erase _ _ h.2.2.1, AmSorted.insert _ _ _ h.2.2.2⟩)

/-- templates with other ids leave the entry of `id` alone, in both maps -/
theorem insertV9Templates_other (id : Nat) (ts : List V9Template) (st : PState) (h : ∀ u ∈ ts, u.id ≠ id) :
    amLookup id (insertV9Templates st ts).v9T = amLookup id st.v9T ∧
    amLookup id (insertV9Templates st ts).v9O = amLookup id st.v9O := by
  rw [insertV9Templates_eq]; exact insErase_other id _ (st.v9T, st.v9O) (keys_ne_of_forall_ne V9Template.id h)

theorem insertV9OptTemplates_other (id : Nat) (ts : List V9OptTemplate) (st : PState) (h : ∀ u ∈ ts, u.id ≠ id) :
    amLookup id (insertV9OptTemplates st ts).v9T = amLookup id st.v9T ∧
    amLookup id (insertV9OptTemplates st ts).v9O = amLookup id st.v9O := by
  rw [insertV9OptTemplates_eq]; exact (insErase_other id _ (st.v9O, st.v9T) (keys_ne_of_forall_ne V9OptTemplate.id h)).symm

/-! ## every returned data set carries a known id -/

/-- every data set of the packet carries an id that is known to its protocol in state `st` -/
def DataKnown (c : Config) (st : PState) : Packet → Prop
  | .v9 _ ss => ∀ s ∈ ss, s.id ≠ c.t.v9TemplateId → s.id ≠ c.t.v9OptTemplateId → KnownV9 st s.id
  | .ipfix _ ss => ∀ s ∈ ss, c.t.ipSetMinRange ≤ s.id → s.id ≠ c.t.ipOptTemplateId → KnownIp st s.id
  | _ => True

theorem v9ParseBody_ok_known (c : Config) (st st' : PState) (id : Nat) (body : Bytes) (b : V9Body)
    (h : v9ParseBody c st id body = (st', .ok b)) (h1 : id ≠ c.t.v9TemplateId) (h2 : id ≠ c.t.v9OptTemplateId) :
    KnownV9 st' id := by
  rcases v9ParseBody_ok_inv h with ⟨e, _⟩ | ⟨_, e, _⟩ | ⟨_, _, e, ot, _, _, _, _, ho, _⟩ | ⟨_, _, e, _, t, ht, _⟩
  · exact absurd e h1
  · exact absurd e h2
  · rw [e]; exact Or.inr (by rw [ho]; rfl)
  · rw [e]; exact Or.inl (by rw [ht]; rfl)

theorem ipParseBody_ok_known (c : Config) (st st' : PState) (id : Nat) (body : Bytes) (b : IpBody)
    (h : ipParseBody c st id body = (st', .ok b)) (h1 : c.t.ipSetMinRange ≤ id) (h2 : id ≠ c.t.ipOptTemplateId) :
    KnownIp st' id := by
  rcases ipParseBody_ok_inv h with ⟨hl, _⟩ | ⟨e, _⟩ | ⟨_, _, e, fs, _, _, _, _, ⟨t, ht, _⟩ | ⟨_, t, ho, _⟩⟩
  · omega
  · exact absurd e h2
  · rw [e]; exact Or.inl (by rw [ht]; rfl)
  · rw [e]; exact Or.inr (by rw [ho]; rfl)

/-- the head flowset's id is known once it is decoded, and stays known through the rest of the loop -/
theorem v9ParseSets_dataKnown (c : Config) : ∀ (n : Nat) (st st' : PState) (i : Bytes) (ss : List V9Set) (r : Bytes),
    v9ParseSets c n st i = (st', .ok (ss, r)) →
    ∀ s ∈ ss, s.id ≠ c.t.v9TemplateId → s.id ≠ c.t.v9OptTemplateId → KnownV9 st' s.id := by
  intro n
  induction n with
  | zero => intro st st' i ss r h; cases h; intro s hs; cases hs
  | succ n ih =>
    intro st st' i ss r h
    by_cases hne : i = []
    · subst hne; rw [v9ParseSets_nil] at h; cases h; intro s hs; cases hs
    · obtain ⟨st1, s0, r1, ss', h1, h2, rfl⟩ := v9ParseSets_succ_ok_inv hne h
      obtain ⟨_, _, _, b, _, _, hb, rfl⟩ := v9ParseSet_ok_inv h1
      intro s hs a1 a2
      rcases List.mem_cons.1 hs with rfl | hs
      · have := v9ParseSets_pres (I := fun x => KnownV9 x _) (fun x id b hI => v9ParseBody_known c _ x id b hI)
          n st1 r1 (v9ParseBody_ok_known c _ _ _ _ _ hb a1 a2)
        rwa [h2] at this
      · exact ih _ _ _ _ _ h2 s hs a1 a2

theorem ipParseSets_dataKnown (c : Config) : ∀ (n : Nat) (st st' : PState) (i : Bytes) (ss : List IpSet),
    ipParseSets c n st i = (st', .ok ss) →
    ∀ s ∈ ss, c.t.ipSetMinRange ≤ s.id → s.id ≠ c.t.ipOptTemplateId → KnownIp st' s.id := by
  intro n
  induction n with
  | zero => intro st st' i ss h; cases h
  | succ n ih =>
    intro st st' i ss h
    rcases ipParseSets_succ_ok_iff.1 h with ⟨_, rfl⟩ | ⟨st1, s0, r, ss', h1, _, h2, rfl⟩
    · intro s hs; cases hs
    · obtain ⟨_, _, _, b, _, _, hb, rfl⟩ := ipParseSet_ok_inv h1
      intro s hs a1 a2
      rcases List.mem_cons.1 hs with rfl | hs
      · have := ipParseSets_pres (I := fun x => KnownIp x _) (fun x id b hI => ipParseBody_known c _ x id b hI)
          n st1 r (ipParseBody_ok_known c _ _ _ _ _ hb a1 a2)
        rwa [h2] at this
      · exact ih _ _ _ _ h2 s hs a1 a2

theorem parsePacket_dataKnown (c : Config) (st st' : PState) (i : Bytes) (p : Packet) (r : Bytes)
    (h : parsePacket c st i = (st', .ok p r)) : DataKnown c st' p := by
  obtain ⟨_, _, _, _, _, hv⟩ := parsePacket_ok_versioned h
  rcases parseVersioned_ok_inv hv with ⟨_, _, _, _, _, rfl⟩ | ⟨_, _, _, _, _, rfl⟩ | ⟨_, hp⟩ | ⟨_, hp⟩
  · trivial
  · trivial
  · obtain ⟨_, _, ss, _, hs, rfl⟩ := parseV9_ok_inv hp
    exact v9ParseSets_dataKnown c _ _ _ _ _ _ hs
  · obtain ⟨_, _, _, ss, _, _, hs, rfl⟩ := parseIpfix_ok_inv hp
    exact ipParseSets_dataKnown c _ _ _ _ _ hs

theorem DataKnown.mono {c : Config} {st st' : PState} {p : Packet} (h : DataKnown c st p)
    (hm : ∀ id, (KnownV9 st id → KnownV9 st' id) ∧ (KnownIp st id → KnownIp st' id)) : DataKnown c st' p := by
  cases p with
  | v9 hd ss => intro s hs h1 h2; exact (hm _).1 (h s hs h1 h2)
  | ipfix hd ss => intro s hs h1 h2; exact (hm _).2 (h s hs h1 h2)
  | _ => trivial

/-- what a packet's data sets need is known when the packet is returned, and nothing known is ever
    forgotten during the rest of the call -/
theorem Run.dataKnown {c : Config} {st st' : PState} {buf : Bytes} {ps : List Packet} (h : Run c st buf st' ps) :
    ∀ p ∈ ps, DataKnown c st' p := by
  induction h with
  | nil => intro p hp; cases hp
  | @ok st st1 st' buf rest pkt ps hp hrun ih =>
    intro p hm
    rcases List.mem_cons.1 hm with rfl | hm
    · refine (parsePacket_dataKnown c _ _ _ _ _ hp).mono fun id => ⟨?_, ?_⟩
      · exact hrun.inv (I := fun x => KnownV9 x id) (parsePacket_pres
          (fun s i b hI => v9ParseBody_known c id s i b hI) (fun s i b hI => ipParseBody_knownV9 c id s i b hI))
      · exact hrun.inv (I := fun x => KnownIp x id) (parsePacket_pres
          (fun s i b hI => v9ParseBody_knownIp c id s i b hI) (fun s i b hI => ipParseBody_known c id s i b hI))
    · exact ih p hm
  | fail => intro p hm; rw [List.mem_singleton.1 hm]; trivial
  | unallowed => intro p hp; cases hp

theorem parseBytesF_dataKnown (c : Config) (f : Nat) (st st' : PState) (buf : Bytes) (ps : List Packet)
    (h : parseBytesF c f st buf = (st', .done ps)) : ∀ p ∈ ps, DataKnown c st' p :=
  (parseBytesF_run c f st st' buf ps h).dataKnown

end Netflow

