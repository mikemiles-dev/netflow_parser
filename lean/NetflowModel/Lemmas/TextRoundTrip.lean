/-
  Lemmas/TextRoundTrip.lean — the TEXT level of C16 (JsonText.lean): the compact writer `printTree` followed by the RFC 8259
  reader `parseJ` is the identity on trees whose number literals are valid; the tree `treeOf` a `JVal` denotes is such a
  tree and is accepted by the ordered matcher `jmatchT`, which determines values without floats and wildcards.
-/
import NetflowModel.JsonText
import NetflowModel.Lemmas.JsonFaithful
open Netflow Netflow.JText
namespace Netflow.J1

/-! ### strings -/

theorem parseStrBody_plain (c : Char) (r acc : List Char) (h1 : c ≠ '"') (h2 : c ≠ '\\') (h3 : ¬ c.toNat < 0x20) :
    parseStrBody (c :: r) acc = parseStrBody r (c :: acc) := by
  rw [parseStrBody]
  · simp only [h3, ↓reduceIte]
  all_goals (intros; first | exact h1 ‹_› | exact h2 ‹_›)

theorem hex4_low : ∀ n, n < 32 → hex4 '0' '0' (hexDigitLower (n / 16)) (hexDigitLower (n % 16)) = some n := by
  decide

theorem parseStrBody_u00 (n : Nat) (hn : n < 32) (r acc : List Char) :
    parseStrBody ('\\' :: 'u' :: '0' :: '0' :: hexDigitLower (n / 16) :: hexDigitLower (n % 16) :: r) acc =
      parseStrBody r (Char.ofNat n :: acc) := by
  rw [parseStrBody, hex4_low n hn]
  have h1 : ¬ (0xD800 ≤ n ∧ n ≤ 0xDBFF) := by omega
  have h2 : ¬ (0xDC00 ≤ n ∧ n ≤ 0xDFFF) := by omega
  simp only [h1, h2, ↓reduceIte]

theorem parseStrBody_esc (c : Char) (r acc : List Char) :
    parseStrBody (escChar c ++ r) acc = parseStrBody r (c :: acc) := by
  unfold escChar
  by_cases h1 : c = '"'
  · subst h1; rfl
  by_cases h2 : c = '\\'
  · subst h2; rfl
  by_cases h3 : c = '\n'
  · subst h3; rfl
  by_cases h4 : c = '\r'
  · subst h4; rfl
  by_cases h5 : c = '\t'
  · subst h5; rfl
  by_cases h6 : c.toNat = 8
  · rw [← Char.ofNat_toNat c, h6]; rfl
  by_cases h7 : c.toNat = 12
  · rw [← Char.ofNat_toNat c, h7]; rfl
  rw [if_neg h1, if_neg h2, if_neg h3, if_neg h4, if_neg h5, if_neg h6, if_neg h7]
  by_cases h8 : c.toNat < 0x20
  · rw [if_pos h8]
    have := parseStrBody_u00 c.toNat h8 r acc
    rwa [Char.ofNat_toNat] at this
  · rw [if_neg h8]; exact parseStrBody_plain c r acc h1 h2 h8

theorem parseStrBody_print (s : List Char) : ∀ (rest acc : List Char),
    parseStrBody (s.flatMap escChar ++ '"' :: rest) acc = some (acc.reverse ++ s, rest) := by
  induction s with
  | nil => intro rest acc; simp [parseStrBody]
  | cons c s ih =>
    intro rest acc
    rw [List.flatMap_cons, List.append_assoc, parseStrBody_esc, ih]
    simp

/-! ### numbers -/

/-- the continuation cannot extend a number literal -/
def noExt : List Char → Bool
  | [] => true
  | c :: _ => !(isDigit c || c == '.' || c == 'e' || c == 'E')

def stripSign : List Char → List Char × List Char
  | '-' :: r => (['-'], r)
  | r => ([], r)

def fracOf : List Char → Option (List Char × List Char)
  | '.' :: r =>
    let (fs, r') := spanDigits r
    if fs.isEmpty then none else some ('.' :: fs, r')
  | r => some ([], r)

def expSign : List Char → List Char × List Char
  | '+' :: r' => (['+'], r')
  | '-' :: r' => (['-'], r')
  | r' => ([], r')

def expOf : List Char → Option (List Char × List Char)
  | e :: r =>
    if e == 'e' || e == 'E' then
      let (sg, r') := expSign r
      let (es, r'') := spanDigits r'
      if es.isEmpty then none else some (e :: sg ++ es, r'')
    else some ([], e :: r)
  | [] => some ([], [])

theorem parseNum_eq (cs : List Char) : parseNum cs =
    match stripSign cs with
    | (sign, r0) =>
      match spanDigits r0 with
      | (ds, r1) =>
        if ds.isEmpty then none
        else if ds.length > 1 ∧ ds.head? = some '0' then none
        else
          match fracOf r1 with
          | none => none
          | some (fr, r2) =>
            match expOf r2 with
            | none => none
            | some (ex, r3) => some (sign ++ ds ++ fr ++ ex, r3) := by
  rfl

theorem noExt_cons {c : Char} {r : List Char} (h : noExt (c :: r) = true) :
    isDigit c = false ∧ c ≠ '.' ∧ c ≠ 'e' ∧ c ≠ 'E' := by
  simp only [noExt, Bool.not_eq_true', Bool.or_eq_false_iff, beq_eq_false_iff_ne] at h
  exact ⟨h.1.1.1, h.1.1.2, h.1.2, h.2⟩

theorem spanDigits_nodigit (rest : List Char) (h : noExt rest = true) : spanDigits rest = ([], rest) := by
  cases rest with
  | nil => rfl
  | cons c r =>
    have := (noExt_cons h).1
    simp only [spanDigits, this, Bool.false_eq_true, ↓reduceIte]

theorem spanDigits_append (rest : List Char) (h : noExt rest = true) : ∀ cs : List Char,
    spanDigits (cs ++ rest) = ((spanDigits cs).1, (spanDigits cs).2 ++ rest) := by
  intro cs
  induction cs with
  | nil => simp only [List.nil_append, spanDigits]; exact spanDigits_nodigit rest h
  | cons c cs ih =>
    simp only [List.cons_append, spanDigits]
    by_cases hd : isDigit c = true
    · simp only [hd, ↓reduceIte, ih]
    · simp only [hd, Bool.false_eq_true, ↓reduceIte, List.cons_append]

theorem stripSign_of_ne {c : Char} (r : List Char) (h : c ≠ '-') : stripSign (c :: r) = ([], c :: r) := by
  rw [stripSign]
  intro r' h'
  simp_all

theorem stripSign_append (c : Char) (cs rest : List Char) :
    stripSign (c :: cs ++ rest) = ((stripSign (c :: cs)).1, (stripSign (c :: cs)).2 ++ rest) := by
  by_cases h : c = '-'
  · subst h; rfl
  · rw [List.cons_append, stripSign_of_ne _ h, stripSign_of_ne _ h]; rfl

theorem fracOf_dot (r : List Char) : fracOf ('.' :: r) =
    if (spanDigits r).1.isEmpty then none else some ('.' :: (spanDigits r).1, (spanDigits r).2) := by
  rfl

theorem fracOf_of_ne {c : Char} (r : List Char) (h : c ≠ '.') : fracOf (c :: r) = some ([], c :: r) := by
  rw [fracOf]
  intro r' h'
  simp_all

theorem fracOf_append (rest : List Char) (h : noExt rest = true) (x fr x' : List Char)
    (hx : fracOf x = some (fr, x')) : fracOf (x ++ rest) = some (fr, x' ++ rest) := by
  cases x with
  | nil =>
    simp only [fracOf, Option.some.injEq, Prod.mk.injEq] at hx
    obtain ⟨rfl, rfl⟩ := hx
    cases rest with
    | nil => rfl
    | cons c r => exact fracOf_of_ne r (noExt_cons h).2.1
  | cons c r =>
    by_cases hc : c = '.'
    · subst hc
      rw [List.cons_append, fracOf_dot, spanDigits_append rest h]
      rw [fracOf_dot] at hx
      by_cases he : (spanDigits r).1.isEmpty = true
      · simp only [he, ↓reduceIte] at hx; cases hx
      · simp only [he, Bool.false_eq_true, ↓reduceIte, Option.some.injEq, Prod.mk.injEq] at hx ⊢
        obtain ⟨rfl, rfl⟩ := hx
        exact ⟨rfl, rfl⟩
    · rw [fracOf_of_ne _ hc] at hx
      simp only [Option.some.injEq, Prod.mk.injEq] at hx
      obtain ⟨rfl, rfl⟩ := hx
      exact fracOf_of_ne _ hc

theorem expSign_append (c : Char) (cs rest : List Char) :
    expSign (c :: cs ++ rest) = ((expSign (c :: cs)).1, (expSign (c :: cs)).2 ++ rest) := by
  by_cases h1 : c = '+'
  · subst h1; rfl
  by_cases h2 : c = '-'
  · subst h2; rfl
  have : ∀ r, expSign (c :: r) = ([], c :: r) := by
    intro r
    rw [expSign]
    · intro r' h'; simp_all
    · intro r' h'; simp_all
  rw [List.cons_append, this, this]; rfl

theorem expOf_cons (e : Char) (r : List Char) : expOf (e :: r) =
    if e == 'e' || e == 'E' then
      (if (spanDigits (expSign r).2).1.isEmpty then none
       else some (e :: (expSign r).1 ++ (spanDigits (expSign r).2).1, (spanDigits (expSign r).2).2))
    else some ([], e :: r) := by
  rfl

theorem expOf_append (rest : List Char) (h : noExt rest = true) (x ex x' : List Char)
    (hx : expOf x = some (ex, x')) : expOf (x ++ rest) = some (ex, x' ++ rest) := by
  cases x with
  | nil =>
    simp only [expOf, Option.some.injEq, Prod.mk.injEq] at hx
    obtain ⟨rfl, rfl⟩ := hx
    cases rest with
    | nil => rfl
    | cons c r =>
      obtain ⟨_, _, h3, h4⟩ := noExt_cons h
      rw [List.nil_append, expOf_cons]
      simp [h3, h4]
  | cons e r =>
    rw [List.cons_append, expOf_cons]
    rw [expOf_cons] at hx
    by_cases he : (e == 'e' || e == 'E') = true
    · simp only [he, ↓reduceIte] at hx ⊢
      cases r with
      | nil =>
        simp [expSign, spanDigits] at hx
      | cons c r =>
        rw [expSign_append, spanDigits_append rest h]
        by_cases hz : (spanDigits (expSign (c :: r)).2).1.isEmpty = true
        · simp only [hz, ↓reduceIte] at hx; cases hx
        · simp only [hz, Bool.false_eq_true, ↓reduceIte, Option.some.injEq, Prod.mk.injEq] at hx ⊢
          obtain ⟨rfl, rfl⟩ := hx
          exact ⟨rfl, rfl⟩
    · simp only [he, Bool.false_eq_true, ↓reduceIte, Option.some.injEq, Prod.mk.injEq] at hx ⊢
      obtain ⟨rfl, rfl⟩ := hx
      exact ⟨rfl, rfl⟩

theorem parseNum_append (rest : List Char) (h : noExt rest = true) (cs lit r : List Char)
    (hp : parseNum cs = some (lit, r)) : parseNum (cs ++ rest) = some (lit, r ++ rest) := by
  cases cs with
  | nil => simp [parseNum_eq, stripSign, spanDigits] at hp
  | cons c cs =>
    rw [parseNum_eq] at hp ⊢
    rw [stripSign_append]
    simp only [spanDigits_append rest h] at hp ⊢
    generalize (stripSign (c :: cs)).1 = sign at hp ⊢
    generalize (stripSign (c :: cs)).2 = r0 at hp ⊢
    generalize hsd : spanDigits r0 = sd at hp ⊢
    obtain ⟨ds, r1⟩ := sd
    simp only at hp ⊢
    split at hp
    · cases hp
    split at hp
    · cases hp
    rename_i h1 h2
    simp only [h1, h2, ↓reduceIte]
    cases hf : fracOf r1 with
    | none => simp [hf] at hp
    | some p =>
      obtain ⟨fr, r2⟩ := p
      rw [fracOf_append rest h _ _ _ hf]
      simp only [hf] at hp ⊢
      cases he : expOf r2 with
      | none => simp [he] at hp
      | some q =>
        obtain ⟨ex, r3⟩ := q
        rw [expOf_append rest h _ _ _ he]
        simp only [he] at hp ⊢
        simp only [Option.some.injEq, Prod.mk.injEq] at hp ⊢
        obtain ⟨rfl, rfl⟩ := hp
        simp

/-! ### dispatch of `parseVal` -/

def startOk (c : Char) : Bool :=
  c == 'n' || c == 't' || c == 'f' || c == '"' || c == '[' || c == '{' || c == '-' || isDigit c

theorem isDigit_props {c : Char} (h : isDigit c = true) :
    isWs c = false ∧ c ≠ ']' ∧ c ≠ '}' ∧ c ≠ ',' ∧ c ≠ 'n' ∧ c ≠ 't' ∧ c ≠ 'f' ∧ c ≠ '"' ∧ c ≠ '[' ∧ c ≠ '{' ∧ c ≠ '-' := by
  simp only [isDigit, Bool.and_eq_true, decide_eq_true_eq] at h
  have hne : ∀ d : Char, (d.toNat < 48 ∨ 57 < d.toNat) → c ≠ d := by
    intro d hd hcd; subst hcd; omega
  refine ⟨?_, hne _ (by decide), hne _ (by decide), hne _ (by decide), hne _ (by decide), hne _ (by decide),
    hne _ (by decide), hne _ (by decide), hne _ (by decide), hne _ (by decide), hne _ (by decide)⟩
  simp only [isWs, Bool.or_eq_false_iff, beq_eq_false_iff_ne]
  exact ⟨⟨⟨hne _ (by decide), hne _ (by decide)⟩, hne _ (by decide)⟩, hne _ (by decide)⟩

theorem startOk_props {c : Char} (h : startOk c = true) :
    isWs c = false ∧ c ≠ ']' ∧ c ≠ '}' ∧ c ≠ ',' := by
  simp only [startOk, Bool.or_eq_true, beq_iff_eq] at h
  rcases h with ((((((h | h) | h) | h) | h) | h) | h) | h
  any_goals (subst h; decide)
  have := isDigit_props h
  exact ⟨this.1, this.2.1, this.2.2.1, this.2.2.2.1⟩

theorem skipWs_of {c : Char} (r : List Char) (h : isWs c = false) : skipWs (c :: r) = c :: r := by
  simp only [skipWs, h, Bool.false_eq_true, ↓reduceIte]

theorem parseVal_str (f : Nat) (r : List Char) : parseVal (f + 1) ('"' :: r) =
    match parseStrBody r [] with
    | some (s, r') => some (.str s, r')
    | none => none := rfl
theorem parseVal_arr (f : Nat) (r : List Char) : parseVal (f + 1) ('[' :: r) =
    match skipWs r with
    | ']' :: r' => some (.arr [], r')
    | r' => parseElems f r' [] := rfl
theorem parseVal_obj (f : Nat) (r : List Char) : parseVal (f + 1) ('{' :: r) =
    match skipWs r with
    | '}' :: r' => some (.obj [], r')
    | r' => parseMembers f r' [] := rfl

theorem parseVal_arr_cons (f : Nat) (c : Char) (r : List Char) (h : startOk c = true) :
    parseVal (f + 1) ('[' :: c :: r) = parseElems f (c :: r) [] := by
  obtain ⟨h1, h2, _, _⟩ := startOk_props h
  rw [parseVal_arr, skipWs_of r h1]
  split
  · next heq => simp only [List.cons.injEq] at heq; exact absurd heq.1 h2
  · rfl

theorem parseVal_obj_cons (f : Nat) (r : List Char) :
    parseVal (f + 1) ('{' :: '"' :: r) = parseMembers f ('"' :: r) [] := rfl

theorem parseVal_num (f : Nat) (c : Char) (r : List Char) (h : (c == '-' || isDigit c) = true) :
    parseVal (f + 1) (c :: r) =
      match parseNum (c :: r) with
      | some (lit, r') => some (.num lit, r')
      | none => none := by
  have hp : isWs c = false ∧ c ≠ 'n' ∧ c ≠ 't' ∧ c ≠ 'f' ∧ c ≠ '"' ∧ c ≠ '[' ∧ c ≠ '{' := by
    simp only [Bool.or_eq_true, beq_iff_eq] at h
    rcases h with h | h
    · subst h; decide
    · have := isDigit_props h
      exact ⟨this.1, this.2.2.2.2.1, this.2.2.2.2.2.1, this.2.2.2.2.2.2.1, this.2.2.2.2.2.2.2.1,
        this.2.2.2.2.2.2.2.2.1, this.2.2.2.2.2.2.2.2.2.1⟩
  obtain ⟨h0, h1, h2, h3, h4, h5, h6⟩ := hp
  rw [parseVal, skipWs_of r h0]
  split
  all_goals (try (rename_i heq; simp only [List.cons.injEq] at heq; first | exact absurd heq.1 h1 | exact absurd heq.1 h2 | exact absurd heq.1 h3 | exact absurd heq.1 h4 | exact absurd heq.1 h5 | exact absurd heq.1 h6))
  · next heq => simp only [List.cons.injEq] at heq; obtain ⟨rfl, rfl⟩ := heq; simp only [h, ↓reduceIte]; rfl
  · next heq => cases heq


theorem parseElems_comma (f : Nat) (cs : List Char) (acc : List JTree) (v : JTree) (r : List Char)
    (h : parseVal f cs = some (v, ',' :: r)) : parseElems (f + 1) cs acc = parseElems f r (v :: acc) := by
  rw [parseElems, h]; rfl

theorem parseElems_close (f : Nat) (cs : List Char) (acc : List JTree) (v : JTree) (r : List Char)
    (h : parseVal f cs = some (v, ']' :: r)) : parseElems (f + 1) cs acc = some (.arr (v :: acc).reverse, r) := by
  rw [parseElems, h]; rfl

theorem parseMembers_comma (f : Nat) (cs : List Char) (acc : List (List Char × JTree)) (k : List Char) (v : JTree)
    (r2 r4 : List Char) (hk : parseStrBody cs [] = some (k, ':' :: r2)) (hv : parseVal f r2 = some (v, ',' :: r4)) :
    parseMembers (f + 1) ('"' :: cs) acc = parseMembers f r4 ((k, v) :: acc) := by
  rw [parseMembers]
  simp only [skipWs_of cs (show isWs '"' = false by decide), hk]
  simp only [skipWs_of r2 (show isWs ':' = false by decide), hv]
  rfl

theorem parseMembers_close (f : Nat) (cs : List Char) (acc : List (List Char × JTree)) (k : List Char) (v : JTree)
    (r2 r4 : List Char) (hk : parseStrBody cs [] = some (k, ':' :: r2)) (hv : parseVal f r2 = some (v, '}' :: r4)) :
    parseMembers (f + 1) ('"' :: cs) acc = some (.obj ((k, v) :: acc).reverse, r4) := by
  rw [parseMembers]
  simp only [skipWs_of cs (show isWs '"' = false by decide), hk]
  simp only [skipWs_of r2 (show isWs ':' = false by decide), hv]
  rfl

/-! ### well-formed trees and the round trip -/

/-- a valid JSON number literal: the reader's number scanner accepts exactly the whole literal -/
def numOk (lit : List Char) : Bool := decide (parseNum lit = some (lit, []))

mutual
/-- well-formed syntax tree: every number literal is a valid JSON number -/
def WfTree : JTree → Bool
  | .null => true
  | .bool _ => true
  | .num lit => numOk lit
  | .str _ => true
  | .arr xs => WfElems xs
  | .obj kvs => WfMembers kvs
def WfElems : List JTree → Bool
  | [] => true
  | x :: xs => WfTree x && WfElems xs
def WfMembers : List (List Char × JTree) → Bool
  | [] => true
  | kv :: r => WfTree kv.2 && WfMembers r
end

mutual
/-- fuel that `parseVal` needs for the printed tree -/
def need : JTree → Nat
  | .null => 1
  | .bool _ => 1
  | .num _ => 1
  | .str _ => 1
  | .arr xs => 1 + needL xs
  | .obj kvs => 1 + needM kvs
def needL : List JTree → Nat
  | [] => 0
  | x :: xs => 1 + need x + needL xs
def needM : List (List Char × JTree) → Nat
  | [] => 0
  | kv :: r => 1 + need kv.2 + needM r
end

theorem parseNum_head {c : Char} {cs lit r : List Char} (h : parseNum (c :: cs) = some (lit, r)) :
    (c == '-' || isDigit c) = true := by
  by_cases hc : c = '-'
  · subst hc; rfl
  · by_cases hd : isDigit c = true
    · simp [hd]
    · rw [parseNum_eq, stripSign_of_ne _ hc] at h
      simp [spanDigits, hd] at h

theorem numOk_head {lit : List Char} (h : numOk lit = true) :
    ∃ c r, lit = c :: r ∧ (c == '-' || isDigit c) = true := by
  simp only [numOk, decide_eq_true_eq] at h
  cases lit with
  | nil => simp [parseNum_eq, stripSign, spanDigits] at h
  | cons c r => exact ⟨c, r, rfl, parseNum_head h⟩

theorem numOk_parse {lit : List Char} (h : numOk lit = true) (rest : List Char) (hr : noExt rest = true) :
    parseNum (lit ++ rest) = some (lit, rest) := by
  simp only [numOk, decide_eq_true_eq] at h
  have := parseNum_append rest hr lit lit [] h
  simpa using this

theorem printStr_eq (s : List Char) (rest : List Char) :
    printStr s ++ rest = '"' :: (s.flatMap escChar ++ '"' :: rest) := by
  simp [printStr]

/-- a printed well-formed value starts with a character that is neither white space nor a delimiter -/
theorem printTree_head (t : JTree) (h : WfTree t = true) : ∃ c r, printTree t = c :: r ∧ startOk c = true := by
  cases t with
  | null => exact ⟨_, _, by rw [printTree], by decide⟩
  | bool b => cases b <;> exact ⟨_, _, by rw [printTree], by decide⟩
  | num lit =>
    rw [WfTree] at h
    obtain ⟨c, r, rfl, hc⟩ := numOk_head h
    refine ⟨c, r, by rw [printTree], ?_⟩
    simp only [Bool.or_eq_true, beq_iff_eq] at hc
    simp only [startOk, Bool.or_eq_true, beq_iff_eq]
    rcases hc with hc | hc
    · exact Or.inl (Or.inr hc)
    · exact Or.inr hc
  | str s => exact ⟨_, _, by rw [printTree, printStr], by decide⟩
  | arr xs => exact ⟨_, _, by rw [printTree], by decide⟩
  | obj kvs => exact ⟨_, _, by rw [printTree], by decide⟩


theorem printElems_head (x : JTree) (xs : List JTree) (h : WfTree x = true) :
    ∃ c r, printElems (x :: xs) = c :: r ∧ startOk c = true := by
  obtain ⟨c, r, hp, hc⟩ := printTree_head x h
  cases xs with
  | nil => exact ⟨c, r, by rw [printElems, hp], hc⟩
  | cons y ys => exact ⟨c, r ++ ',' :: printElems (y :: ys), by rw [printElems, hp]; rfl, hc⟩

theorem fuel_succ {n fuel : Nat} (h : 1 + n ≤ fuel) : ∃ f, fuel = f + 1 ∧ n ≤ f := ⟨fuel - 1, by omega, by omega⟩

mutual
theorem parseVal_print : ∀ (t : JTree), WfTree t = true → ∀ (fuel : Nat) (rest : List Char), need t ≤ fuel →
    noExt rest = true → parseVal fuel (printTree t ++ rest) = some (t, rest)
  | .null, _, fuel, rest, hf, _ | .bool true, _, fuel, rest, hf, _ | .bool false, _, fuel, rest, hf, _ => by
    rw [need] at hf
    obtain ⟨f, rfl, _⟩ := fuel_succ (n := 0) hf
    rw [printTree]; rfl
  | .num lit, h, fuel, rest, hf, hr => by
    rw [need] at hf
    obtain ⟨f, rfl, _⟩ := fuel_succ (n := 0) hf
    rw [WfTree] at h
    obtain ⟨c, r, rfl, hc⟩ := numOk_head h
    rw [printTree, List.cons_append, parseVal_num f c _ hc, ← List.cons_append, numOk_parse h rest hr]
  | .str s, _, fuel, rest, hf, _ => by
    rw [need] at hf
    obtain ⟨f, rfl, _⟩ := fuel_succ (n := 0) hf
    rw [printTree, printStr_eq, parseVal_str, parseStrBody_print]
    rfl
  | .arr xs, h, fuel, rest, hf, _ => by
    rw [need] at hf
    obtain ⟨f, rfl, hf'⟩ := fuel_succ hf
    rw [WfTree] at h
    by_cases hx : xs = []
    · subst hx
      rw [printTree, printElems]; rfl
    · have hrec := parseElems_print xs h hx f rest [] hf'
      obtain ⟨x, xs', rfl⟩ := List.exists_cons_of_ne_nil hx
      rw [WfElems, Bool.and_eq_true] at h
      obtain ⟨c, r, hp, hc⟩ := printElems_head x xs' h.1
      rw [printTree, List.cons_append, List.append_assoc, List.singleton_append]
      rw [hp, List.cons_append] at hrec ⊢
      rw [parseVal_arr_cons f c _ hc, hrec]; rfl
  | .obj kvs, h, fuel, rest, hf, _ => by
    rw [need] at hf
    obtain ⟨f, rfl, hf'⟩ := fuel_succ hf
    rw [WfTree] at h
    by_cases hx : kvs = []
    · subst hx
      rw [printTree, printMembers]; rfl
    · have hrec := parseMembers_print kvs h hx f rest [] hf'
      obtain ⟨kv, kvs', rfl⟩ := List.exists_cons_of_ne_nil hx
      obtain ⟨r, hp⟩ : ∃ r, printMembers (kv :: kvs') = '"' :: r := by
        cases kvs' with
        | nil => exact ⟨_, by rw [printMembers, printStr]; rfl⟩
        | cons kv' r' => exact ⟨_, by rw [printMembers, printStr]; rfl⟩
      rw [printTree, List.cons_append, List.append_assoc, List.singleton_append]
      rw [hp, List.cons_append] at hrec ⊢
      rw [parseVal_obj_cons f, hrec]; rfl
theorem parseElems_print : ∀ (xs : List JTree), WfElems xs = true → xs ≠ [] → ∀ (fuel : Nat) (rest : List Char)
    (acc : List JTree), needL xs ≤ fuel →
    parseElems fuel (printElems xs ++ ']' :: rest) acc = some (.arr (acc.reverse ++ xs), rest)
  | [], _, hne, _, _, _, _ => absurd rfl hne
  | [x], h, _, fuel, rest, acc, hf => by
    rw [WfElems, WfElems, Bool.and_true] at h
    rw [needL, needL] at hf
    obtain ⟨f, rfl, hf'⟩ := fuel_succ (n := need x) (fuel := fuel) (by omega)
    rw [printElems]
    have hv := parseVal_print x h f (']' :: rest) hf' rfl
    rw [parseElems_close f _ acc x rest hv]; simp
  | x :: y :: r, h, _, fuel, rest, acc, hf => by
    rw [WfElems, Bool.and_eq_true] at h
    rw [needL] at hf
    obtain ⟨f, rfl, hf'⟩ := fuel_succ (n := need x + needL (y :: r)) (fuel := fuel) (by omega)
    rw [printElems, List.append_assoc, List.cons_append]
    have hv := parseVal_print x h.1 f (',' :: (printElems (y :: r) ++ ']' :: rest)) (by omega) rfl
    rw [parseElems_comma f _ acc x _ hv, parseElems_print (y :: r) h.2 (by simp) f rest (x :: acc) (by omega)]
    simp
theorem parseMembers_print : ∀ (kvs : List (List Char × JTree)), WfMembers kvs = true → kvs ≠ [] →
    ∀ (fuel : Nat) (rest : List Char) (acc : List (List Char × JTree)), needM kvs ≤ fuel →
    parseMembers fuel (printMembers kvs ++ '}' :: rest) acc = some (.obj (acc.reverse ++ kvs), rest)
  | [], _, hne, _, _, _, _ => absurd rfl hne
  | [kv], h, _, fuel, rest, acc, hf => by
    rw [WfMembers, WfMembers, Bool.and_true] at h
    rw [needM, needM] at hf
    obtain ⟨f, rfl, hf'⟩ := fuel_succ (n := need kv.2) (fuel := fuel) (by omega)
    rw [printMembers, List.append_assoc, List.cons_append, printStr_eq]
    have hk := parseStrBody_print kv.1 (':' :: (printTree kv.2 ++ '}' :: rest)) []
    have hv := parseVal_print kv.2 h f ('}' :: rest) hf' rfl
    rw [parseMembers_close f _ acc _ kv.2 _ rest hk hv]; simp
  | kv :: kv' :: r, h, _, fuel, rest, acc, hf => by
    rw [WfMembers, Bool.and_eq_true] at h
    rw [needM] at hf
    obtain ⟨f, rfl, hf'⟩ := fuel_succ (n := need kv.2 + needM (kv' :: r)) (fuel := fuel) (by omega)
    rw [printMembers, List.append_assoc, List.cons_append, List.append_assoc, List.cons_append, printStr_eq]
    have hk := parseStrBody_print kv.1 (':' :: (printTree kv.2 ++ ',' :: (printMembers (kv' :: r) ++ '}' :: rest))) []
    have hv := parseVal_print kv.2 h.1 f (',' :: (printMembers (kv' :: r) ++ '}' :: rest)) (by omega) rfl
    rw [parseMembers_comma f _ acc _ kv.2 _ _ hk hv,
      parseMembers_print (kv' :: r) h.2 (by simp) f rest (_ :: acc) (by omega)]
    simp
end

mutual
theorem need_le : ∀ (t : JTree), need t ≤ 2 * (printTree t).length + 1
  | .null => by rw [need]; omega
  | .bool _ => by rw [need]; omega
  | .num _ => by rw [need]; omega
  | .str _ => by rw [need]; omega
  | .arr xs => by
    have := needL_le xs
    rw [need, printTree]
    simp only [List.length_cons, List.length_append, List.length_nil]
    omega
  | .obj kvs => by
    have := needM_le kvs
    rw [need, printTree]
    simp only [List.length_cons, List.length_append, List.length_nil]
    omega
theorem needL_le : ∀ (xs : List JTree), needL xs ≤ 2 * (printElems xs).length + 2
  | [] => by rw [needL]; omega
  | [x] => by
    have := need_le x
    rw [needL, needL, printElems]; omega
  | x :: y :: r => by
    have := need_le x
    have := needL_le (y :: r)
    rw [needL, printElems]
    simp only [List.length_cons, List.length_append]
    omega
theorem needM_le : ∀ (kvs : List (List Char × JTree)), needM kvs ≤ 2 * (printMembers kvs).length + 2
  | [] => by rw [needM]; omega
  | [kv] => by
    have := need_le kv.2
    rw [needM, needM, printMembers]
    simp only [List.length_cons, List.length_append]
    omega
  | kv :: kv' :: r => by
    have := need_le kv.2
    have := needM_le (kv' :: r)
    rw [needM, printMembers]
    simp only [List.length_cons, List.length_append]
    omega
end

theorem parseJ_print (t : JTree) (h : WfTree t = true) : parseJ (printTree t) = some t := by
  have := parseVal_print t h (2 * (printTree t).length + 2) [] (by have := need_le t; omega) rfl
  rw [List.append_nil] at this
  rw [parseJ, this]
  rfl

/-! ### integer literals are valid number literals -/

theorem isDigit_of_core {c : Char} (h : c.isDigit = true) : isDigit c = true := by
  simp only [Char.isDigit, Bool.and_eq_true, decide_eq_true_eq] at h
  simp only [isDigit, Bool.and_eq_true, decide_eq_true_eq, Char.toNat]
  have h1 := UInt32.le_iff_toNat_le.mp h.1
  have h2 := UInt32.le_iff_toNat_le.mp h.2
  exact ⟨h1, h2⟩

theorem spanDigits_all : ∀ (ds : List Char), (∀ c ∈ ds, isDigit c = true) → spanDigits ds = (ds, [])
  | [], _ => rfl
  | c :: r, h => by
    have hc := h c (by simp)
    have := spanDigits_all r (fun d hd => h d (by simp [hd]))
    simp only [spanDigits, hc, ↓reduceIte, this]

theorem stripSign_eq (cs : List Char) : (stripSign cs).1 ++ (stripSign cs).2 = cs := by
  cases cs with
  | nil => rfl
  | cons c r =>
    by_cases h : c = '-'
    · subst h; rfl
    · rw [stripSign_of_ne _ h]; rfl

/-- a non-empty digit string without a superfluous leading zero, with or without a sign, is a number literal -/
theorem parseNum_digits {cs sign ds : List Char} (hs : stripSign cs = (sign, ds)) (hne : ds ≠ [])
    (hall : ∀ c ∈ ds, isDigit c = true) (hlead : ¬ (ds.length > 1 ∧ ds.head? = some '0')) :
    parseNum cs = some (cs, []) := by
  obtain ⟨c, r, rfl⟩ := List.exists_cons_of_ne_nil hne
  have e := stripSign_eq cs
  rw [hs] at e
  rw [parseNum_eq, hs]
  simp only [spanDigits_all _ hall, List.isEmpty_cons, Bool.false_eq_true, ↓reduceIte, hlead, fracOf, expOf]
  simpa using e

theorem toDigits_head : ∀ (n : Nat), 0 < n → (Nat.toDigits 10 n).head? ≠ some '0' := by
  intro n
  induction n using Nat.strongRecOn with
  | _ n ih =>
    intro hn
    rw [Nat.toDigits_eq_if (by decide)]
    split
    · next hlt =>
      have : ∀ m, m < 10 → 0 < m → Nat.digitChar m ≠ '0' := by decide
      simpa using this n hlt hn
    · next hge =>
      have h1 : 0 < n / 10 := by omega
      have := ih (n / 10) (by omega) h1
      have hne : Nat.toDigits 10 (n / 10) ≠ [] := Nat.toDigits_ne_nil
      obtain ⟨c, r, hcr⟩ := List.exists_cons_of_ne_nil hne
      rw [hcr] at this ⊢
      simpa using this

theorem natLit_ok (n : Nat) : let ds := (toString n).toList
    ds ≠ [] ∧ (∀ c ∈ ds, isDigit c = true) ∧ ¬ (ds.length > 1 ∧ ds.head? = some '0') := by
  refine ⟨?_, fun c hc => isDigit_of_core (B1.isDigit_of_mem_toString hc), ?_⟩ <;> rw [B1.toString_toList]
  · exact Nat.toDigits_ne_nil
  · intro ⟨h1, h2⟩
    by_cases hn : 0 < n
    · exact toDigits_head n hn h2
    · have : n = 0 := by omega
      subst this
      simp at h1

/-- every integer literal that `itoa` writes is a valid JSON number -/
theorem numOk_intLit (z : Int) : numOk (intLit z) = true := by
  simp only [numOk, decide_eq_true_eq]
  cases z with
  | ofNat n =>
    obtain ⟨h1, h2, h3⟩ := natLit_ok n
    obtain ⟨c, r, hcr⟩ := List.exists_cons_of_ne_nil h1
    have hm : c ≠ '-' := (isDigit_props (h2 c (by rw [hcr]; exact List.mem_cons_self))).2.2.2.2.2.2.2.2.2.2
    have hs : stripSign (intLit (Int.ofNat n)) = ([], (toString n).toList) := by
      simp only [intLit]; rw [hcr]; exact stripSign_of_ne r hm
    exact parseNum_digits hs h1 h2 h3
  | negSucc n =>
    obtain ⟨h1, h2, h3⟩ := natLit_ok (n + 1)
    have hs : stripSign (intLit (Int.negSucc n)) = (['-'], (toString (n + 1)).toList) := by simp only [intLit, stripSign]
    exact parseNum_digits hs h1 h2 h3

/-! ### the tree a value denotes; the matcher accepts it -/

mutual
/-- the tree that the modelled writer produces for a `JVal`: integers as `itoa` literals, finite floats through the
    (unmodelled, parameter) float printer `fp`, non-finite floats as `null`, strings through a decoder `dec` of their
    UTF-8 bytes (parameter), the wildcard string as the empty string, arrays and objects member for member in order. -/
def treeOf (isFinite : Nat → Bool) (fp : Nat → List Char) (dec : Bytes → List Char) : JVal → JTree
  | .null => .null
  | .num z => .num (intLit z)
  | .f64 bits => if isFinite bits then .num (fp bits) else .null
  | .str b => .str (dec b)
  | .anyStr => .str []
  | .arr xs => .arr (treeOfL isFinite fp dec xs)
  | .obj kvs => .obj (treeOfM isFinite fp dec kvs)
def treeOfL (isFinite : Nat → Bool) (fp : Nat → List Char) (dec : Bytes → List Char) : List JVal → List JTree
  | [] => []
  | x :: xs => treeOf isFinite fp dec x :: treeOfL isFinite fp dec xs
def treeOfM (isFinite : Nat → Bool) (fp : Nat → List Char) (dec : Bytes → List Char) :
    List (String × JVal) → List (List Char × JTree)
  | [] => []
  | kv :: r => (kv.1.toList, treeOf isFinite fp dec kv.2) :: treeOfM isFinite fp dec r
end

mutual
/-- every float leaf satisfies `P`, every string leaf satisfies `Q` -/
def Leaves (P : Nat → Prop) (Q : Bytes → Prop) : JVal → Prop
  | .null => True
  | .num _ => True
  | .f64 bits => P bits
  | .str b => Q b
  | .anyStr => True
  | .arr xs => LeavesL P Q xs
  | .obj kvs => LeavesM P Q kvs
def LeavesL (P : Nat → Prop) (Q : Bytes → Prop) : List JVal → Prop
  | [] => True
  | x :: xs => Leaves P Q x ∧ LeavesL P Q xs
def LeavesM (P : Nat → Prop) (Q : Bytes → Prop) : List (String × JVal) → Prop
  | [] => True
  | kv :: r => Leaves P Q kv.2 ∧ LeavesM P Q r
end

/-- structural induction on JSON values: an array from its elements, an object from its member values -/
theorem JVal.induct {motive : JVal → Prop} (null : motive .null) (num : ∀ z, motive (.num z))
    (f64 : ∀ b, motive (.f64 b)) (str : ∀ b, motive (.str b)) (anyStr : motive .anyStr)
    (arr : ∀ xs, (∀ x ∈ xs, motive x) → motive (.arr xs))
    (obj : ∀ kvs : List (String × JVal), (∀ kv ∈ kvs, motive kv.2) → motive (.obj kvs)) : ∀ v, motive v :=
  JVal.rec (motive_1 := motive) (motive_2 := fun xs => ∀ x ∈ xs, motive x)
    (motive_3 := fun kvs => ∀ kv ∈ kvs, motive kv.2) (motive_4 := fun kv => motive kv.2)
    null num f64 str anyStr arr obj
    (fun _ h => nomatch h) (fun _ _ hx hxs y hy => (List.mem_cons.mp hy).elim (· ▸ hx) (hxs y))
    (fun _ h => nomatch h) (fun _ _ hx hxs y hy => (List.mem_cons.mp hy).elim (· ▸ hx) (hxs y))
    (fun _ _ h => h)

/-! the list companions of the mutual definitions, elementwise -/

theorem treeOfL_eq_map (isFinite : Nat → Bool) (fp : Nat → List Char) (dec : Bytes → List Char) (xs : List JVal) :
    treeOfL isFinite fp dec xs = xs.map (treeOf isFinite fp dec) := by
  induction xs with
  | nil => rw [treeOfL]; rfl
  | cons x xs ih => rw [treeOfL, ih]; rfl

theorem treeOfM_eq_map (isFinite : Nat → Bool) (fp : Nat → List Char) (dec : Bytes → List Char)
    (kvs : List (String × JVal)) :
    treeOfM isFinite fp dec kvs = kvs.map (fun kv => (kv.1.toList, treeOf isFinite fp dec kv.2)) := by
  induction kvs with
  | nil => rw [treeOfM]; rfl
  | cons x xs ih => rw [treeOfM, ih]; rfl

theorem LeavesL_iff {P : Nat → Prop} {Q : Bytes → Prop} : ∀ {xs : List JVal}, LeavesL P Q xs ↔ ∀ x ∈ xs, Leaves P Q x
  | [] => by simp [LeavesL]
  | x :: xs => by simp [LeavesL, LeavesL_iff (xs := xs)]

theorem LeavesM_iff {P : Nat → Prop} {Q : Bytes → Prop} :
    ∀ {kvs : List (String × JVal)}, LeavesM P Q kvs ↔ ∀ kv ∈ kvs, Leaves P Q kv.2
  | [] => by simp [LeavesM]
  | kv :: r => by simp [LeavesM, LeavesM_iff (kvs := r)]

theorem WfElems_eq : ∀ ts : List JTree, WfElems ts = ts.all WfTree
  | [] => by rw [WfElems]; rfl
  | t :: ts => by rw [WfElems, WfElems_eq ts]; rfl

theorem WfMembers_eq : ∀ ms : List (List Char × JTree), WfMembers ms = ms.all fun m => WfTree m.2
  | [] => by rw [WfMembers]; rfl
  | m :: ms => by rw [WfMembers, WfMembers_eq ms]; rfl

section
variable (isFinite : Nat → Bool) (fmatch : Nat → List Char → Bool)

theorem goArr_map (f : JVal → JTree) : ∀ xs : List JVal,
    jmatchT.goArr isFinite fmatch xs (xs.map f) = xs.all fun x => jmatchT isFinite fmatch x (f x)
  | [] => by rw [List.map_nil, jmatchT.goArr]; rfl
  | x :: xs => by rw [List.map_cons, jmatchT.goArr, goArr_map f xs]; rfl

theorem goObj_map (f : JVal → JTree) : ∀ kvs : List (String × JVal),
    jmatchT.goObj isFinite fmatch kvs (kvs.map fun kv => (kv.1.toList, f kv.2)) =
      kvs.all fun kv => jmatchT isFinite fmatch kv.2 (f kv.2)
  | [] => by rw [List.map_nil, jmatchT.goObj]; rfl
  | kv :: r => by rw [List.map_cons, jmatchT.goObj, goObj_map f r]; simp
end

theorem Leaves.mono {P P' : Nat → Prop} {Q Q' : Bytes → Prop} (hP : ∀ b, P b → P' b) (hQ : ∀ b, Q b → Q' b) :
    ∀ (v : JVal), Leaves P Q v → Leaves P' Q' v := by
  intro v
  induction v using JVal.induct with
  | f64 b => simpa only [Leaves] using hP b
  | str b => simpa only [Leaves] using hQ b
  | arr xs ih => simp only [Leaves, LeavesL_iff]; exact fun h x hx => ih x hx (h x hx)
  | obj kvs ih => simp only [Leaves, LeavesM_iff]; exact fun h kv hkv => ih kv hkv (h kv hkv)
  | _ => simp only [Leaves, imp_self]

theorem LeavesL.mono {P P' : Nat → Prop} {Q Q' : Bytes → Prop} (hP : ∀ b, P b → P' b) (hQ : ∀ b, Q b → Q' b) :
    ∀ (xs : List JVal), LeavesL P Q xs → LeavesL P' Q' xs := by
  simp only [LeavesL_iff]; exact fun _ h x hx => Leaves.mono hP hQ x (h x hx)

theorem LeavesM.mono {P P' : Nat → Prop} {Q Q' : Bytes → Prop} (hP : ∀ b, P b → P' b) (hQ : ∀ b, Q b → Q' b) :
    ∀ (kvs : List (String × JVal)), LeavesM P Q kvs → LeavesM P' Q' kvs := by
  simp only [LeavesM_iff]; exact fun _ h kv hkv => Leaves.mono hP hQ kv.2 (h kv hkv)

/-- the matcher accepts the tree a value denotes; hypotheses: `fmatch` accepts what `fp` prints for the finite floats
    of `v`, `dec` inverts `utf8Of` on the strings of `v` -/
theorem jmatchT_treeOf (isFinite : Nat → Bool) (fmatch : Nat → List Char → Bool) (fp : Nat → List Char)
    (dec : Bytes → List Char) : ∀ (v : JVal),
    Leaves (fun bits => isFinite bits = true → fmatch bits (fp bits) = true) (fun b => utf8Of (dec b) = b) v →
    jmatchT isFinite fmatch v (treeOf isFinite fp dec v) = true := by
  intro v
  induction v using JVal.induct with
  | null => intro _; rw [treeOf, jmatchT]
  | num z => intro _; rw [treeOf, jmatchT]; simp
  | f64 bits =>
    intro h
    rw [Leaves] at h
    rw [treeOf]
    by_cases hb : isFinite bits = true
    · simp only [hb, ↓reduceIte]; rw [jmatchT, hb, h hb]; rfl
    · simp only [hb, Bool.false_eq_true, ↓reduceIte]; rw [jmatchT]; simp [hb]
  | str b => intro h; rw [Leaves] at h; rw [treeOf, jmatchT, h]; simp
  | anyStr => intro _; rw [treeOf, jmatchT]
  | arr xs ih =>
    intro h
    rw [Leaves, LeavesL_iff] at h
    rw [treeOf, jmatchT, treeOfL_eq_map, goArr_map, List.all_eq_true]
    exact fun x hx => ih x hx (h x hx)
  | obj kvs ih =>
    intro h
    rw [Leaves, LeavesM_iff] at h
    rw [treeOf, jmatchT, treeOfM_eq_map, goObj_map, List.all_eq_true]
    exact fun kv hkv => ih kv hkv (h kv hkv)

theorem goArr_treeOf (isFinite : Nat → Bool) (fmatch : Nat → List Char → Bool) (fp : Nat → List Char)
    (dec : Bytes → List Char) : ∀ (xs : List JVal),
    LeavesL (fun bits => isFinite bits = true → fmatch bits (fp bits) = true) (fun b => utf8Of (dec b) = b) xs →
    jmatchT.goArr isFinite fmatch xs (treeOfL isFinite fp dec xs) = true := by
  intro xs h
  rw [treeOfL_eq_map, goArr_map, List.all_eq_true]
  exact fun x hx => jmatchT_treeOf isFinite fmatch fp dec x (LeavesL_iff.mp h x hx)

theorem goObj_treeOf (isFinite : Nat → Bool) (fmatch : Nat → List Char → Bool) (fp : Nat → List Char)
    (dec : Bytes → List Char) : ∀ (kvs : List (String × JVal)),
    LeavesM (fun bits => isFinite bits = true → fmatch bits (fp bits) = true) (fun b => utf8Of (dec b) = b) kvs →
    jmatchT.goObj isFinite fmatch kvs (treeOfM isFinite fp dec kvs) = true := by
  intro kvs h
  rw [treeOfM_eq_map, goObj_map, List.all_eq_true]
  exact fun kv hkv => jmatchT_treeOf isFinite fmatch fp dec kv.2 (LeavesM_iff.mp h kv hkv)

/-- the tree of a value is well formed when the float printer writes valid number literals -/
theorem WfTree_treeOf (isFinite : Nat → Bool) (fp : Nat → List Char) (dec : Bytes → List Char) : ∀ (v : JVal),
    Leaves (fun bits => isFinite bits = true → numOk (fp bits) = true) (fun _ => True) v →
    WfTree (treeOf isFinite fp dec v) = true := by
  intro v
  induction v using JVal.induct with
  | num z => intro _; rw [treeOf, WfTree]; exact numOk_intLit z
  | f64 bits =>
    intro h
    rw [Leaves] at h
    rw [treeOf]
    by_cases hb : isFinite bits = true
    · simp only [hb, ↓reduceIte]; rw [WfTree]; exact h hb
    · simp only [hb, Bool.false_eq_true, ↓reduceIte]; rw [WfTree]
  | arr xs ih =>
    intro h
    rw [Leaves, LeavesL_iff] at h
    rw [treeOf, WfTree, treeOfL_eq_map, WfElems_eq, List.all_map, List.all_eq_true]
    exact fun x hx => ih x hx (h x hx)
  | obj kvs ih =>
    intro h
    rw [Leaves, LeavesM_iff] at h
    rw [treeOf, WfTree, treeOfM_eq_map, WfMembers_eq, List.all_map, List.all_eq_true]
    exact fun kv hkv => ih kv hkv (h kv hkv)
  | _ => intro _; rw [treeOf, WfTree]

theorem WfElems_treeOfL (isFinite : Nat → Bool) (fp : Nat → List Char) (dec : Bytes → List Char) : ∀ (xs : List JVal),
    LeavesL (fun bits => isFinite bits = true → numOk (fp bits) = true) (fun _ => True) xs →
    WfElems (treeOfL isFinite fp dec xs) = true := by
  intro xs h
  rw [treeOfL_eq_map, WfElems_eq, List.all_map, List.all_eq_true]
  exact fun x hx => WfTree_treeOf isFinite fp dec x (LeavesL_iff.mp h x hx)

theorem WfMembers_treeOfM (isFinite : Nat → Bool) (fp : Nat → List Char) (dec : Bytes → List Char) :
    ∀ (kvs : List (String × JVal)),
    LeavesM (fun bits => isFinite bits = true → numOk (fp bits) = true) (fun _ => True) kvs →
    WfMembers (treeOfM isFinite fp dec kvs) = true := by
  intro kvs h
  rw [treeOfM_eq_map, WfMembers_eq, List.all_map, List.all_eq_true]
  exact fun kv hkv => WfTree_treeOf isFinite fp dec kv.2 (LeavesM_iff.mp h kv hkv)

/-! ### the matcher is ordered and (on plain values) injective -/

section Matcher
variable (isFinite : Nat → Bool) (fmatch : Nat → List Char → Bool)

theorem jmatchT_obj_inv {kvs : List (String × JVal)} {t : JTree}
    (h : jmatchT isFinite fmatch (.obj kvs) t = true) : ∃ ms, t = .obj ms ∧ jmatchT.goObj isFinite fmatch kvs ms = true := by
  cases t with
  | obj ms => rw [jmatchT] at h; exact ⟨ms, rfl, h⟩
  | _ => simp [jmatchT] at h

theorem jmatchT_arr_inv {xs : List JVal} {t : JTree}
    (h : jmatchT isFinite fmatch (.arr xs) t = true) : ∃ ys, t = .arr ys ∧ jmatchT.goArr isFinite fmatch xs ys = true := by
  cases t with
  | arr ys => rw [jmatchT] at h; exact ⟨ys, rfl, h⟩
  | _ => simp [jmatchT] at h

/-- an array is matched position by position -/
theorem goArr_spec : ∀ (xs : List JVal) (ys : List JTree), jmatchT.goArr isFinite fmatch xs ys = true →
    ys.length = xs.length ∧
    ∀ (k : Nat) (x : JVal) (y : JTree), xs[k]? = some x → ys[k]? = some y → jmatchT isFinite fmatch x y = true
  | [], [], _ => ⟨rfl, fun k x y hx _ => by simp at hx⟩
  | [], _ :: _, h => by simp [jmatchT.goArr] at h
  | _ :: _, [], h => by simp [jmatchT.goArr] at h
  | a :: xs, b :: ys, h => by
    rw [jmatchT.goArr, Bool.and_eq_true] at h
    obtain ⟨hl, hg⟩ := goArr_spec xs ys h.2
    refine ⟨by rw [List.length_cons, List.length_cons, hl], fun k x y hx hy => ?_⟩
    cases k with
    | zero =>
      simp only [List.getElem?_cons_zero, Option.some.injEq] at hx hy
      subst hx; subst hy; exact h.1
    | succ k => exact hg k x y (by simpa using hx) (by simpa using hy)

/-- an object is matched member by member, names included: same names in the same order -/
theorem goObj_spec : ∀ (kvs : List (String × JVal)) (ms : List (List Char × JTree)),
    jmatchT.goObj isFinite fmatch kvs ms = true →
    ms.map (·.1) = kvs.map (·.1.toList) ∧
    ∀ (k : Nat) (kv : String × JVal) (m : List Char × JTree), kvs[k]? = some kv → ms[k]? = some m →
      m.1 = kv.1.toList ∧ jmatchT isFinite fmatch kv.2 m.2 = true
  | [], [], _ => ⟨rfl, fun k x y hx _ => by simp at hx⟩
  | [], _ :: _, h => by simp [jmatchT.goObj] at h
  | _ :: _, [], h => by simp [jmatchT.goObj] at h
  | a :: kvs, b :: ms, h => by
    rw [jmatchT.goObj] at h
    simp only [Bool.and_eq_true, beq_iff_eq] at h
    obtain ⟨hl, hg⟩ := goObj_spec kvs ms h.2
    refine ⟨by rw [List.map_cons, List.map_cons, hl, h.1.1], fun k x y hx hy => ?_⟩
    cases k with
    | zero =>
      simp only [List.getElem?_cons_zero, Option.some.injEq] at hx hy
      subst hx; subst hy; exact ⟨h.1.1.symm, h.1.2⟩
    | succ k => exact hg k x y (by simpa using hx) (by simpa using hy)

/-! injectivity of the denotation on values without floats and wildcards -/

mutual
def plain : JVal → Bool
  | .null => true
  | .num _ => true
  | .f64 _ => false
  | .str _ => true
  | .anyStr => false
  | .arr xs => plainL xs
  | .obj kvs => plainM kvs
def plainL : List JVal → Bool
  | [] => true
  | x :: xs => plain x && plainL xs
def plainM : List (String × JVal) → Bool
  | [] => true
  | kv :: r => plain kv.2 && plainM r
end

theorem intLit_inj {a b : Int} (h : intLit a = intLit b) : a = b := by
  have hd : ∀ n : Nat, ∀ r, (toString n).toList ≠ '-' :: r := fun n r hc =>
    absurd (B1.isDigit_of_mem_toString (c := '-') (by rw [hc]; exact List.mem_cons_self)) (by decide)
  cases a with
  | ofNat m =>
    cases b with
    | ofNat n => simp only [intLit] at h; rw [B1.decDigits_inj h]
    | negSucc n => simp only [intLit] at h; exact absurd h (hd _ _)
  | negSucc m =>
    cases b with
    | ofNat n => simp only [intLit] at h; exact absurd h.symm (hd _ _)
    | negSucc n =>
      simp only [intLit, List.cons.injEq, true_and] at h
      have := B1.decDigits_inj h
      have : m = n := by omega
      rw [this]

mutual
theorem jmatchT_inj : ∀ (v w : JVal) (t : JTree), plain v = true → plain w = true →
    jmatchT isFinite fmatch v t = true → jmatchT isFinite fmatch w t = true → v = w
  | .null, w, t, _, hw, h1, h2 => by
    cases t <;> simp [jmatchT] at h1
    cases w <;> simp [jmatchT, plain] at h2 hw ⊢
  | .num n, w, t, _, hw, h1, h2 => by
    cases t <;> simp [jmatchT] at h1
    cases w <;> simp [jmatchT, plain] at h2 hw ⊢
    subst h1
    exact intLit_inj h2
  | .f64 _, _, _, hv, _, _, _ => by simp [plain] at hv
  | .str b, w, t, _, hw, h1, h2 => by
    cases t <;> simp [jmatchT] at h1
    cases w <;> simp [jmatchT, plain] at h2 hw ⊢
    rw [← h1, ← h2]
  | .anyStr, _, _, hv, _, _, _ => by simp [plain] at hv
  | .arr xs, w, t, hv, hw, h1, h2 => by
    obtain ⟨ys, rfl, h1'⟩ := jmatchT_arr_inv isFinite fmatch h1
    cases w <;> simp [jmatchT, plain] at h2 hw ⊢
    rw [plain] at hv
    exact goArr_inj xs _ ys hv hw h1' h2
  | .obj kvs, w, t, hv, hw, h1, h2 => by
    obtain ⟨ms, rfl, h1'⟩ := jmatchT_obj_inv isFinite fmatch h1
    cases w <;> simp [jmatchT, plain] at h2 hw ⊢
    rw [plain] at hv
    exact goObj_inj kvs _ ms hv hw h1' h2
theorem goArr_inj : ∀ (xs ws : List JVal) (ys : List JTree), plainL xs = true → plainL ws = true →
    jmatchT.goArr isFinite fmatch xs ys = true → jmatchT.goArr isFinite fmatch ws ys = true → xs = ws
  | [], ws, ys, _, _, h1, h2 => by
    cases ys <;> simp [jmatchT.goArr] at h1
    cases ws <;> simp [jmatchT.goArr] at h2 ⊢
  | x :: xs, ws, ys, hv, hw, h1, h2 => by
    cases ys with
    | nil => simp [jmatchT.goArr] at h1
    | cons y ys =>
      cases ws with
      | nil => simp [jmatchT.goArr] at h2
      | cons w ws =>
        rw [jmatchT.goArr, Bool.and_eq_true] at h1 h2
        rw [plainL, Bool.and_eq_true] at hv hw
        rw [jmatchT_inj x w y hv.1 hw.1 h1.1 h2.1, goArr_inj xs ws ys hv.2 hw.2 h1.2 h2.2]
theorem goObj_inj : ∀ (kvs ws : List (String × JVal)) (ms : List (List Char × JTree)), plainM kvs = true →
    plainM ws = true → jmatchT.goObj isFinite fmatch kvs ms = true → jmatchT.goObj isFinite fmatch ws ms = true →
    kvs = ws
  | [], ws, ms, _, _, h1, h2 => by
    cases ms <;> simp [jmatchT.goObj] at h1
    cases ws <;> simp [jmatchT.goObj] at h2 ⊢
  | kv :: kvs, ws, ms, hv, hw, h1, h2 => by
    cases ms with
    | nil => simp [jmatchT.goObj] at h1
    | cons m ms =>
      cases ws with
      | nil => simp [jmatchT.goObj] at h2
      | cons w ws =>
        rw [jmatchT.goObj] at h1 h2
        simp only [Bool.and_eq_true, beq_iff_eq] at h1 h2
        rw [plainM, Bool.and_eq_true] at hv hw
        have hk : kv.1 = w.1 := String.toList_inj.mp (h1.1.1.trans h2.1.1.symm)
        have hvv := jmatchT_inj kv.2 w.2 m.2 hv.1 hw.1 h1.1.2 h2.1.2
        rw [goObj_inj kvs ws ms hv.2 hw.2 h1.2 h2.2]
        congr 1
        exact Prod.ext hk hvv
end

end Matcher

/-! ### a concrete UTF-8 decoder (core's) inverts `utf8Of` on valid UTF-8 -/

/-- valid UTF-8 (core's predicate: the bytes are the encoding of some list of characters) -/
def ValidUtf8 (b : Bytes) : Prop := b.toByteArray.IsValidUTF8

/-- a concrete UTF-8 decoder: core's `ByteArray.utf8Decode?` (empty on ill-formed input) -/
def decUtf8 (b : Bytes) : List Char :=
  match b.toByteArray.utf8Decode? with
  | some a => a.toList
  | none => []

theorem utf8Of_eq (s : List Char) : utf8Of s = s.utf8Encode.data.toList := by
  simp [utf8Of, List.utf8Encode]

theorem validUtf8_iff (b : Bytes) : ValidUtf8 b ↔ ∃ s, utf8Of s = b := by
  constructor
  · rintro ⟨m, hm⟩
    refine ⟨m, ?_⟩
    rw [utf8Of_eq, ← hm]; simp
  · rintro ⟨s, rfl⟩
    refine ⟨s, ?_⟩
    simp [utf8Of, List.utf8Encode]

/-- the decoder inverts the encoder on valid UTF-8 -/
theorem utf8Of_decUtf8 (b : Bytes) (h : ValidUtf8 b) : utf8Of (decUtf8 b) = b := by
  have hs : b.toByteArray.utf8Decode?.isSome := ByteArray.isSome_utf8Decode?_iff.2 h
  have := ByteArray.utf8Encode_get_utf8Decode? (b := b.toByteArray) (h := hs)
  rw [decUtf8]
  cases hd : b.toByteArray.utf8Decode? with
  | none => rw [hd] at hs; cases hs
  | some a =>
    simp only [hd, Option.get_some] at this ⊢
    rw [utf8Of_eq, this]; simp

/-- the model's UTF-8 encoder, applied to the characters of a Lean `String`, gives the string's own bytes -/
theorem utf8Of_toList (s : String) : utf8Of s.toList = s.toUTF8.toList := by
  rw [utf8Of_eq, String.utf8Encode_toList, B1.byteArray_toList]
  rfl

theorem validUtf8_string (s : String) : ValidUtf8 s.toUTF8.toList :=
  (validUtf8_iff _).2 ⟨s.toList, utf8Of_toList s⟩

/-! ### `Leaves`: Boolean version (for evaluation) and trivial cases -/

mutual
def leavesB (p : Nat → Bool) (q : Bytes → Bool) : JVal → Bool
  | .null => true
  | .num _ => true
  | .f64 bits => p bits
  | .str b => q b
  | .anyStr => true
  | .arr xs => leavesBL p q xs
  | .obj kvs => leavesBM p q kvs
def leavesBL (p : Nat → Bool) (q : Bytes → Bool) : List JVal → Bool
  | [] => true
  | x :: xs => leavesB p q x && leavesBL p q xs
def leavesBM (p : Nat → Bool) (q : Bytes → Bool) : List (String × JVal) → Bool
  | [] => true
  | kv :: r => leavesB p q kv.2 && leavesBM p q r
end

theorem leavesBL_eq (p : Nat → Bool) (q : Bytes → Bool) : ∀ xs : List JVal, leavesBL p q xs = xs.all (leavesB p q)
  | [] => by rw [leavesBL]; rfl
  | x :: xs => by rw [leavesBL, leavesBL_eq p q xs]; rfl

theorem leavesBM_eq (p : Nat → Bool) (q : Bytes → Bool) :
    ∀ kvs : List (String × JVal), leavesBM p q kvs = kvs.all fun kv => leavesB p q kv.2
  | [] => by rw [leavesBM]; rfl
  | kv :: r => by rw [leavesBM, leavesBM_eq p q r]; rfl

theorem leavesB_sound (p : Nat → Bool) (q : Bytes → Bool) : ∀ (v : JVal), leavesB p q v = true →
    Leaves (fun b => p b = true) (fun b => q b = true) v := by
  intro v
  induction v using JVal.induct with
  | f64 b => simp only [leavesB, Leaves, imp_self]
  | str b => simp only [leavesB, Leaves, imp_self]
  | arr xs ih =>
    simp only [leavesB, Leaves, leavesBL_eq, LeavesL_iff, List.all_eq_true]
    exact fun h x hx => ih x hx (h x hx)
  | obj kvs ih =>
    simp only [leavesB, Leaves, leavesBM_eq, LeavesM_iff, List.all_eq_true]
    exact fun h kv hkv => ih kv hkv (h kv hkv)
  | _ => simp only [Leaves, implies_true]

theorem leavesBL_sound (p : Nat → Bool) (q : Bytes → Bool) : ∀ (xs : List JVal), leavesBL p q xs = true →
    LeavesL (fun b => p b = true) (fun b => q b = true) xs := by
  simp only [leavesBL_eq, LeavesL_iff, List.all_eq_true]
  exact fun _ h x hx => leavesB_sound p q x (h x hx)

theorem leavesBM_sound (p : Nat → Bool) (q : Bytes → Bool) : ∀ (kvs : List (String × JVal)), leavesBM p q kvs = true →
    LeavesM (fun b => p b = true) (fun b => q b = true) kvs := by
  simp only [leavesBM_eq, LeavesM_iff, List.all_eq_true]
  exact fun _ h kv hkv => leavesB_sound p q kv.2 (h kv hkv)

theorem Leaves.of_forall {P : Nat → Prop} {Q : Bytes → Prop} (hP : ∀ b, P b) (hQ : ∀ b, Q b) : ∀ (v : JVal), Leaves P Q v := by
  intro v
  induction v using JVal.induct with
  | f64 b => rw [Leaves]; exact hP b
  | str b => rw [Leaves]; exact hQ b
  | arr xs ih => rw [Leaves, LeavesL_iff]; exact ih
  | obj kvs ih => rw [Leaves, LeavesM_iff]; exact ih
  | _ => rw [Leaves]; trivial

theorem LeavesL.of_forall {P : Nat → Prop} {Q : Bytes → Prop} (hP : ∀ b, P b) (hQ : ∀ b, Q b) :
    ∀ (xs : List JVal), LeavesL P Q xs :=
  fun _ => LeavesL_iff.mpr fun x _ => Leaves.of_forall hP hQ x

theorem LeavesM.of_forall {P : Nat → Prop} {Q : Bytes → Prop} (hP : ∀ b, P b) (hQ : ∀ b, Q b) :
    ∀ (kvs : List (String × JVal)), LeavesM P Q kvs :=
  fun _ => LeavesM_iff.mpr fun kv _ => Leaves.of_forall hP hQ kv.2

/-- an ASCII-only decoder that evaluates in the kernel (for the examples) -/
def decAscii (b : Bytes) : List Char := b.map fun x => Char.ofNat x.toNat

end Netflow.J1
