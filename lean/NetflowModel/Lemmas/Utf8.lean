/-
  Lemmas/Utf8.lean — every string in the JSON value of a parse result is valid UTF-8 (core's `ByteArray.IsValidUTF8`):
  the sequences the model of `String::from_utf8_lossy` admits are encodings of scalar values, MAC texts are ASCII, all
  other strings come from Lean `String`s.
-/
import NetflowModel.Lemmas.TextRoundTrip
import NetflowModel.Lemmas.ExportValue
open Netflow Netflow.JText
namespace Netflow.J1

/-! ### valid UTF-8 sequences -/

theorem ofNat_val (v : Nat) (h : v < 0xD800 ∨ (0xDFFF < v ∧ v < 0x110000)) : (Char.ofNat v).val.toNat = v := by
  have hv : v.isValidChar := h
  simp only [Char.ofNat, hv, ↓reduceDIte, Char.ofNatAux]
  simp [UInt32.toNat_ofNatLT]

theorem validUtf8_append {a b : Bytes} (ha : ValidUtf8 a) (hb : ValidUtf8 b) : ValidUtf8 (a ++ b) := by
  obtain ⟨s, hs⟩ := (validUtf8_iff a).1 ha
  obtain ⟨t, ht⟩ := (validUtf8_iff b).1 hb
  exact (validUtf8_iff _).2 ⟨s ++ t, by simp [utf8Of, ← hs, ← ht]⟩

theorem validUtf8_nil : ValidUtf8 [] := (validUtf8_iff _).2 ⟨[], rfl⟩

theorem validUtf8_char (c : Char) : ValidUtf8 (String.utf8EncodeChar c) :=
  (validUtf8_iff _).2 ⟨[c], by simp [utf8Of]⟩

theorem div64 (q : Nat) {r : Nat} (hr : r < 64) : (q * 64 + r) / 64 = q := by
  rw [Nat.mul_comm, Nat.mul_add_div (by decide), Nat.div_eq_of_lt hr]; rfl

theorem mod64 (q : Nat) {r : Nat} (hr : r < 64) : (q * 64 + r) % 64 = r := by
  rw [Nat.mul_comm, Nat.mul_add_mod, Nat.mod_eq_of_lt hr]

/-! A well-formed sequence is the encoding of the scalar value its payload bits spell (Horner form, six bits per
    continuation byte); the bytes are given as `payload + marker`. -/

theorem valid1 (b : UInt8) (h : b.toNat < 128) : ValidUtf8 [b] := by
  have hv : b.toNat < 0xD800 ∨ (0xDFFF < b.toNat ∧ b.toNat < 0x110000) := by omega
  have := validUtf8_char (Char.ofNat b.toNat)
  simp only [String.utf8EncodeChar, ofNat_val _ hv] at this
  rwa [if_pos (by omega), UInt8.ofNat_toNat] at this

theorem valid2_bits {x y : Nat} (hx : x < 32) (hy : y < 64) (lo : 0x7f < x * 64 + y) :
    ValidUtf8 [UInt8.ofNat (x + 0xc0), UInt8.ofNat (y + 0x80)] := by
  have hv : x * 64 + y < 0xD800 ∨ (0xDFFF < x * 64 + y ∧ x * 64 + y < 0x110000) := by omega
  have := validUtf8_char (Char.ofNat (x * 64 + y))
  simp only [String.utf8EncodeChar, ofNat_val _ hv] at this
  rwa [if_neg (by omega), if_pos (by omega), div64 _ hy, mod64 _ hy, Nat.mod_eq_of_lt hx] at this

theorem valid3_bits {x y z : Nat} (hx : x < 16) (hy : y < 64) (hz : z < 64) (lo : 0x7ff < (x * 64 + y) * 64 + z)
    (sur : (x * 64 + y) * 64 + z < 0xD800 ∨ 0xDFFF < (x * 64 + y) * 64 + z) :
    ValidUtf8 [UInt8.ofNat (x + 0xe0), UInt8.ofNat (y + 0x80), UInt8.ofNat (z + 0x80)] := by
  have hv : (x * 64 + y) * 64 + z < 0xD800 ∨ (0xDFFF < (x * 64 + y) * 64 + z ∧ (x * 64 + y) * 64 + z < 0x110000) := by
    omega
  have := validUtf8_char (Char.ofNat ((x * 64 + y) * 64 + z))
  simp only [String.utf8EncodeChar, ofNat_val _ hv] at this
  rwa [if_neg (by omega), if_neg (by omega), if_pos (by omega), show (4096 : Nat) = 64 * 64 from rfl,
    ← Nat.div_div_eq_div_mul, div64 _ hz, div64 _ hy, mod64 _ hy, mod64 _ hz, Nat.mod_eq_of_lt hx] at this

theorem valid4_bits {w x y z : Nat} (hw : w < 8) (hx : x < 64) (hy : y < 64) (hz : z < 64)
    (lo : 0xffff < ((w * 64 + x) * 64 + y) * 64 + z) (hi : ((w * 64 + x) * 64 + y) * 64 + z < 0x110000) :
    ValidUtf8 [UInt8.ofNat (w + 0xf0), UInt8.ofNat (x + 0x80), UInt8.ofNat (y + 0x80), UInt8.ofNat (z + 0x80)] := by
  have hv : ((w * 64 + x) * 64 + y) * 64 + z < 0xD800 ∨
      (0xDFFF < ((w * 64 + x) * 64 + y) * 64 + z ∧ ((w * 64 + x) * 64 + y) * 64 + z < 0x110000) := .inr ⟨by omega, hi⟩
  have := validUtf8_char (Char.ofNat (((w * 64 + x) * 64 + y) * 64 + z))
  simp only [String.utf8EncodeChar, ofNat_val _ hv] at this
  rwa [if_neg (by omega), if_neg (by omega), if_neg (by omega), show (262144 : Nat) = 64 * 64 * 64 from rfl,
    show (4096 : Nat) = 64 * 64 from rfl, ← Nat.div_div_eq_div_mul, ← Nat.div_div_eq_div_mul, div64 _ hz, div64 _ hy,
    div64 _ hx, mod64 _ hx, mod64 _ hy, mod64 _ hz, Nat.mod_eq_of_lt hw] at this

/-- a byte with `lo ≤ b` is `(b - lo) + lo` -/
theorem byte_split (b : UInt8) (lo : Nat) (h : lo ≤ b.toNat) : ∃ x, b = UInt8.ofNat (x + lo) ∧ b.toNat = x + lo :=
  ⟨b.toNat - lo, by rw [Nat.sub_add_cancel h, UInt8.ofNat_toNat], (Nat.sub_add_cancel h).symm⟩

theorem valid2 (b c : UInt8) (hb : 0xC2 ≤ b.toNat ∧ b.toNat ≤ 0xDF) (hc : isCont c = true) : ValidUtf8 [b, c] := by
  simp only [isCont, decide_eq_true_eq] at hc
  obtain ⟨x, rfl, hx⟩ := byte_split b 0xC0 (by omega)
  obtain ⟨y, rfl, hy⟩ := byte_split c 0x80 (by omega)
  exact valid2_bits (by omega) (by omega) (by omega)

theorem valid3 (b c d : UInt8) (h : ok3 b c = true) (hd : isCont d = true) : ValidUtf8 [b, c, d] := by
  simp only [ok3, Bool.or_eq_true, Bool.and_eq_true, decide_eq_true_eq] at h
  simp only [isCont, decide_eq_true_eq] at hd
  obtain ⟨x, rfl, hx⟩ := byte_split b 0xE0 (by omega)
  obtain ⟨y, rfl, hy⟩ := byte_split c 0x80 (by omega)
  obtain ⟨z, rfl, hz⟩ := byte_split d 0x80 (by omega)
  rw [hx, hy] at h
  rw [hz] at hd
  exact valid3_bits (by omega) (by omega) (by omega) (by omega) (by omega)

theorem valid4 (b c d e : UInt8) (h : ok4 b c = true) (hd : isCont d = true) (he : isCont e = true) :
    ValidUtf8 [b, c, d, e] := by
  simp only [ok4, Bool.or_eq_true, Bool.and_eq_true, decide_eq_true_eq] at h
  simp only [isCont, decide_eq_true_eq] at hd he
  obtain ⟨w, rfl, hw⟩ := byte_split b 0xF0 (by omega)
  obtain ⟨x, rfl, hx⟩ := byte_split c 0x80 (by omega)
  obtain ⟨y, rfl, hy⟩ := byte_split d 0x80 (by omega)
  obtain ⟨z, rfl, hz⟩ := byte_split e 0x80 (by omega)
  rw [hw, hx] at h
  rw [hy] at hd
  rw [hz] at he
  exact valid4_bits (by omega) (by omega) (by omega) (by omega) (by omega) (by omega)

theorem valid_repl : ValidUtf8 replChar := valid3 0xEF 0xBF 0xBD (by decide) (by decide)

/-- the model of `String::from_utf8_lossy` only produces valid UTF-8 -/
theorem validUtf8_lossyF : ∀ (f : Nat) (bs : Bytes), ValidUtf8 (utf8LossyF f bs)
  | 0, _ => validUtf8_nil
  | _ + 1, [] => validUtf8_nil
  | f + 1, b :: rest => by
    obtain ⟨rest', _, e⟩ | ⟨chunk, rest', _, _, e, hc⟩ := A7.utf8LossyF_step f b rest <;> rw [e] <;> clear e
    · exact validUtf8_append valid_repl (validUtf8_lossyF f rest')
    · refine validUtf8_append ?_ (validUtf8_lossyF f rest')
      obtain ⟨h, rfl⟩ | ⟨c, h, hc, rfl⟩ | ⟨c, d, h, hd, rfl⟩ | ⟨c, d, e, h, hd, he, rfl⟩ := hc
      · exact valid1 b h
      · exact valid2 b c h hc
      · exact valid3 b c d h hd
      · exact valid4 b c d e h hd he

theorem validUtf8_lossy (bs : Bytes) : ValidUtf8 (utf8Lossy bs) := validUtf8_lossyF _ bs

theorem validUtf8_ascii : ∀ (b : Bytes), (∀ x ∈ b, x.toNat < 128) → ValidUtf8 b
  | [], _ => validUtf8_nil
  | x :: r, h => validUtf8_append (valid1 x (h x (by simp))) (validUtf8_ascii r (fun y hy => h y (by simp [hy])))

theorem macPair_ascii (a : UInt8) : ∀ x ∈ B1.macPair a, x.toNat < 128 := by
  have hd : ∀ n, n < 16 → ((hexDigitUpper n).toNat.toUInt8).toNat < 128 := by decide
  have := a.toNat_lt
  intro x hx
  simp only [B1.macPair, List.mem_cons, List.not_mem_nil, or_false] at hx
  rcases hx with rfl | rfl
  · exact hd _ (by omega)
  · exact hd _ (by omega)

theorem macText_ascii : ∀ (raw : Bytes), ∀ x ∈ macText raw, x.toNat < 128
  | [], x, hx => by rw [B1.macText_nil] at hx; cases hx
  | [a], x, hx => by rw [B1.macText_one] at hx; exact macPair_ascii a x hx
  | a :: b :: r, x, hx => by
    rw [B1.macText_cons2, List.mem_append, List.mem_cons] at hx
    rcases hx with hx | rfl | hx
    · exact macPair_ascii a x hx
    · decide
    · exact macText_ascii (b :: r) x hx

theorem validUtf8_macText (raw : Bytes) : ValidUtf8 (macText raw) :=
  validUtf8_ascii _ (macText_ascii raw)

/-! ### parser invariant: decoded strings are valid UTF-8 -/

def FvValid : FieldValue → Prop
  | .str s => ValidUtf8 s
  | _ => True

def RecValid (r : Rec) : Prop := ∀ e ∈ r, FvValid e.2.2

def V9StrOk : V9Body → Prop
  | .data recs _ => ∀ r ∈ recs, RecValid r
  | _ => True

def IpStrOk : IpBody → Prop
  | .data recs _ => ∀ r ∈ recs, RecValid r
  | .optData recs _ => ∀ r ∈ recs, RecValid r
  | _ => True

theorem parseValue_valid {c : Config} {v : FieldValue} (h : Decoded c v) : FvValid v := by
  refine h.elim (fun ⟨ty, len, i, r, h⟩ => ?_) (fun ⟨b, e⟩ => e ▸ True.intro)
  have hs := B1.parseValue_shape h
  cases v with
  | str s => obtain ⟨b, rfl⟩ := hs; exact validUtf8_lossy b
  | _ => trivial

theorem v9ParseBody_valid (c : Config) (st st' : PState) (id : Nat) (body : Bytes) (b : V9Body)
    (h : v9ParseBody c st id body = (st', .ok b)) : V9StrOk b := by
  cases b with
  | data recs pad => exact v9ParseBody_values (fun _ => parseValue_valid) h
  | _ => trivial

theorem ipParseBody_valid (c : Config) (st st' : PState) (id : Nat) (body : Bytes) (b : IpBody)
    (h : ipParseBody c st id body = (st', .ok b)) : IpStrOk b := by
  cases b with
  | data recs pad => exact ipParseBody_values (fun _ => parseValue_valid) h (.inl rfl)
  | optData recs pad => exact ipParseBody_values (fun _ => parseValue_valid) h (.inr rfl)
  | _ => trivial

/-- every string field value in every packet `parseBytes` returns is valid UTF-8 -/
theorem parseBytes_strs (c : Config) (st st' : PState) (buf : Bytes) (ps : List Packet)
    (h : parseBytes c st buf = (st', .done ps)) : ∀ p ∈ ps, PktAll V9StrOk IpStrOk p :=
  parseBytesF_all (v9ParseBody_valid c) (ipParseBody_valid c) _ _ _ _ _ h

/-! ### `toJ` traversal -/

/-- all string leaves valid UTF-8 (no condition on floats) -/
abbrev LV (v : JVal) : Prop := Leaves (fun _ => True) ValidUtf8 v

theorem lv_arr {xs : List JVal} (h : ∀ x ∈ xs, LV x) : LV (.arr xs) := by
  rw [LV, Leaves, LeavesL_iff]; exact h

theorem lv_obj {kvs : List (String × JVal)} (h : ∀ kv ∈ kvs, LV kv.2) : LV (.obj kvs) := by
  rw [LV, Leaves, LeavesM_iff]; exact h

theorem lv_num (z : Int) : LV (.num z) := by rw [LV, Leaves]; trivial
theorem lv_anyStr : LV .anyStr := by rw [LV, Leaves]; trivial
theorem lv_strJ (s : String) : LV (strJ s) := by rw [LV, strJ, Leaves]; exact validUtf8_string s
theorem lv_nameOf (tbl : List (Nat × String)) (d : Nat) : LV (nameOf tbl d) := lv_strJ _
theorem lv_arr_map {α : Type} (f : α → JVal) (xs : List α) (h : ∀ x ∈ xs, LV (f x)) : LV (.arr (xs.map f)) :=
  lv_arr (List.forall_mem_map.mpr h)
theorem lv_obj_map {α : Type} (f : α → String × JVal) (xs : List α) (h : ∀ x ∈ xs, LV (f x).2) :
    LV (.obj (xs.map f)) :=
  lv_obj (List.forall_mem_map.mpr h)
theorem lv_bytesJ (b : Bytes) : LV (bytesJ b) := lv_arr_map _ b (fun _ _ => lv_num _)

theorem lv_obj1 (k : String) (v : JVal) (h : LV v) : LV (.obj [(k, v)]) :=
  lv_obj (by simpa using h)
theorem lv_obj2 (k1 k2 : String) (v1 v2 : JVal) (h1 : LV v1) (h2 : LV v2) : LV (.obj [(k1, v1), (k2, v2)]) :=
  lv_obj (by simpa using ⟨h1, h2⟩)
theorem lv_obj3 (k1 k2 k3 : String) (v1 v2 v3 : JVal) (h1 : LV v1) (h2 : LV v2) (h3 : LV v3) :
    LV (.obj [(k1, v1), (k2, v2), (k3, v3)]) :=
  lv_obj (by simpa using ⟨h1, h2, h3⟩)
theorem lv_arr2 (v1 v2 : JVal) (h1 : LV v1) (h2 : LV v2) : LV (.arr [v1, v2]) :=
  lv_arr (by simpa using ⟨h1, h2⟩)

theorem lv_dataNumberJ (d : DataNumber) : LV (dataNumberJ d) := by
  cases d <;> exact lv_num _

theorem lv_fieldValueJ (nm : JNames) (v : FieldValue) (h : FvValid v) : LV (fieldValueJ nm v) := by
  cases v with
  | str s => exact lv_obj1 _ _ (by rw [LV, Leaves]; exact h)
  | num d => exact lv_obj1 _ _ (lv_dataNumberJ d)
  | f64 b => exact lv_obj1 _ _ (by rw [LV, Leaves]; trivial)
  | dur s ns => exact lv_obj1 _ _ (lv_obj2 _ _ _ _ (lv_num _) (lv_num _))
  | ip4 n => exact lv_obj1 _ _ (lv_strJ _)
  | ip6 n => exact lv_obj1 _ _ (lv_strJ _)
  | mac raw => exact lv_obj1 _ _ (by rw [LV, Leaves]; exact validUtf8_macText raw)
  | vec b => exact lv_obj1 _ _ (lv_bytesJ b)
  | proto d => exact lv_obj1 _ _ (lv_nameOf _ _)
  | unknown b => exact lv_obj1 _ _ (lv_bytesJ b)

theorem lv_recJ (nm : JNames) (names : List (Nat × String)) (r : Rec) (h : RecValid r) : LV (recJ nm names r) :=
  lv_obj_map _ r (fun e he => lv_arr2 _ _ (lv_nameOf _ _) (lv_fieldValueJ nm _ (h e he)))

theorem lv_layoutJ (nm : JNames) (lay : Layout) (vals : List Nat) : LV (layoutJ nm lay vals) := by
  apply lv_obj_map
  intro p _
  simp only
  split
  · exact lv_nameOf _ _
  · split
    · exact lv_strJ _
    · exact lv_num _

theorem lv_tfieldJ (names : List (Nat × String)) (disc : Nat → Nat) (f : TField) : LV (tfieldJ names disc f) :=
  lv_obj3 _ _ _ _ _ _ (lv_num _) (lv_nameOf _ _) (lv_num _)

theorem lv_ipTFieldJ (c : Config) (nm : JNames) (f : IpTField) : LV (ipTFieldJ c nm f) := by
  refine lv_obj fun kv hkv => ?_
  rcases List.mem_append.mp hkv with h | h
  · simp only [List.mem_cons, List.not_mem_nil, or_false] at h
    rcases h with rfl | rfl | rfl
    · exact lv_num _
    · exact lv_nameOf _ _
    · exact lv_num _
  · cases he : f.ent with
    | none => rw [he] at h; cases h
    | some e => rw [he] at h; rw [List.mem_singleton.mp h]; exact lv_num _

theorem lv_v9BodyJ (c : Config) (nm : JNames) (b : V9Body) (h : V9StrOk b) : LV (v9BodyJ c nm b) := by
  cases b with
  | templates ts pad =>
    exact lv_obj1 _ _ (lv_obj1 _ _ (lv_arr_map _ ts (fun t _ =>
      lv_obj3 _ _ _ _ _ _ (lv_num _) (lv_num _) (lv_arr_map _ _ (fun f _ => lv_tfieldJ _ _ f)))))
  | optTemplates ts pad =>
    refine lv_obj1 _ _ (lv_obj1 _ _ (lv_arr_map _ ts (fun t _ => ?_)))
    rw [LV, Leaves, LeavesM, LeavesM, LeavesM, LeavesM, LeavesM, LeavesM]
    exact ⟨lv_num _, lv_num _, lv_num _, lv_arr_map _ _ (fun f _ => lv_tfieldJ _ _ f),
      lv_arr_map _ _ (fun f _ => lv_tfieldJ _ _ f), trivial⟩
  | data recs pad =>
    exact lv_obj1 _ _ (lv_obj1 _ _ (lv_arr_map _ recs (fun r hr => lv_recJ nm _ r (h r hr))))
  | optData ss os pad =>
    exact lv_obj1 _ _ (lv_obj2 _ _ _ _ (lv_arr_map _ ss (fun s _ => lv_obj1 _ _ (lv_bytesJ _)))
      (lv_arr_map _ os (fun o _ => lv_obj2 _ _ _ _ (lv_nameOf _ _) (lv_bytesJ _))))

theorem lv_ipBodyJ (c : Config) (nm : JNames) (b : IpBody) (h : IpStrOk b) : LV (ipBodyJ c nm b) := by
  cases b with
  | template t =>
    exact lv_obj1 _ _ (lv_obj3 _ _ _ _ _ _ (lv_num _) (lv_num _) (lv_arr_map _ _ (fun f _ => lv_ipTFieldJ c nm f)))
  | optTemplate t =>
    refine lv_obj1 _ _ ?_
    rw [LV, Leaves, LeavesM, LeavesM, LeavesM, LeavesM, LeavesM]
    exact ⟨lv_num _, lv_num _, lv_num _, lv_arr_map _ _ (fun f _ => lv_ipTFieldJ c nm f), trivial⟩
  | data recs pad =>
    exact lv_obj1 _ _ (lv_obj1 _ _ (lv_arr_map _ recs (fun r hr => lv_recJ nm _ r (h r hr))))
  | optData recs pad =>
    exact lv_obj1 _ _ (lv_obj1 _ _ (lv_arr_map _ recs (fun r hr => lv_recJ nm _ r (h r hr))))

theorem lv_errKindJ (k : ErrKind) : LV (errKindJ k) := by
  cases k with
  | incomplete => exact lv_obj1 _ _ lv_anyStr
  | partialParse v rem => exact lv_obj1 _ _ (lv_obj3 _ _ _ _ _ _ (lv_num _) (lv_bytesJ _) lv_anyStr)
  | unknownVersion rem => exact lv_obj1 _ _ (lv_bytesJ _)

/-- every string leaf of the JSON value of a packet whose decoded string fields are valid UTF-8 is valid UTF-8 -/
theorem leaves_toJ (c : Config) (nm : JNames) (p : Packet) (h : PktAll V9StrOk IpStrOk p) : LV (toJ c nm p) := by
  cases p with
  | v5 hd rs =>
    exact lv_obj1 _ _ (lv_obj2 _ _ _ _ (lv_layoutJ _ _ _) (lv_arr_map _ rs (fun r _ => lv_layoutJ _ _ r)))
  | v7 hd rs =>
    exact lv_obj1 _ _ (lv_obj2 _ _ _ _ (lv_layoutJ _ _ _) (lv_arr_map _ rs (fun r _ => lv_layoutJ _ _ r)))
  | v9 hd ss =>
    exact lv_obj1 _ _ (lv_obj2 _ _ _ _ (lv_layoutJ _ _ _) (lv_arr_map _ ss (fun s hs =>
      lv_obj2 _ _ _ _ (lv_obj2 _ _ _ _ (lv_num _) (lv_num _)) (lv_v9BodyJ c nm _ (h s hs)))))
  | ipfix hd ss =>
    exact lv_obj1 _ _ (lv_obj2 _ _ _ _ (lv_layoutJ _ _ _) (lv_arr_map _ ss (fun s hs =>
      lv_obj2 _ _ _ _ (lv_obj2 _ _ _ _ (lv_num _) (lv_num _)) (lv_ipBodyJ c nm _ (h s hs)))))
  | error k rem => exact lv_obj1 _ _ (lv_obj2 _ _ _ _ (lv_errKindJ k) (lv_bytesJ _))

/-- every string in the JSON value of every parse result is valid UTF-8 -/
theorem parseBytes_leaves (c : Config) (nm : JNames) (st st' : PState) (buf : Bytes) (ps : List Packet)
    (h : parseBytes c st buf = (st', .done ps)) : ∀ p ∈ ps, LV (toJ c nm p) :=
  fun p hp => leaves_toJ c nm p (parseBytes_strs c st st' buf ps h p hp)

end Netflow.J1
