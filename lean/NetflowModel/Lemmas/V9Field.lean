/-
  Lemmas/V9Field.lean — one field of the print-then-parse proofs (C04, C05).  For every library
  type `ty` and content `bs` with `Spec.interpSpec names ty bs = some v`, the model's `parseValue`
  returns `v` and exactly the bytes after `bs`, outside the classes where the crate deviates (for V9:
  the side condition `fieldOk`; each class has a `…_fails` witness below).
-/
import NetflowModel.Lemmas.Basic
import NetflowModel.Lemmas.Bytes
import NetflowModel.Lemmas.AssocMap
import NetflowModel.Lemmas.GenTables
import NetflowModel.Generated
import NetflowModel.Spec.Expected
namespace Netflow
open Spec

/-- facts about the arm table of `DataNumber::parse` that the round trip needs: which variant each
    supported `(length, signed)` pair produces (decidable; `Generated.dnArms` by `decide`) -/
def DnArmsOk (arms : DnArms) : Prop :=
  arms.lookup (1, false) = some .u8 ∧ arms.lookup (2, false) = some .u16 ∧ arms.lookup (3, false) = some .u24 ∧
  arms.lookup (4, false) = some .u32 ∧ arms.lookup (8, false) = some .u64 ∧ arms.lookup (16, false) = some .u128 ∧
  arms.lookup (1, true) = some .i32 ∧ arms.lookup (2, true) = some .i32 ∧ arms.lookup (3, true) = some .i24 ∧
  arms.lookup (4, true) = some .i32 ∧ arms.lookup (8, true) = some .i32 ∧ arms.lookup (16, true) = some .i32

instance (arms : DnArms) : Decidable (DnArmsOk arms) := by unfold DnArmsOk; infer_instance

theorem dnArmsOk_generated : DnArmsOk Generated.dnArms := by decide

/-- the per-field side condition of the round trip: the classes in which the crate is KNOWN to
    deviate from the per-type big-endian interpretation are excluded.
    * `.proto`: the crate parses the protocol byte *by enum discriminant*; the condition asks that
      this gives the variant carrying the IANA name (false for 146..254 with the generated table);
    * `.signed` of width 8 / 16: the crate stores `j as i32`; the value must fit 32 bits;
    * `.unknown`: decoded (as raw bytes) only with the cargo feature `parse_unknown_fields`. -/
def fieldOk (c : Config) (names : List (Nat × String)) (ty : FType) (bs : Bytes) : Bool :=
  match ty with
  | .proto => c.t.protoParse (beNat bs) == protoDiscOf names (beNat bs)
  | .signed => !(bs.length == 8 || bs.length == 16) || (decide (-(2 ^ 31 : Int) ≤ beInt bs) && decide (beInt bs < (2 ^ 31 : Int)))
  | .unknown => c.unknownFields
  | _ => true

theorem dnParse_append (arms : DnArms) (signed : Bool) (arm : DnArm) (bs r : Bytes)
    (ha : arms.lookup (bs.length, signed) = some arm) :
    DataNumber.parse arms bs.length signed (bs ++ r) = some (DataNumber.make arm signed bs, r) := by
  simp only [DataNumber.parse, ha, takeN_append bs r rfl]

/-- the spec's unsigned variant for `bs` is what the arm selected by the width of `bs` builds -/
theorem unsignedOf_arm {arms : DnArms} (harms : DnArmsOk arms) {bs : Bytes} {d : DataNumber}
    (h : unsignedOf bs = some d) :
    ∃ arm, arms.lookup (bs.length, false) = some arm ∧ DataNumber.make arm false bs = d := by
  obtain ⟨a1, a2, a3, a4, a8, a16, -⟩ := harms
  unfold unsignedOf at h
  split at h
  · next hl => exact ⟨.u8, hl ▸ a1, Option.some.inj h⟩
  · next hl => exact ⟨.u16, hl ▸ a2, Option.some.inj h⟩
  · next hl => exact ⟨.u24, hl ▸ a3, Option.some.inj h⟩
  · next hl => exact ⟨.u32, hl ▸ a4, Option.some.inj h⟩
  · next hl => exact ⟨.u64, hl ▸ a8, Option.some.inj h⟩
  · next hl => exact ⟨.u128, hl ▸ a16, Option.some.inj h⟩
  · simp at h

/-- for the duration widths the unsigned variant exists and its `usize` image is the value -/
theorem unsignedOf_dur (bs : Bytes) (h : bs.length ∈ [1, 2, 3, 4, 8]) :
    ∃ d, unsignedOf bs = some d ∧ d.toUsize = beNat bs := by
  simp only [List.mem_cons, List.not_mem_nil, or_false] at h
  rcases h with h | h | h | h | h <;> simp [unsignedOf, h, DataNumber.toUsize]

/-- the 32-bit range in which the `i32` arm stores a signed value unchanged -/
def FitsI32 (z : Int) : Prop := -(2 ^ 31 : Int) ≤ z ∧ z < (2 ^ 31 : Int)

/-- `j as i32` of a value that fits 32 bits is the value (sign extension) -/
theorem wrap32_roundtrip {z : Int} (h : FitsI32 z) : wrapSigned 32 (wrapUnsigned 32 z) = z := by
  obtain ⟨h1, h2⟩ := h
  have e : ((2 ^ 32 : Nat) : Int) = 4294967296 := by decide
  have e2 : (2 : Nat) ^ 32 = 4294967296 := by decide
  rw [show (2 : Int) ^ 31 = 2147483648 by decide] at h1 h2
  simp only [wrapSigned, wrapUnsigned, e, e2]
  split <;> omega

theorem make_i32 {bs : Bytes} (h : FitsI32 (beInt bs)) : DataNumber.make .i32 true bs = .i32 (beInt bs) := by
  simp only [DataNumber.make, ↓reduceIte, wrap32_roundtrip h]

/-- the signed counterpart of `unsignedOf_arm`; the `i32` arm is exact on widths 1, 2, 4 and, for the
    wide widths, on values that fit -/
theorem signedOf_arm {arms : DnArms} (harms : DnArmsOk arms) {bs : Bytes} {d : DataNumber}
    (h : signedOf bs = some d) (hfit : bs.length = 8 ∨ bs.length = 16 → FitsI32 (beInt bs)) :
    ∃ arm, arms.lookup (bs.length, true) = some arm ∧ DataNumber.make arm true bs = d := by
  obtain ⟨-, -, -, -, -, -, a1, a2, a3, a4, a8, a16⟩ := harms
  have small : ∀ n, n = 1 ∨ n = 2 ∨ n = 4 → bs.length = n → FitsI32 (beInt bs) := by
    rintro n (rfl | rfl | rfl) hl <;> (have hb := beInt_bounds bs; rw [hl] at hb; unfold FitsI32; omega)
  unfold signedOf at h
  split at h
  · next hl => exact ⟨.i32, hl ▸ a1, (make_i32 (small 1 (.inl rfl) hl)).trans (Option.some.inj h)⟩
  · next hl => exact ⟨.i32, hl ▸ a2, (make_i32 (small 2 (.inr (.inl rfl)) hl)).trans (Option.some.inj h)⟩
  · next hl => exact ⟨.i32, hl ▸ a4, (make_i32 (small 4 (.inr (.inr rfl)) hl)).trans (Option.some.inj h)⟩
  · next hl => exact ⟨.i32, hl ▸ a8, (make_i32 (hfit (.inl hl))).trans (Option.some.inj h)⟩
  · next hl => exact ⟨.i32, hl ▸ a16, (make_i32 (hfit (.inr hl))).trans (Option.some.inj h)⟩
  · next hl => exact ⟨.i24, hl ▸ a3, Option.some.inj h⟩
  · simp at h

/-- One field round-trips: for content `bs` to which the spec assigns `v`, the value decoder run on
    `bs ++ r` returns `v` and `r`, outside the three classes where the crate deviates (protocol
    numbers parsed by discriminant, wide signed values stored `as i32`, unknown types without the
    `parse_unknown_fields` feature). -/
theorem parseValue_interp (vc : ValueCfg) (names : List (Nat × String)) (harms : DnArmsOk vc.dnArms)
    (ty : FType) (bs r : Bytes) (v : FieldValue) (hi : interpSpec names ty bs = some v)
    (hp : ty = .proto → vc.protoParse (beNat bs) = protoDiscOf names (beNat bs))
    (hs : ty = .signed → bs.length = 8 ∨ bs.length = 16 → FitsI32 (beInt bs))
    (hu : ty = .unknown → vc.unknownFields = true) :
    parseValue vc ty bs.length (bs ++ r) = some (v, r) := by
  have hnum : ∀ {sg : Bool} {d : DataNumber},
      (∃ arm, vc.dnArms.lookup (bs.length, sg) = some arm ∧ DataNumber.make arm sg bs = d) →
      DataNumber.parse vc.dnArms bs.length sg (bs ++ r) = some (d, r) := by
    rintro sg d ⟨arm, ha, rfl⟩
    exact dnParse_append _ _ _ _ _ ha
  have hdur : bs.length ∈ [1, 2, 3, 4, 8] →
      ∃ d, DataNumber.parse vc.dnArms bs.length false (bs ++ r) = some (d, r) ∧ d.toUsize = beNat bs := by
    intro hm
    obtain ⟨d, hd, hz⟩ := unsignedOf_dur bs hm
    exact ⟨d, hnum (unsignedOf_arm harms hd), hz⟩
  cases ty with
  | unsigned =>
    simp only [interpSpec, Option.map_eq_some_iff] at hi
    obtain ⟨d, hd, rfl⟩ := hi
    simp only [parseValue, hnum (unsignedOf_arm harms hd)]
  | signed =>
    simp only [interpSpec, Option.map_eq_some_iff] at hi
    obtain ⟨d, hd, rfl⟩ := hi
    simp only [parseValue, hnum (signedOf_arm harms hd (hs rfl))]
  | str | vec =>
    simp only [interpSpec, Option.some.injEq] at hi
    simp only [parseValue, takeN_append bs r rfl, hi]
  | unknown =>
    simp only [interpSpec, Option.some.injEq] at hi
    simp only [parseValue, hu rfl, ↓reduceIte, takeN_append bs r rfl, hi]
  | ip4 | ip6 | f64 =>
    simp only [interpSpec, Option.ite_none_right_eq_some, Option.some.injEq] at hi
    simp only [parseValue, beU_append bs r hi.1, hi.2]
  | mac =>
    simp only [interpSpec, Option.ite_none_right_eq_some, Option.some.injEq] at hi
    simp only [parseValue, takeN_append bs r hi.1, hi.2]
  | proto =>
    simp only [interpSpec, Option.ite_none_right_eq_some, Option.map_eq_some_iff] at hi
    obtain ⟨hl, p, hq, rfl⟩ := hi
    simp only [parseValue, beU_append bs r hl, hp rfl, hq]
  | durS | durMs | durUs | durNs =>
    simp only [interpSpec, Option.ite_none_right_eq_some, Option.some.injEq] at hi
    obtain ⟨d, hd, hz⟩ := hdur hi.1
    simp [parseValue, hd, durOf, hz, ← hi.2, Nat.mod_one]

theorem fieldOk_signed (c : Config) (names : List (Nat × String)) (bs : Bytes) :
    fieldOk c names .signed bs = true ↔ (bs.length = 8 ∨ bs.length = 16 → FitsI32 (beInt bs)) := by
  simp only [fieldOk, FitsI32, Bool.or_eq_true, Bool.not_eq_true', Bool.and_eq_true, decide_eq_true_eq,
    Bool.or_eq_false_iff, beq_eq_false_iff_ne]
  by_cases hw : bs.length = 8 ∨ bs.length = 16
  · exact ⟨fun h _ => h.resolve_left (fun g => by omega), fun h => .inr (h hw)⟩
  · exact ⟨fun _ g => absurd g hw, fun _ => .inl (by omega)⟩

/-- `parseValue_interp` under the side condition `fieldOk` -/
theorem parseValue_of_fieldOk (c : Config) (names : List (Nat × String)) (harms : DnArmsOk c.t.dnArms)
    (ty : FType) (bs r : Bytes) (v : FieldValue)
    (hi : interpSpec names ty bs = some v) (hok : fieldOk c names ty bs = true) :
    parseValue c.vc ty bs.length (bs ++ r) = some (v, r) := by
  refine parseValue_interp c.vc names harms ty bs r v hi ?_ ?_ ?_ <;> rintro rfl
  · exact beq_iff_eq.mp hok
  · exact (fieldOk_signed c names bs).mp hok
  · exact hok

/-- for the generated tables the discriminant parse gives the IANA variant exactly off 146..254 -/
theorem fieldOk_proto_generated (n : Nat) (hn : n < 256) :
    (Generated.tables.protoParse n == protoDiscOf Generated.protoNames n) = !(decide (146 ≤ n) && decide (n ≤ 254)) := by
  rw [protoDiscOf_generated n, protoParse_generated, ianaDisc]
  by_cases h : 146 ≤ n ∧ n ≤ 254
  · rw [if_neg (by omega), if_neg (by omega)]; simp [h]
  · have e : (if n ≤ 144 ∨ n = 255 then n else 145) = n := by split <;> omega
    rw [if_pos (by omega), e]; simpa using by omega

/-- non-vacuity of `parseValue_interp`: a 2-byte unsigned field, a millisecond duration, protocol 17 -/
example : DnArmsOk Generated.dnArms ∧
    interpSpec Generated.protoNames .unsigned [1, 2] = some (.num (.u16 258)) ∧
    interpSpec Generated.protoNames .durMs [0, 0, 4, 210] = some (.dur 1 234000000) ∧
    interpSpec Generated.protoNames .proto [17] = some (.proto 17) ∧
    fieldOk { t := Generated.tables, allowed := [9] } Generated.protoNames .proto [17] = true := by decide +kernel

/-- `x as i32` always lands in the 32-bit signed range -/
theorem wrapSigned32_range (n : Nat) : FitsI32 (wrapSigned 32 n) := by
  have e : ((2 ^ 32 : Nat) : Int) = 4294967296 := by decide
  have e2 : (2 : Nat) ^ 32 = 4294967296 := by decide
  have e3 : (2 : Int) ^ 31 = 2147483648 := by decide
  simp only [FitsI32, wrapSigned, e, e2, e3]
  split <;> omega

/-- the side condition is EXACT: whenever the spec assigns a value to the field, the parser returns
    that value (and the right remaining input) if and only if `fieldOk` holds. -/
theorem parseValue_interp_iff (c : Config) (names : List (Nat × String)) (harms : DnArmsOk c.t.dnArms)
    (ty : FType) (bs r : Bytes) (v : FieldValue) (hi : interpSpec names ty bs = some v) :
    parseValue c.vc ty bs.length (bs ++ r) = some (v, r) ↔ fieldOk c names ty bs = true := by
  refine ⟨fun hp => ?_, parseValue_of_fieldOk c names harms ty bs r v hi⟩
  cases ty with
  | proto =>
    simp only [interpSpec, Option.ite_none_right_eq_some, Option.map_eq_some_iff] at hi
    obtain ⟨hl, p0, hp0, rfl⟩ := hi
    have : c.vc.protoParse = c.t.protoParse := rfl
    simp only [parseValue, beU_append bs r hl, this] at hp
    simp only [fieldOk, beq_iff_eq, hp0]
    cases hq : c.t.protoParse (beNat bs) with
    | none => simp [hq] at hp
    | some q => simp only [hq, Option.some.injEq, Prod.mk.injEq, FieldValue.proto.injEq, and_true] at hp; rw [hp]
  | unknown =>
    cases hu : c.unknownFields with
    | true => exact hu
    | false =>
      have : c.vc.unknownFields = false := hu
      simp [parseValue, this] at hp
  | signed =>
    -- on the wide widths the arm is `i32` whatever the value, so what the parser returned fits
    refine (fieldOk_signed c names bs).mpr fun hw => ?_
    obtain ⟨-, -, -, -, -, -, -, -, -, -, a8, a16⟩ := harms
    have harm : c.t.dnArms.lookup (bs.length, true) = some .i32 := by
      rcases hw with hw | hw <;> rw [hw] <;> assumption
    have hd : signedOf bs = some (.i32 (beInt bs)) := by
      rcases hw with hw | hw <;> simp [signedOf, hw]
    simp only [interpSpec, hd, Option.map_some, Option.some.injEq] at hi
    have : c.vc.dnArms = c.t.dnArms := rfl
    simp only [parseValue, this, dnParse_append c.t.dnArms true _ bs r harm, DataNumber.make,
      ↓reduceIte, ← hi, Option.some.injEq, Prod.mk.injEq, FieldValue.num.injEq, DataNumber.i32.injEq, and_true] at hp
    rw [← hp]
    exact wrapSigned32_range _
  | _ => rfl

/-- no V9 field type of the generated table is `.signed`: for V9 the wide-signed carve-out is vacuous
    (it matters for IPFIX only) -/
theorem v9Ty_generated_not_signed (d : Nat) : Generated.tables.v9Ty d ≠ .signed := by
  have := lookupD_of_all Generated.v9TyTbl Generated.v9TyDefault (fun t => t != .signed) (by decide +kernel) (by decide) d
  exact bne_iff_ne.mp this

/-- for the generated tables the protocol condition is exactly "not 146..254" -/
theorem fieldOk_proto_generated_iff (allowed : List Nat) (uf : Bool) (bs : Bytes) (hl : bs.length = 1) :
    fieldOk { t := Generated.tables, allowed := allowed, unknownFields := uf } Generated.protoNames .proto bs =
      !(decide (146 ≤ beNat bs) && decide (beNat bs ≤ 254)) := by
  have hlt := beNat_lt bs
  rw [hl] at hlt
  simp only [fieldOk]
  exact fieldOk_proto_generated (beNat bs) (by omega)

/-- the configuration of the shipped crate: generated tables, all four versions allowed -/
def genConfig : Config := { t := Generated.tables, allowed := [5, 7, 9, 10] }

/-- protocol numbers 146..254: the spec says `Unknown` (discriminant 145), the crate's
    discriminant-based `ProtocolTypes::parse` fails, so the whole record is lost -/
theorem parseValue_proto_fails :
    interpSpec Generated.protoNames .proto [200] = some (.proto 145) ∧
    parseValue genConfig.vc .proto 1 [200] = none := by decide +kernel

/-- without `parse_unknown_fields` a field of unknown type makes the record undecodable -/
theorem parseValue_unknown_fails :
    interpSpec Generated.protoNames .unknown [1, 2] = some (.vec [1, 2]) ∧
    parseValue { genConfig with unknownFields := false }.vc .unknown 2 [1, 2] = none := by decide +kernel

end Netflow
