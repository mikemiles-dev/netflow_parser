/-
  Lemmas/V9Options.lean — options data of the C04 print-then-parse proof: an options-data flowset carrying ONE record
  (the only shape the crate's `OptionsData` type can express): `v9ScopeLoop` then `v9OptLoop` over the
  concatenated field contents.
-/
import NetflowModel.Lemmas.V9Templates
namespace Netflow
open Spec

/-- what the crate needs of an options template to decode its data records (NOT demanded by
    `Spec.expV9Set`): every scope field type is one of the five known scope types (an unknown one
    ends the scope loop at once) and every field has a non-zero length (a zero-length field trips
    nom's `many0` no-progress check and fails the whole flowset). -/
def optDataOk (c : Config) (t : V9OptTemplate) : Bool :=
  t.scope.all (fun f => c.t.scopeKnown f.typ && decide (0 < f.len)) && t.opts.all (fun f => decide (0 < f.len))

/-- non-vacuity: scope System/4, options 34/4 and 35/1 -/
example : optDataOk { t := Generated.tables, allowed := [9] } ⟨258, 4, 8, [⟨1, 4⟩], [⟨34, 4⟩, ⟨35, 1⟩]⟩ = true := by decide

theorem v9ScopeLoop_enc (c : Config) : ∀ (fs : List TField) (vs : List Bytes) (rest : Bytes),
    fs.map (·.len) = vs.map (·.length) →
    fs.all (fun f => c.t.scopeKnown f.typ && decide (0 < f.len)) = true →
    v9ScopeLoop c fs (vs.flatten ++ rest) = some ((fs.zip vs).map (fun p => (c.t.scopeField p.1.typ, p.2)), rest) := by
  intro fs
  induction fs with
  | nil =>
    intro vs rest hl _
    have : vs = [] := by cases vs with | nil => rfl | cons _ _ => simp at hl
    subst this
    simp [v9ScopeLoop]
  | cons f fs ih =>
    intro vs rest hl hok
    cases vs with
    | nil => simp at hl
    | cons v vs =>
      simp only [List.map_cons, List.cons.injEq] at hl
      obtain ⟨hl1, hl2⟩ := hl
      simp only [List.all_cons, Bool.and_eq_true, decide_eq_true_eq] at hok
      obtain ⟨⟨hk, hpos⟩, hok2⟩ := hok
      have hne : ¬ (vs.flatten ++ rest).length = (v ++ (vs.flatten ++ rest)).length := by
        rw [List.length_append (as := v)]; omega
      simp only [v9ScopeLoop, List.flatten_cons, List.append_assoc, takeN_append v _ hl1.symm, hk, ↓reduceIte, hne,
        ih vs rest hl2 hok2, List.zip_cons_cons, List.map_cons]

/-- the options loop is the scope loop with every field type known and `v9Field` as naming -/
theorem v9OptLoop_eq_scopeLoop (c : Config) (fs : List TField) (i : Bytes) :
    v9OptLoop c fs i =
      v9ScopeLoop { c with t := { c.t with scopeKnown := fun _ => true, scopeField := c.t.v9Field } } fs i := by
  induction fs generalizing i with
  | nil => rfl
  | cons f fs ih =>
    simp only [v9OptLoop, v9ScopeLoop, ↓reduceIte]
    cases takeN f.len i with
    | none => rfl
    | some vr => simp only [ih]

theorem v9OptLoop_enc (c : Config) (fs : List TField) (vs : List Bytes) (rest : Bytes)
    (hl : fs.map (·.len) = vs.map (·.length)) (hok : fs.all (fun f => decide (0 < f.len)) = true) :
    v9OptLoop c fs (vs.flatten ++ rest) = some ((fs.zip vs).map (fun p => (c.t.v9Field p.1.typ, p.2)), rest) := by
  rw [v9OptLoop_eq_scopeLoop]
  exact v9ScopeLoop_enc _ fs vs rest hl (by simpa using hok)

/-- `v9ParseBody` on an options-data flowset holding one record -/
theorem v9ParseBody_optData (c : Config) (st : PState) (id : Nat) (t : V9OptTemplate) (r : List Bytes) (pad : Bytes)
    (hid0 : id ≠ c.t.v9TemplateId) (hid1 : id ≠ c.t.v9OptTemplateId)
    (hO : amLookup id st.v9O = some t)
    (hlen : (t.scope ++ t.opts).map (·.len) = r.map (·.length))
    (hok : optDataOk c t = true) :
    v9ParseBody c st id (r.flatten ++ pad) =
      (st, .ok (.optData ((t.scope.zip (r.take t.scope.length)).map fun p => (c.t.scopeField p.1.typ, p.2))
                         ((t.opts.zip (r.drop t.scope.length)).map fun p => (c.t.v9Field p.1.typ, p.2)) pad)) := by
  simp only [optDataOk, Bool.and_eq_true] at hok
  obtain ⟨hs, ho⟩ := hok
  have hr : r = r.take t.scope.length ++ r.drop t.scope.length := (List.take_append_drop _ _).symm
  have hlen' := hlen
  rw [List.map_append] at hlen'
  have h1 : t.scope.map (·.len) = (r.take t.scope.length).map (·.length) := by
    have := congrArg (List.take t.scope.length) hlen'
    rw [List.take_left' (by simp), ← List.map_take] at this
    exact this
  have h2 : t.opts.map (·.len) = (r.drop t.scope.length).map (·.length) := by
    have := congrArg (List.drop t.scope.length) hlen'
    rw [List.drop_left' (by simp), ← List.map_drop] at this
    exact this
  have hflat : r.flatten ++ pad = (r.take t.scope.length).flatten ++ ((r.drop t.scope.length).flatten ++ pad) := by
    rw [← List.append_assoc, ← List.flatten_append, List.take_append_drop]
  rw [hflat]
  simp only [v9ParseBody, hid0, hid1, ↓reduceIte, hO, v9ScopeLoop_enc c t.scope _ _ h1 hs, v9OptLoop_enc c t.opts _ pad h2 ho]

end Netflow
