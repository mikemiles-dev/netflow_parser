/-
  Lemmas/V9Record.lean — data flowsets of the C04 print-then-parse proof: one data record (induction over the
  template's field list), the record loop of a data flowset (induction over the records), the
  record-count division, and `v9ParseBody` on a data flowset.
-/
import NetflowModel.Lemmas.V9Field
import NetflowModel.Lemmas.RoundTrip
namespace Netflow
open Spec

/-- every field of the record satisfies the field-level side condition of its governing template field -/
def recOk (c : Config) (names : List (Nat × String)) (fs : List TField) (r : List Bytes) : Bool :=
  (fs.zip r).all fun p => fieldOk c names (c.t.v9Ty (c.t.v9Field p.1.typ)) p.2

theorem v9ParseRec_enc_from (c : Config) (names : List (Nat × String)) (harms : DnArmsOk c.t.dnArms) :
    ∀ (fs : List TField) (r : List Bytes) (k : Nat) (rec : Rec) (rest : Bytes),
      fs.length = r.length →
      allSome (((fs.zip r).zipIdx k).map fun p =>
        if p.1.2.length ≠ p.1.1.len then none else
        (interpSpec names (c.t.v9Ty (c.t.v9Field p.1.1.typ)) p.1.2).map fun v => (p.2, c.t.v9Field p.1.1.typ, v)) = some rec →
      recOk c names fs r = true →
      v9ParseRec c fs k (r.flatten ++ rest) = some (rec, rest) ∧ r.flatten.length = (fs.map (·.len)).sum := by
  intro fs
  induction fs with
  | nil =>
    intro r k rec rest hl h _
    have : r = [] := by cases r with | nil => rfl | cons _ _ => simp at hl
    subst this
    simp only [List.zip_nil_left, List.zipIdx_nil, List.map_nil, allSome, Option.some.injEq] at h
    subst h
    simp [v9ParseRec]
  | cons f fs ih =>
    intro r k rec rest hl h hok
    cases r with
    | nil => simp at hl
    | cons bs r' =>
      simp only [List.length_cons, Nat.add_right_cancel_iff] at hl
      simp only [List.zip_cons_cons, List.zipIdx_cons, List.map_cons] at h
      obtain ⟨e, es, h1, h2, rfl⟩ := allSome_cons_some h
      simp only [recOk, List.zip_cons_cons, List.all_cons, Bool.and_eq_true] at hok
      obtain ⟨hok1, hok2⟩ := hok
      by_cases hlen : bs.length = f.len
      · simp only [hlen, ne_eq, not_true_eq_false, ↓reduceIte, Option.map_eq_some_iff] at h1
        obtain ⟨v, hv, rfl⟩ := h1
        obtain ⟨ih1, ih2⟩ := ih r' (k + 1) es rest hl h2 hok2
        have hp := parseValue_of_fieldOk c names harms _ bs (r'.flatten ++ rest) v hv hok1
        rw [hlen] at hp
        constructor
        · simp only [v9ParseRec, List.flatten_cons, List.append_assoc, hp, ih1]
        · simp only [List.flatten_cons, List.length_append, List.map_cons, List.sum_cons, ih2, hlen]
      · simp only [ne_eq, hlen, not_false_eq_true, ↓reduceIte] at h1
        simp at h1

/-- a record written field by field is decoded to the expected entries, leaving `rest`;
    its byte length is the sum of the declared lengths. -/
theorem v9ParseRec_enc (c : Config) (names : List (Nat × String)) (harms : DnArmsOk c.t.dnArms)
    (fs : List TField) (r : List Bytes) (rec : Rec) (rest : Bytes)
    (h : expV9Rec c names fs r = some rec) (hok : recOk c names fs r = true) :
    v9ParseRec c fs 0 (r.flatten ++ rest) = some (rec, rest) ∧ r.flatten.length = (fs.map (·.len)).sum := by
  unfold expV9Rec at h
  by_cases hl : fs.length = r.length
  · simp only [hl, ne_eq, not_true_eq_false, ↓reduceIte] at h
    exact v9ParseRec_enc_from c names harms fs r 0 rec rest hl h hok
  · simp only [ne_eq, hl, not_false_eq_true, ↓reduceIte] at h
    simp at h

/-- non-vacuity of `v9ParseRec_enc`: template (IPV4_SRC_ADDR/4, PROTOCOL/1, IN_BYTES/2), one record -/
example : (expV9Rec genConfig Generated.protoNames [⟨8, 4⟩, ⟨4, 1⟩, ⟨1, 2⟩] [[10, 0, 0, 1], [6], [1, 0]]).isSome = true ∧
    recOk genConfig Generated.protoNames [⟨8, 4⟩, ⟨4, 1⟩, ⟨1, 2⟩] [[10, 0, 0, 1], [6], [1, 0]] = true := by decide +kernel

/-- with every record decodable the loop appends exactly the expected records
    (the "failed record keeps the accumulator" branch is never taken) -/
theorem v9RecLoop_enc (c : Config) (names : List (Nat × String)) (harms : DnArmsOk c.t.dnArms) (fs : List TField) :
    ∀ (recs : List (List Bytes)) (rs : List Rec) (acc : List Rec) (rest : Bytes),
      allSome (recs.map (expV9Rec c names fs)) = some rs →
      recs.all (recOk c names fs) = true →
      v9RecLoop c fs recs.length (recs.flatMap List.flatten ++ rest) acc = (acc ++ rs, rest) ∧
      (recs.flatMap List.flatten).length = recs.length * (fs.map (·.len)).sum := by
  intro recs
  induction recs with
  | nil =>
    intro rs acc rest h _
    simp only [List.map_nil, allSome, Option.some.injEq] at h
    subst h
    simp [v9RecLoop]
  | cons r recs ih =>
    intro rs acc rest h hok
    simp only [List.map_cons] at h
    obtain ⟨e, es, h1, h2, rfl⟩ := allSome_cons_some h
    simp only [List.all_cons, Bool.and_eq_true] at hok
    obtain ⟨hok1, hok2⟩ := hok
    obtain ⟨p1, p2⟩ := v9ParseRec_enc c names harms fs r e (recs.flatMap List.flatten ++ rest) h1 hok1
    obtain ⟨ih1, ih2⟩ := ih es (acc ++ [e]) rest h2 hok2
    constructor
    · simp only [List.length_cons, v9RecLoop, List.flatMap_cons, List.append_assoc, p1, ih1]
      simp
    · simp only [List.flatMap_cons, List.length_append, List.length_cons, p2, ih2, Nat.add_mul, Nat.one_mul]
      omega

/-- `Template::get_total_size` is the sum of the declared lengths saturated at 65535 -/
theorem v9TotalSize_eq (fs : List TField) : v9TotalSize fs = min (fs.map (·.len)).sum 65535 := by
  have aux : ∀ (fs : List TField) (a : Nat), a ≤ 65535 →
      fs.foldl (fun acc f => min (acc + f.len) 65535) a = min (a + (fs.map (·.len)).sum) 65535 := by
    intro fs
    induction fs with
    | nil => intro a ha; simp; omega
    | cons f fs ih =>
      intro a ha
      simp only [List.foldl_cons, List.map_cons, List.sum_cons]
      rw [ih _ (by omega)]
      omega
  simpa [v9TotalSize] using aux fs 0 (by omega)

theorem rec_count_div (n s p : Nat) (hp : p < s) : (n * s + p) / s = n := by
  have hs : 0 < s := by omega
  rw [Nat.mul_comm, Nat.mul_add_div hs, Nat.div_eq_of_lt hp]
  rfl

/-- `FlowSetBody::parse` on the body of a data flowset whose id is cached as a data
    template (and not as an options template): floor(body / record size) records, then padding. -/
theorem v9ParseBody_data_enc (c : Config) (names : List (Nat × String)) (harms : DnArmsOk c.t.dnArms)
    (st : PState) (id : Nat) (t : V9Template) (recs : List (List Bytes)) (pad : Bytes) (rs : List Rec)
    (hid0 : id ≠ c.t.v9TemplateId) (hid1 : id ≠ c.t.v9OptTemplateId)
    (hO : amLookup id st.v9O = none) (hT : amLookup id st.v9T = some t)
    (hpos : 0 < (t.fields.map (·.len)).sum) (hpad : pad.length < (t.fields.map (·.len)).sum)
    (hbody : (recs.flatMap List.flatten ++ pad).length < 65535)
    (hall : allSome (recs.map (expV9Rec c names t.fields)) = some rs)
    (hok : recs.all (recOk c names t.fields) = true) :
    v9ParseBody c st id (recs.flatMap List.flatten ++ pad) = (st, .ok (.data rs pad)) := by
  obtain ⟨l1, l2⟩ := v9RecLoop_enc c names harms t.fields recs rs [] pad hall hok
  have htot := v9TotalSize_eq t.fields
  have hlen : (recs.flatMap List.flatten ++ pad).length = recs.length * (t.fields.map (·.len)).sum + pad.length := by
    rw [List.length_append, l2]
  have hcount : (recs.flatMap List.flatten ++ pad).length / v9TotalSize t.fields = recs.length := by
    by_cases hs : (t.fields.map (·.len)).sum ≤ 65535
    · rw [htot, Nat.min_eq_left hs, hlen, rec_count_div _ _ _ hpad]
    · -- a record size above 65535 cannot fit a flowset: there is no record, and the body is all padding
      have hr : recs.length = 0 := by
        cases hrl : recs.length with
        | zero => rfl
        | succ k =>
          rw [hlen, hrl, Nat.add_mul] at hbody
          omega
      rw [htot, Nat.min_eq_right (by omega), hr]
      exact Nat.div_eq_of_lt (by omega)
  have hne : ¬ v9TotalSize t.fields = 0 := by rw [htot]; omega
  simp only [v9ParseBody, hid0, hid1, ↓reduceIte, hO, hT, hne, hcount, l1, List.nil_append]

end Netflow
