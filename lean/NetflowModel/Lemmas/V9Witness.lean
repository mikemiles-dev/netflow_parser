/-
  Lemmas/V9Witness.lean — helpers for the concrete `C04_*_fails` witnesses: a decidable test
  "the spec expects a packet, the model parser returns something else".
-/
import NetflowModel.Lemmas.V9Frame
namespace Netflow
open Spec

def isPkt : Option (Defs × Exp) → Bool
  | some (_, .pkt _) => true
  | _ => false

/-- decidable form of "the spec expects a packet for `m` but the model parser returns something else" -/
def deviatesB (d : List (Nat × V9Def)) (st : PState) (m : V9Msg) : Bool :=
  match expMsg genConfig Generated.protoNames { v9 := d } (.v9 m) with
  | some (_, .pkt p) => (parsePacket genConfig st (encV9 m)).2 != .ok p []
  | _ => false

/-- there is a template memory, a state representing it and a message that the spec maps to a packet
    `p` while the parser does not return `p` -/
def Deviates (d : List (Nat × V9Def)) (st : PState) (m : V9Msg) : Prop :=
  Repr9 d st ∧ ∃ d' p, expMsg genConfig Generated.protoNames { v9 := d } (.v9 m) = some (d', .pkt p) ∧
    (parsePacket genConfig st (encV9 m)).2 ≠ .ok p []

theorem deviatesB_sound {d : List (Nat × V9Def)} {st : PState} {m : V9Msg} (hR : Repr9 d st)
    (h : deviatesB d st m = true) : Deviates d st m := by
  refine ⟨hR, ?_⟩
  unfold deviatesB at h
  split at h
  · next d' p he => exact ⟨d', p, he, by simpa using h⟩
  · simp at h

theorem repr9_single_t (id : Nat) (t : V9Template) : Repr9 [(id, .t t)] { v9T := [(id, t)] } :=
  Repr9.empty.insert_t id t

theorem repr9_single_o (id : Nat) (t : V9OptTemplate) : Repr9 [(id, .o t)] { v9O := [(id, t)] } :=
  Repr9.empty.insert_o id t

def msgOf (sets : List V9FS) : V9Msg :=
  { count := sets.length, sysUpTime := 0, unixSecs := 0, seq := 0, sourceId := 0, sets := sets }

end Netflow
