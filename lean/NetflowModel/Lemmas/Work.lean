/-
  Lemmas/Work.lean — the work model of the V9 record loop (`CostWork.lean`): attempts and template copies of the loop that
  stops at the first record that does not decode, and of the `fold` that retries.
-/
import NetflowModel.CostWork
import NetflowModel.Lemmas.G2Ctl
import NetflowModel.Lemmas.CostIp
namespace Netflow.P6
open Netflow Cost

theorem v9RecAttempts_le (c : Config) (fs : List TField) (i : Bytes) : v9RecAttempts c fs i ≤ fs.length := by
  induction fs generalizing i with
  | nil => simp [v9RecAttempts]
  | cons f fs ih =>
    simp only [v9RecAttempts, List.length_cons]
    cases h : parseValue c.vc (c.t.v9Ty (c.t.v9Field f.typ)) f.len i with
    | none => simp
    | some p => obtain ⟨v, r⟩ := p; simp only []; have := ih r; omega

theorem length_le_recSize (es : Rec) : es.length ≤ recSize es := by
  rw [B3.recSize_eq]
  induction es with
  | nil => simp
  | cons e es ih => simp only [B3.entSum, List.length_cons, List.map_cons, List.sum_cons] at ih ⊢; omega

/-- The work of the stopping loop is paid by the records it returns, one template's worth left over (the attempt that
    failed): an iteration that decodes makes at most one attempt per field, and its record has an entry per field. -/
theorem v9_work_stop_le (c : Config) (fs : List TField) (n : Nat) (i : Bytes) (acc : List Rec) :
    v9RecWorkStop c fs n i + (acc.map recSize).sum ≤ ((v9RecLoop c fs n i acc).1.map recSize).sum + fs.length := by
  induction n generalizing i acc with
  | zero => simp only [v9RecWorkStop, v9RecLoop]; omega
  | succ n ih =>
    have ha := v9RecAttempts_le c fs i
    cases h : v9ParseRec c fs 0 i with
    | none =>
      rw [v9RecLoop_none h (n + 1) acc]
      simp only [v9RecWorkStop, h]; omega
    | some p =>
      obtain ⟨r, i'⟩ := p
      have := ih i' (acc ++ [r])
      have := (B3.v9ParseRec_length c fs 0 i r i' h).1
      have := length_le_recSize r
      simp only [v9RecWorkStop, v9RecLoop, h]
      simp only [List.map_append, List.sum_append, List.map_cons, List.map_nil, List.sum_cons, List.sum_nil] at *
      omega

/-- the retrying `fold`: once a record fails, every remaining iteration clones the template and fails again -/
theorem v9RecWorkRetry_fail (c : Config) (fs : List TField) (n : Nat) (i : Bytes)
    (h : v9ParseRec c fs 0 i = none) : v9RecWorkRetry c fs n i = n * (fs.length + v9RecAttempts c fs i) := by
  induction n with
  | zero => simp [v9RecWorkRetry]
  | succ n ih =>
    simp only [v9RecWorkRetry, h]
    rw [ih, Nat.succ_mul]
    omega

/-- `k` fields that decode without consuming anything in front of `fs`: `k` more attempts -/
theorem attempts_replicate (c : Config) (z : TField) (v0 : FieldValue)
    (hz : ∀ j, parseValue c.vc (c.t.v9Ty (c.t.v9Field z.typ)) z.len j = some (v0, j))
    (k : Nat) (fs : List TField) (i : Bytes) :
    v9RecAttempts c (List.replicate k z ++ fs) i = k + v9RecAttempts c fs i := by
  induction k with
  | zero => simp
  | succ k ih => simp only [List.replicate_succ, List.cons_append, v9RecAttempts, hz, ih]; omega

theorem parseRec_replicate_fail (c : Config) (z f : TField) (v0 : FieldValue)
    (hz : ∀ j, parseValue c.vc (c.t.v9Ty (c.t.v9Field z.typ)) z.len j = some (v0, j))
    (i : Bytes) (hf : parseValue c.vc (c.t.v9Ty (c.t.v9Field f.typ)) f.len i = none)
    (k idx : Nat) : v9ParseRec c (List.replicate k z ++ [f]) idx i = none := by
  induction k generalizing idx with
  | zero => simp [v9ParseRec, hf]
  | succ k ih => simp only [List.replicate_succ, List.cons_append, v9ParseRec, hz, ih]

/-- with every declared length ≥ 1 the (saturating) record size is at least the number of fields, up to the saturation bound -/
theorem v9TotalSize_ge_aux (fs : List TField) (hpos : ∀ f ∈ fs, 1 ≤ f.len) :
    ∀ acc, min (acc + fs.length) 65535 ≤ fs.foldl (fun acc f => min (acc + f.len) 65535) acc := by
  induction fs with
  | nil => intro acc; simp only [List.length_nil, Nat.add_zero, List.foldl_nil]; omega
  | cons f fs ih =>
    intro acc
    have h1 := hpos f (by simp)
    have h2 := ih (fun g hg => hpos g (by simp [hg])) (min (acc + f.len) 65535)
    simp only [List.foldl_cons, List.length_cons]
    omega

theorem v9TotalSize_ge (fs : List TField) (hpos : ∀ f ∈ fs, 1 ≤ f.len) (hk : fs.length ≤ 65535) :
    fs.length ≤ v9TotalSize fs := by
  have := v9TotalSize_ge_aux fs hpos 0
  unfold v9TotalSize
  omega

theorem v9RecWorkStop_le_iters (c : Config) (fs : List TField) (n : Nat) (i : Bytes) :
    v9RecWorkStop c fs n i ≤ fs.length * n := by
  induction n generalizing i with
  | zero => simp [v9RecWorkStop]
  | succ n ih =>
    have ha := v9RecAttempts_le c fs i
    simp only [v9RecWorkStop, Nat.mul_add, Nat.mul_one]
    cases h : v9ParseRec c fs 0 i with
    | none => simp only []; omega
    | some p => obtain ⟨r, i'⟩ := p; simp only []; have := ih i'; omega

theorem v9RecWorkRetry_le_iters (c : Config) (fs : List TField) (n : Nat) (i : Bytes) :
    v9RecWorkRetry c fs n i ≤ 2 * (fs.length * n) := by
  induction n generalizing i with
  | zero => simp [v9RecWorkRetry]
  | succ n ih =>
    have ha := v9RecAttempts_le c fs i
    simp only [v9RecWorkRetry, Nat.mul_add, Nat.mul_one]
    cases h : v9ParseRec c fs 0 i with
    | none => simp only []; have := ih i; omega
    | some p => obtain ⟨r, i'⟩ := p; simp only []; have := ih i'; omega

theorem fields_times_iters_le (k total b : Nat) (hk : k ≤ total) : k * (b / total) ≤ b :=
  Nat.le_trans (Nat.mul_le_mul_right _ hk) (Nat.mul_div_le b total)

end Netflow.P6
