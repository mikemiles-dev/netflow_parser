/-
  Lemmas/WorkIp.lean — the work model of the IPFIX record loop (`CostWork.lean`): attempts against records returned.
-/
import NetflowModel.Lemmas.Work
namespace Netflow.P6
open Netflow Cost

theorem ipRecAttempts_le (c : Config) (fs : List IpTField) (i : Bytes) : ipRecAttempts c fs i ≤ fs.length := by
  induction fs generalizing i with
  | nil => simp [ipRecAttempts]
  | cons f fs ih =>
    simp only [ipRecAttempts, List.length_cons]
    cases h : ipParseValue c f i with
    | none => simp
    | some p => obtain ⟨v, r⟩ := p; simp only []; have := ih r; omega

theorem length_le_sum_recSize (l : List Rec) : l.length ≤ (l.map recSize).sum := by
  induction l with
  | nil => simp
  | cons r l ih => simp only [List.length_cons, List.map_cons, List.sum_cons, recSize]; omega

/-- a data set that DECODES: the decode attempts of the record loop are paid by the records returned -/
theorem ipRecWork_ok (c : Config) (fs : List IpTField) (fuel : Nat) (i : Bytes) (recs : List Rec) (r : Bytes)
    (h : ipRecLoop c fs fuel i = .ok (recs, r)) : ipRecWork c fs fuel i ≤ (recs.map recSize).sum := by
  induction fuel generalizing i recs r with
  | zero => simp [ipRecLoop] at h
  | succ fuel ih =>
    have ha := ipRecAttempts_le c fs i
    simp only [ipRecLoop] at h
    simp only [ipRecWork]
    cases h1 : ipParseRec c fs 0 i with
    | none => simp [h1] at h
    | some p =>
      obtain ⟨es, r1⟩ := p
      have hs := length_le_sum_recSize es
      rw [(B3.ipParseRec_length c fs 0 i es r1 h1).1] at hs
      simp only [h1] at h ⊢
      by_cases ht : i.length - r1.length = 0
      · simp only [ht, if_true] at h ⊢
        simp only [Res.ok.injEq, Prod.mk.injEq] at h
        rw [← h.1]; omega
      · simp only [ht, if_false] at h ⊢
        by_cases hg : r1.length ≥ i.length - r1.length
        · simp only [hg, if_true] at h ⊢
          cases h2 : ipRecLoop c fs fuel r1 with
          | ok q =>
            obtain ⟨more, r'⟩ := q
            simp only [h2, Res.ok.injEq, Prod.mk.injEq] at h
            have := ih r1 more r' h2
            rw [← h.1]
            simp only [List.map_append, List.sum_append]; omega
          | err => simp [h2] at h
          | panic => simp [h2] at h
          | overflow => simp [h2] at h
        · simp only [hg, if_false] at h ⊢
          simp only [Res.ok.injEq, Prod.mk.injEq] at h
          rw [← h.1]; omega

/-- ANY data set (decoded or not): every iteration but the last consumes a byte, so the attempts are at most fields × (bytes + 1) -/
theorem ipRecWork_le (c : Config) (fs : List IpTField) (fuel : Nat) (i : Bytes) :
    ipRecWork c fs fuel i ≤ fs.length * (i.length + 1) := by
  induction fuel generalizing i with
  | zero => simp [ipRecWork]
  | succ fuel ih =>
    have ha := ipRecAttempts_le c fs i
    simp only [ipRecWork]
    cases h1 : ipParseRec c fs 0 i with
    | none => simp only [Nat.add_zero, Nat.mul_add, Nat.mul_one]; omega
    | some p =>
      obtain ⟨es, r1⟩ := p
      simp only []
      by_cases ht : i.length - r1.length = 0
      · simp only [ht, if_true, Nat.add_zero, Nat.mul_add, Nat.mul_one]; omega
      · simp only [ht, if_false]
        by_cases hg : r1.length ≥ i.length - r1.length
        · simp only [hg, if_true]
          have h2 := ih r1
          have hlt : r1.length + 1 ≤ i.length := by omega
          have h3 : fs.length * (r1.length + 1) ≤ fs.length * i.length := Nat.mul_le_mul_left _ hlt
          have h4 := Nat.le_trans h2 h3
          simp only [Nat.mul_add, Nat.mul_one]
          omega
        · simp only [hg, if_false, Nat.add_zero, Nat.mul_add, Nat.mul_one]; omega

end Netflow.P6
