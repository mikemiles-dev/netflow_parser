/-
  NomProg.lean — the derive(Nom) template-record structs as field programs (what `tools/translate_nom.py` reads from v9.rs / ipfix.rs),
  interpreted with the model's OWN combinators (`beU`, `countP`, `many0`) into the generic tree view of ExportProg.lean.
  `Lemmas/G4Nom.lean` and `Props/NomGen.lean` prove that the interpretation of the regenerated programs IS the hand-written `parseTField`, `parseV9Template`,
  `parseV9OptTemplate`, `many0 parseV9Template` (+ rest), `parseIpTField`, `parseIpTemplate`, `parseIpOptTemplate`.
-/
import NetflowModel.Ctl
import NetflowModel.ExportProg
namespace Netflow

/-- the element count of a `count(..)` field, as an expression over the integer fields parsed before it -/
inductive CountExpr where
  | field (n : String)                       -- `Count = "n"`
  | fieldDiv (n : String) (d : Nat)          -- `Count = "(n / d) as usize"`
  | ipOptCombined (sc fc : String)           -- `sc.saturating_add(fc.checked_sub(sc).unwrap_or(fc))` (u16)
  deriving Repr, DecidableEq

inductive NomField where
  | be (name : String) (w : Nat)
  | value (name : String)
  | rest (name : String)
  | many0 (name : String) (struct : String)
  | count (name : String) (struct : String) (n : CountExpr)
  | condBe (name : String) (w : Nat) (dep : String) (cmp : Cmp) (thr sub : Nat)
  deriving Repr, DecidableEq

abbrev NEnv := List (String × ETree)

def envNum (env : NEnv) (n : String) : Nat :=
  match env.lookup n with
  | some (.num v) => v
  | _ => 0

def envSetNum (env : NEnv) (n : String) (v : Nat) : NEnv :=
  env.map fun e => if e.1 == n then (e.1, ETree.num v) else e

def CountExpr.eval (env : NEnv) : CountExpr → Nat
  | .field n => envNum env n
  | .fieldDiv n d => envNum env n / d
  | .ipOptCombined sc fc =>
    let s := envNum env sc
    let f := envNum env fc
    if s ≤ f then f else min (s + f) 65535

def loopToOpt {α : Type} : Loop (List α × Bytes) → Option (List α × Bytes)
  | .ok x => some x
  | _ => none

/-- the fields of one struct, left to right; `sub` parses a nested struct by name -/
def runFields (sub : String → P ETree) : List NomField → NEnv → Bytes → Option (NEnv × Bytes)
  | [], env, i => some (env, i)
  | .be n w :: fs, env, i =>
    match beU w i with
    | none => none
    | some (v, r) => runFields sub fs (env ++ [(n, .num v)]) r
  | .value _ :: fs, env, i => runFields sub fs env i
  | .rest n :: fs, env, i => runFields sub fs (env ++ [(n, .bytes i)]) []
  | .many0 n s :: fs, env, i =>
    match loopToOpt (many0 (sub s) i) with
    | none => none
    | some (xs, r) => runFields sub fs (env ++ [(n, .list xs)]) r
  | .count n s e :: fs, env, i =>
    match countP (sub s) (e.eval env) i with
    | none => none
    | some (xs, r) => runFields sub fs (env ++ [(n, .list xs)]) r
  | .condBe n w dep cmp thr sb :: fs, env, i =>
    if cmp.eval (envNum env dep) thr then
      match beU w i with
      | none => none
      | some (v, r) => runFields sub fs (envSetNum env dep (envNum env dep - sb) ++ [(n, .some (.num v))]) r
    else runFields sub fs (env ++ [(n, .none)]) i

/-- `S::parse` for a struct of the table; the fuel bounds the nesting depth of struct names (3 in this crate) -/
def structP (tbl : List (String × List NomField)) : Nat → String → P ETree
  | 0, _ => fun _ => none
  | fuel + 1, s => fun i =>
    match tbl.lookup s with
    | none => none
    | some fs =>
      match runFields (structP tbl fuel) fs [] i with
      | none => none
      | some (env, r) => some (.struct env, r)

end Netflow
