/-
  Props/All.lean — imports every property module, so that the whole proof tree can be built and
  re-checked as ONE target: `lake build NetflowModel.Props.All`.
-/
import NetflowModel.Props.C01
import NetflowModel.Props.C02
import NetflowModel.Props.C03
import NetflowModel.Props.C04
import NetflowModel.Props.C05
import NetflowModel.Props.C06
import NetflowModel.Props.C06Refine
import NetflowModel.Props.C07
import NetflowModel.Props.C07b
import NetflowModel.Props.C08
import NetflowModel.Props.C09
import NetflowModel.Props.C10
import NetflowModel.Props.C11
import NetflowModel.Props.C12
import NetflowModel.Props.C13
import NetflowModel.Props.C14
import NetflowModel.Props.C15
import NetflowModel.Props.C16
import NetflowModel.Props.C16b
import NetflowModel.Props.C17
import NetflowModel.Props.C17b
import NetflowModel.Props.H1
import NetflowModel.Props.Ctl
import NetflowModel.Props.ExportGen
import NetflowModel.Props.C04c
import NetflowModel.Props.C14b
import NetflowModel.Props.C06c
import NetflowModel.Props.C15b
import NetflowModel.Props.C15c
import NetflowModel.Props.C15d
import NetflowModel.Props.C08b
import NetflowModel.Props.C07c
import NetflowModel.Props.C07d
import NetflowModel.Props.C13b
import NetflowModel.Props.C13c
import NetflowModel.Props.C01c
import NetflowModel.Props.C16c
import NetflowModel.Props.SerdeGen
import NetflowModel.Props.NomGen
