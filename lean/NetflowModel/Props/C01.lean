/-
  Props/C01.lean — C01 on the model: `parse_bytes` always returns a list (no panic site is
  reachable, no fuel-bounded loop runs out of fuel = every loop terminates), what it returns
  re-exports without tripping the 24-bit range assertion, the packet chain is at most
  `|buf|` deep, and every cached IPFIX template keeps the validity that drives per-record
  progress.  Property theorems only; helper lemmas live in Lemmas/Inversion.lean, Lemmas/State.lean,
  Lemmas/ExportRange.lean.  Props/C01c.lean continues with what is done with the returned values (common view, JSON) and
  the combined statement `C01_returned_values_convert_and_print`.

  Totality: `parseBytes`, `exportPacket`, `toCommon` and every other model function is a total
  Lean function accepted by the kernel without `partial`; the places where the Rust code could
  fail are explicit outcomes (`Outcome.panic/overflow`, `Res.panic/overflow`, `Out.panic`,
  `Loop.outOfFuel`), and the theorems below show none of them is produced.
-/
import NetflowModel.Lemmas.ExportRange
import NetflowModel.Props.C02
import NetflowModel.Lemmas.G1Arms
namespace Netflow.Props
open Netflow Preds

/-- **C01** no panic site is reachable: from any cache state, on any bytes, under any
    configuration the outcome of `parse_bytes` is never `panic`. -/
theorem C01_no_panic (c : Config) (st : PState) (buf : Bytes) (ps : List Packet) :
    (parseBytes c st buf).2 ≠ .panic ps :=
  parseBytesF_no_panic c _ st buf ps

/-- the version-specific parsers never panic either (one packet) -/
theorem C01_packet_no_panic (c : Config) (st : PState) (buf : Bytes) : (parsePacket c st buf).2 ≠ .panic :=
  parsePacket_no_panic c st buf

/-- `many0` never exhausts fuel `|i|+1` for a parser that returns suffixes of its input -/
theorem C01_many0_terminates {α : Type} (p : P α) (hp : Suffix p) (i : Bytes) : many0F p (i.length + 1) i ≠ .outOfFuel :=
  many0_fuel hp i

/-- the template-record parsers under `many0` return suffixes -/
theorem C01_template_parsers_suffix : Suffix parseV9Template ∧ Suffix parseV9OptTemplate ∧ Suffix parseIpTField :=
  ⟨parseV9Template_suffix, parseV9OptTemplate_suffix, parseIpTField_suffix⟩

/-- the IPFIX record loop (it breaks when a record consumed 0 bytes) never
    exhausts fuel `|i|+1`, for EVERY field list — also for a hand-inserted all-zero-length one -/
theorem C01_ipfix_records_terminate (c : Config) (fs : List IpTField) (i : Bytes) :
    ipRecLoop c fs (i.length + 1) i ≠ .overflow :=
  ipRecLoop_no_overflow c fs _ i (Nat.lt_succ_self _)

/-- the IPFIX set loop never exhausts fuel `|i|+1` -/
theorem C01_ipfix_sets_terminate (c : Config) (st : PState) (i : Bytes) :
    (ipParseSets c (i.length + 1) st i).2 ≠ .overflow :=
  ipParseSets_no_overflow c _ st i (Nat.lt_succ_self _)

/-- one packet: no fuel exhaustion anywhere below `parse_packet_by_version` -/
theorem C01_packet_no_overflow (c : Config) (st : PState) (buf : Bytes) : (parsePacket c st buf).2 ≠ .overflow :=
  parsePacket_no_overflow c st buf

/-- every successfully parsed packet consumed at least its version word, so the packet loop
    has enough fuel -/
theorem C01_packet_progress (c : Config) (st st' : PState) (buf : Bytes) (p : Packet) (rest : Bytes)
    (h : parsePacket c st buf = (st', .ok p rest)) : rest.length + 2 ≤ buf.length :=
  parsePacket_progress c st st' buf p rest h

/-- **C01** no loop of the model exhausts its fuel: `parse_bytes` terminates.  (No hypothesis
    on the tables is needed: every stage returns a suffix of its input.) -/
theorem C01_no_overflow (c : Config) (st : PState) (buf : Bytes) (ps : List Packet) :
    (parseBytes c st buf).2 ≠ .overflow ps :=
  parseBytesF_no_overflow c _ st buf ps (Nat.lt_succ_self _)

/-- **C01** `parse_bytes` returns a list of packets, from every cache state, for every buffer,
    every allowed-version set, every table. -/
theorem C01_returns (c : Config) (st : PState) (buf : Bytes) : ∃ pkts, (parseBytes c st buf).2 = .done pkts :=
  parseBytes_done c st buf

/-- **C01** for the tables generated from the Rust source -/
theorem C01_returns_generated (allowed : List Nat) (uf : Bool) (st : PState) (buf : Bytes) :
    ∃ pkts, (parseBytes { t := Generated.tables, allowed := allowed, unknownFields := uf } st buf).2 = .done pkts :=
  C01_returns _ st buf

/-- ... and for any history of earlier buffers (the state reached is just another `st`) -/
theorem C01_returns_after_history (c : Config) (hist : List Bytes) (buf : Bytes) :
    ∃ pkts, (parseBytes c (hist.foldl (fun st b => (parseBytes c st b).1) {}) buf).2 = .done pkts :=
  C01_returns c _ buf

/-- **C01** (parametric) if the arm table of `DataNumber::parse` produces the 24-bit variants
    only from 3-byte fields (`dnArmsOk`, decidable), no packet returned by `parse_bytes` — from
    any cache state — makes its exporter panic.  (`Out.err` remains possible: durations ≥ 2^32 s.) -/
theorem C01_export_no_panic (c : Config) (ha : dnArmsOk c.t.dnArms = true) (st : PState) (buf : Bytes)
    (pkts : List Packet) (h : (parseBytes c st buf).2 = .done pkts) :
    ∀ p ∈ pkts, exportPacket c p ≠ some .panic := by
  intro p hp
  apply exportPacket_ne_panic
  exact parseBytesF_all (fun _ _ _ _ _ hb => v9ParseBody_ok c ha _ _ _ _ _ hb)
    (fun _ _ _ _ _ hb => ipParseBody_ok c ha _ _ _ _ _ hb) _ _ _ _ _ (Prod.ext rfl h) p hp

/-- the arm-table side condition holds for the generated table -/
theorem C01_generated_arms : dnArmsOk Generated.tables.dnArms = true := by decide

/-- **C01** for the generated tables -/
theorem C01_export_no_panic_generated (allowed : List Nat) (uf : Bool) (st : PState) (buf : Bytes)
    (pkts : List Packet)
    (h : (parseBytes { t := Generated.tables, allowed := allowed, unknownFields := uf } st buf).2 = .done pkts) :
    ∀ p ∈ pkts, exportPacket { t := Generated.tables, allowed := allowed, unknownFields := uf } p ≠ some .panic :=
  C01_export_no_panic _ C01_generated_arms st buf pkts h

/-- the value-level fact behind the re-export theorem: a decoded `U24` is `< 2^24`, a decoded `I24` is in
    `[-2^23, 2^23)` -/
theorem C01_value_in_range (vc : ValueCfg) (ha : dnArmsOk vc.dnArms = true) (ty : FType) (len : Nat) (i r : Bytes)
    (v : FieldValue) (h : parseValue vc ty len i = some (v, r)) : ValueOk v ∧ v.toBE vc ≠ .panic :=
  ⟨parseValue_ok ha h, FieldValue.toBE_ne_panic vc (parseValue_ok ha h)⟩

/-- the side condition is needed: with an arm table that yields `U24` from a 4-byte field the
    exporter's range assertion fires (so `dnArmsOk` is not vacuous padding) -/
theorem C01_arms_condition_needed :
    ∃ d r, DataNumber.parse [((4, false), .u24)] 4 false [1, 0, 0, 0] = some (d, r) ∧ d.toBE = .panic :=
  ⟨_, _, rfl, by decide⟩

/-- **C01** every element but the last consumed ≥ 2 bytes: `2·#packets ≤ |buf| + 1`. -/
theorem C01_depth_strong (c : Config) (st : PState) (buf : Bytes) (pkts : List Packet)
    (h : (parseBytes c st buf).2 = .done pkts) : 2 * pkts.length ≤ buf.length + 1 :=
  parseBytesF_count c _ _ _ _ _ (Prod.ext rfl h)

/-- **C01** the number of packets returned (one iteration of the packet loop of `parse_bytes` each) is at most `|buf|`. -/
theorem C01_depth (c : Config) (st : PState) (buf : Bytes) (pkts : List Packet)
    (h : (parseBytes c st buf).2 = .done pkts) : pkts.length ≤ buf.length := by
  have := C01_depth_strong c st buf pkts h
  omega

/-- `CacheValid st` (Lemmas/State.lean): every cached IPFIX template / options template has a
    field of non-zero declared length:
    `(∀ e ∈ st.ipT, ipValid e.2.fields = true) ∧ (∀ e ∈ st.ipO, ipValid e.2.fields = true)`; a new parser has it -/
theorem C01_cache_valid_empty : CacheValid {} := by
  constructor <;> intro e he <;> simp at he

/-- **C01** `CacheValid` is preserved by `parse_bytes` on arbitrary bytes (insertion is guarded
    by `is_valid`; V9 input does not touch the IPFIX maps). -/
theorem C01_ipfix_cache_valid (c : Config) (st : PState) (buf : Bytes) (h : CacheValid st) :
    CacheValid (parseBytes c st buf).1 := by
  refine parseBytes_pres (I := CacheValid) ?_ ?_ st buf h
  · intro st id b hI
    have : (v9ParseBody c st id b).1.ipT = st.ipT ∧ (v9ParseBody c st id b).1.ipO = st.ipO :=
      v9ParseBody_ip_frame c st id b
    unfold CacheValid
    rw [this.1, this.2]; exact hI
  · intro st id b hI
    exact ipParseBody_cache_valid c st id b hI

private def c01Cfg : Config := { t := Generated.tables, allowed := [5, 7, 9, 10] }

/-- a V9 packet: template 256 = one 3-byte unsigned field, then a data flowset with the extremal
    value 0xFFFFFF -/
private def c01V9 : Bytes :=
  [0,9, 0,2, 0,0,0,1, 0,0,0,2, 0,0,0,3, 0,0,0,4,   0,0, 0,12, 1,0, 0,1, 0,1, 0,3,   1,0, 0,8, 255,255,255, 0]

/-- the same as an IPFIX message -/
private def c01Ip : Bytes :=
  [0,10, 0,36, 0,0,0,1, 0,0,0,2, 0,0,0,3,   0,2, 0,12, 1,0, 0,1, 0,1, 0,3,   1,0, 0,8, 255,255,255, 0]

/-- hypotheses of `C01_export_no_panic` / `C01_depth` are met by a result that carries a `U24`
    (the only kind of value that could trip the exporter), at its maximum -/
example : (parseBytes c01Cfg {} c01V9).2 = .done [.v9 [9, 2, 1, 2, 3, 4]
      [{ id := 0, len := 12, body := .templates [{ id := 256, fieldCount := 1, fields := [{ typ := 1, len := 3 }] }] [] },
       { id := 256, len := 8, body := .data [[(0, 1, .num (.u24 16777215))]] [0] }]] := by decide +kernel

/-- ... and re-exporting its data flowset (the `U24` at its maximum) yields `ok` bytes -/
example : exportPacket c01Cfg (.v9 [9, 2, 1, 2, 3, 4]
      [{ id := 256, len := 8, body := .data [[(0, 1, .num (.u24 16777215))]] [0] }]) =
    some (.ok [0,9, 0,2, 0,0,0,1, 0,0,0,2, 0,0,0,3, 0,0,0,4, 1,0, 0,8, 255,255,255, 0]) := by decide +kernel

/-- `C01_value_in_range`: a 3-byte signed field decodes to an in-range `I24` (here −1) -/
example : parseValue c01Cfg.vc .signed 3 [255, 255, 255, 7] = some (.num (.i24 (-1)), [7]) := by decide

/-- `C01_packet_progress`: a successfully parsed packet -/
example : (parsePacket c01Cfg {} [0, 5, 0, 0, 0, 0, 0, 1, 0, 0, 0, 2, 0, 0, 0, 3, 0, 0, 0, 4, 5, 6, 0, 7, 9]).2 =
    .ok (.v5 [5, 0, 1, 2, 3, 4, 5, 6, 7] []) [9] := by decide +kernel

/-- `C01_depth` is attained: one byte, one (error) element -/
example : (parseBytes c01Cfg {} [9]).2 = .done [.error .incomplete [9]] := by decide +kernel

/-- `C01_ipfix_cache_valid` on a non-empty cache: the state after the IPFIX message above holds
    template 256 and is valid -/
example : CacheValid (parseBytes c01Cfg {} c01Ip).1 ∧
    (parseBytes c01Cfg {} c01Ip).1.ipT = [(256, { id := 256, fieldCount := 1, fields := [{ typ := 1, len := 3, ent := none }], pad := [] })] :=
  ⟨C01_ipfix_cache_valid _ _ _ C01_cache_valid_empty, by decide +kernel⟩

/-- an all-zero-length template is NOT inserted (the guard that `CacheValid` records) -/
example : (parseBytes c01Cfg {} [0,10, 0,28, 0,0,0,1, 0,0,0,2, 0,0,0,3,   0,2, 0,12, 1,0, 0,1, 0,1, 0,0]).1 = {} := by decide +kernel

/-- **C01** (regenerated on every run) the only panicking encoders are the two byteorder 24-bit writers, exactly as the
    arms of `DataNumber::to_be_bytes` read from the source now say; every `From<DataNumber> for usize` arm is a plain cast. -/
theorem C01_number_export_arms_generated (d : DataNumber) :
    d.toBE = dnToBEBy Generated.dnExportArms d := G1.dnToBE_eq_generated d

/-- every variant of `DataNumber` is listed among the `From<DataNumber> for usize` arms the source declares as plain `as` casts -/
theorem C01_usize_casts_generated : ∀ a : DnArm, a ∈ Generated.dnUsizeCasts := by
  intro a; cases a <;> decide

end Netflow.Props
