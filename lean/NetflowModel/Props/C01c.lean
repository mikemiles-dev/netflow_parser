/-
  Props/C01c.lean — C01, the clause "Every value it returns can then be … converted to the common
  form and serialized to JSON without a panic".

  The model functions `toCommon` (`NetflowCommon::try_from`) and `toJ` (`serde_json::to_value`) are
  total Lean functions, which by itself says nothing.  What makes the clause true of the Rust code is
  that on these two paths there is NO operation that can fail at run time except the ones the model
  keeps as explicit outcomes:
   * `NetflowCommon::try_from(&NetflowPacket)` has exactly one failing arm,
     `NetflowPacket::Error(_) => Err(UnknownVersion)`; every field conversion is
     `.and_then(|v| v.try_into().ok())` — an `Option`, modelled by `asU8`/`asU16`/`asU32`/`asIp`/
     `asString`, no `unwrap`, no indexing, no arithmetic.  `C01_common_total` is the exact statement:
     the common view is absent IFF the element is an error element; for the four packet kinds it is
     present with one flow per record (`C01_common_shape`), and in a parse result only the LAST
     element can be an error element (`C01_common_only_last_absent`).
   * derived `Serialize` fails only on non-string map keys and on a failing custom `serialize`; the
     model value `toJ` is a tree of objects with STRING member names, arrays, numbers and byte
     strings, and `C16_parse_results_text` (used below for the state reached by any history of earlier
     buffers) shows that the text printed for it is accepted by an
     RFC 8259 reader and reads back as that very tree — in particular every string in it is valid
     UTF-8 and every number literal is a JSON number.
  `C01_returned_values_convert_and_print` puts the three together for one `parse_bytes` call after any
  history.
-/
import NetflowModel.Props.C01
import NetflowModel.Props.C13
import NetflowModel.Props.C16b
import NetflowModel.Lemmas.FixedLayout
namespace Netflow.Props
open Netflow Preds Netflow.JText Netflow.J1

/-- **C01, common view, exact totality**: `as_netflow_common` has no result IFF the element is an
    error element (`NetflowPacket::Error`) — the only `Err` arm of the Rust `try_from`. -/
theorem C01_common_total (c : Config) (p : Packet) : toCommon c p = none ↔ ∃ k r, p = .error k r :=
  ⟨C13_errors_only c p, fun ⟨k, r, e⟩ => by rw [e]; rfl⟩

/-- for the four packet kinds the view exists and has one flow per V5/V7 record resp. per decoded
    V9 data record / IPFIX per-field map: nothing is dropped, nothing can make the conversion stop -/
theorem C01_common_shape (c : Config) (p : Packet) :
    match p with
    | .v5 _ rs => ∃ cm, toCommon c p = some cm ∧ cm.flows.length = rs.length
    | .v7 _ rs => ∃ cm, toCommon c p = some cm ∧ cm.flows.length = rs.length
    | .v9 _ ss => ∃ cm, toCommon c p = some cm ∧ cm.flows.length = (v9DataRecs ss).length
    | .ipfix _ ss => ∃ cm, toCommon c p = some cm ∧ cm.flows.length = (ipDataRecs ss).length
    | .error _ _ => toCommon c p = none := by
  cases p <;> simp [toCommon]

/-- every field conversion of the view is an `Option`: a value of a kind the converter does not
    accept gives an absent attribute, never a failure (the model counterpart of `try_into().ok()`) -/
theorem C01_common_conversions_total (v : FieldValue) :
    (asU8 v = none ∨ ∃ n, v = .num (.u8 n) ∧ asU8 v = some n) ∧
    (asU16 v = none ∨ ∃ n, v = .num (.u16 n) ∧ asU16 v = some n) ∧
    (asU32 v = none ∨ ∃ n, v = .num (.u32 n) ∧ asU32 v = some n) ∧
    (asIp v = none ∨ (∃ n, v = .ip4 n) ∨ (∃ n, v = .ip6 n)) ∧
    (asString v = none ∨ (∃ s, v = .str s) ∨ (∃ m, v = .mac m)) := by
  cases v with
  | num d => cases d <;> simp [asU8, asU16, asU32, asIp, asString]
  | _ => simp [asU8, asU16, asU32, asIp, asString]

/-- a packet returned by `parse_packet_by_version` is never an error element, so it converts -/
theorem C01_common_of_returned_packet (c : Config) (st st' : PState) (buf : Bytes) (pkt : Packet) (rest : Bytes)
    (h : parsePacket c st buf = (st', .ok pkt rest)) : ∃ cm, toCommon c pkt = some cm := by
  cases parsePacket_origin _ _ _ _ _ _ h <;> exact ⟨_, rfl⟩

/-- **C01, common view of a parse result**: every element of the list `parse_bytes` returns converts,
    except possibly the last one, and that one fails to convert exactly when it is the error element
    that reports the undecodable rest of the buffer. -/
theorem C01_common_only_last_absent (c : Config) (st st' : PState) (buf : Bytes) (pkts : List Packet)
    (h : parseBytes c st buf = (st', .done pkts)) :
    (∀ p ∈ pkts.dropLast, ∃ cm, toCommon c p = some cm) ∧
    (∀ p ∈ pkts, toCommon c p = none ↔ ∃ k r, p = .error k r) := by
  refine ⟨?_, fun p _ => C01_common_total c p⟩
  -- only the last step of the packet loop reports an error element
  have hr := parseBytes_run h
  clear h
  induction hr with
  | @ok _ _ _ _ _ _ ps hp _ ih =>
    cases ps with
    | nil => simp
    | cons q qs =>
      rw [List.dropLast_cons_cons]
      exact List.forall_mem_cons.2 ⟨C01_common_of_returned_packet c _ _ _ _ _ hp, ih⟩
  | _ => simp

/-- the flattening helper `parse_bytes_as_netflow_common_flowsets` is total in the same sense: it is
    the in-order concatenation of the flows of the elements that convert, error elements contribute
    nothing and do not stop it -/
theorem C01_common_flat_total (c : Config) (pkts : List Packet) :
    commonFlat c pkts = (pkts.filterMap (toCommon c)).flatMap (·.flows) ∧
    ∀ k r, commonFlat c (pkts ++ [.error k r]) = commonFlat c pkts := by
  refine ⟨C13_flat c pkts, fun k r => ?_⟩
  simp [commonFlat, toCommon]

/-- every string leaf of the JSON value of every returned element is valid UTF-8 (the one thing a
    `String` serializer relies on), again after any history -/
theorem C01_json_strings_valid (c : Config) (nm : JNames) (hist : List Bytes) (buf : Bytes) (st' : PState)
    (ps : List Packet)
    (hparse : parseBytes c (hist.foldl (fun st b => (parseBytes c st b).1) {}) buf = (st', .done ps)) :
    ∀ p ∈ ps, Leaves (fun _ => True) ValidUtf8 (toJ c nm p) :=
  parseBytes_leaves c nm _ st' buf ps hparse

/-- **C01, "every value it returns can be converted to the common form and serialized to JSON"**, for
    one call after any history of earlier buffers, any configuration: the call returns a list, and for
    every element of it (1) the common view is present unless the element is an error element, which
    only the last one can be, (2) its JSON text is well-formed and reads back as the value. -/
theorem C01_returned_values_convert_and_print (c : Config) (nm : JNames) (hist : List Bytes) (buf : Bytes)
    (isFinite : Nat → Bool) (fmatch : Nat → List Char → Bool) (fp : Nat → List Char)
    (hfp : ∀ bits, isFinite bits = true → fmatch bits (fp bits) = true ∧ numOk (fp bits) = true) :
    ∃ st' ps, parseBytes c (hist.foldl (fun st b => (parseBytes c st b).1) {}) buf = (st', .done ps) ∧
      (∀ p ∈ ps.dropLast, ∃ cm, toCommon c p = some cm) ∧
      (∀ p ∈ ps, (toCommon c p = none ↔ ∃ k r, p = .error k r) ∧
        parseJ (printTree (treeOf isFinite fp decUtf8 (toJ c nm p))) = some (treeOf isFinite fp decUtf8 (toJ c nm p)) ∧
        jmatchT isFinite fmatch (toJ c nm p) (treeOf isFinite fp decUtf8 (toJ c nm p)) = true) := by
  obtain ⟨ps, hps⟩ := C01_returns_after_history c hist buf
  have hparse : parseBytes c (hist.foldl (fun st b => (parseBytes c st b).1) {}) buf =
      ((parseBytes c (hist.foldl (fun st b => (parseBytes c st b).1) {}) buf).1, .done ps) := Prod.ext rfl hps
  refine ⟨_, ps, hparse, (C01_common_only_last_absent c _ _ buf ps hparse).1, fun p hp => ⟨C01_common_total c p, ?_⟩⟩
  exact C16_parse_results_text c nm _ _ buf ps hparse isFinite fmatch fp hfp p hp

/-- a history of two earlier buffers (a V9 template packet, garbage), then the C16 witness buffer plus a
    truncated V5 header: the call returns the V9 packet AND a final error element; the first converts,
    the second does not (evaluated) -/
example :
    let hist : List Bytes := [[0, 9, 0, 1, 0, 0, 0, 1, 0, 0, 0, 2, 0, 0, 0, 3, 0, 0, 0, 4, 0, 0, 0, 12, 1, 0, 0, 1, 0, 1, 0, 3], [1, 2, 3]]
    let st := hist.foldl (fun st b => (parseBytes jsonCfg st b).1) {}
    (parseBytes jsonCfg st (c16bPacketBytes ++ [0, 5, 0, 1])).2 =
      .done [c16bPacket, .error (.partialParse 5 [0, 1]) [0, 5, 0, 1]] ∧
    (toCommon jsonCfg c16bPacket).isSome = true ∧
    toCommon jsonCfg (.error (.partialParse 5 [0, 1]) [0, 5, 0, 1]) = none := by
  decide +kernel

/-- the shape clause evaluated on that V9 packet: one data record, one flow -/
example : (toCommon jsonCfg c16bPacket).map (·.flows.length) = some 1 := by decide +kernel

end Netflow.Props
