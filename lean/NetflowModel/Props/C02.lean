/-
  Props/C02.lean — C02: the list returned by `parse_bytes` is a left-to-right decomposition of
  the buffer (packets whose header-implied wire lengths add up to a prefix, at most one final error
  carrying exactly the unconsumed suffix, a silent stop only in front of a disallowed version).
-/
import NetflowModel.Lemmas.Consume
import NetflowModel.Generated
namespace Netflow.Props
open Netflow Preds

/-- a successful version-specific parse consumes exactly the wire length implied by the decoded
    packet's own header fields (minus the 2-byte version word already consumed) -/
theorem C02_versioned_ok (c : Config) (hf : c.t.framingOk = true) (st st' : PState) (kind : Nat) (body : Bytes)
    (pkt : Packet) (rest : Bytes) (h : parseVersioned c st kind body = (st', .ok pkt rest)) :
    ∃ m, wireLen c pkt = some (2 + m) ∧ m ≤ body.length ∧ rest = body.drop m := by
  obtain ⟨hw9, hwi, _, _⟩ := Tables.framingOk_inv hf
  rcases parseVersioned_ok_inv h with ⟨_, _, hd, rs, hp, rfl⟩ | ⟨_, _, hd, rs, hp, rfl⟩ | ⟨_, hp⟩ | ⟨_, hp⟩
  · obtain ⟨a1, a2, _⟩ := parseFixed_consumes _ _ _ _ _ _ _ hp
    exact ⟨_, by simp only [wireLen]; rw [Nat.add_assoc], a1, a2⟩
  · obtain ⟨a1, a2, _⟩ := parseFixed_consumes _ _ _ _ _ _ _ hp
    exact ⟨_, by simp only [wireLen]; rw [Nat.add_assoc], a1, a2⟩
  · obtain ⟨hd, ss, rfl, a1, a2⟩ := parseV9_consumes c hw9 _ _ _ _ _ hp
    exact ⟨_, by simp only [wireLen]; rw [Nat.add_assoc], a1, a2⟩
  · obtain ⟨hd, ss, rfl, a1, a2⟩ := parseIpfix_consumes c _ _ _ _ _ hp
    refine ⟨_, ?_, a1, a2⟩
    simp only [wireLen]; congr 1; omega

/-- a failing version-specific parse reports `Partial` with the parser's own version number and
    the bytes after the version word, or `UnknownVersion` with those bytes -/
theorem C02_versioned_fail (c : Config) (st st' : PState) (kind : Nat) (body : Bytes) (e : ErrKind)
    (h : parseVersioned c st kind body = (st', .fail e)) :
    e = .partialParse kind body ∨ e = .unknownVersion body := by
  rcases parseVersioned_fail_inv h with ⟨rfl, _, _, e⟩ | ⟨rfl, _, _, e⟩ | ⟨rfl, _, e⟩ | ⟨rfl, _, e⟩ | ⟨_, _, _, _, _, e⟩
  · exact Or.inl e
  · exact Or.inl e
  · exact Or.inl e
  · exact Or.inl e
  · exact Or.inr e

/-- version-specific parsers never report `UnallowedVersion` -/
theorem C02_versioned_not_unallowed (c : Config) (st st' : PState) (kind : Nat) (body : Bytes) :
    parseVersioned c st kind body ≠ (st', .unallowed) :=
  fun h => parseVersioned_ne_unallowed c st kind body (congrArg Prod.snd h)

/-- an accepted packet: its header-implied wire length is what the parser consumed -/
theorem parsePacket_ok_wireLen (c : Config) (hf : c.t.framingOk = true) {st st' : PState} {buf : Bytes}
    {pkt : Packet} {rest : Bytes} (h : parsePacket c st buf = (st', .ok pkt rest)) :
    ∃ n, wireLen c pkt = some n ∧ 0 < n ∧ n ≤ buf.length ∧ rest = buf.drop n := by
  obtain ⟨v, k, hv, _, _, hp⟩ := parsePacket_ok_versioned h
  obtain ⟨m, hw, hm, hr⟩ := C02_versioned_ok c hf _ _ _ _ _ _ hp
  have := (beU_some hv).1
  rw [List.length_drop] at hm
  exact ⟨2 + m, hw, by omega, by omega, by rw [hr, List.drop_drop]⟩

/-- the error a rejected buffer is reported with fits the buffer: `Incomplete` below two bytes, otherwise
    the version word's own version resp. the bytes after it -/
theorem parsePacket_fail_consistent (c : Config) (hf : c.t.framingOk = true) {st st' : PState} {buf : Bytes}
    {e : ErrKind} (h : parsePacket c st buf = (st', .fail e)) : errConsistent buf e = true := by
  obtain ⟨_, _, _, hd⟩ := Tables.framingOk_inv hf
  rcases parsePacket_inv c st st' buf _ h with ⟨hl, _, hs⟩ | ⟨_, _, _, _, hs⟩ | ⟨v, hv, _, _, _, hs⟩ | ⟨v, kind, hv, _, hdk, hpv⟩
  · cases hs; simp [errConsistent, hl]
  · cases hs
  · cases hs
    have := (beU_some hv).1
    simp [errConsistent, this]
  · have hvk : v = kind := hd _ (lookup_mem hdk)
    have hl := (beU_some hv).1
    rcases C02_versioned_fail c _ _ _ _ _ hpv with rfl | rfl
    · simp [errConsistent, versionOf_eq_some.2 hv, hvk]
    · simp [errConsistent, hl]

theorem decomposes_cons {c : Config} {p : Packet} {n : Nat} (hw : wireLen c p = some n) (buf : Bytes)
    (ps : List Packet) :
    decomposes c buf (p :: ps) = (decide (0 < n) && decide (n ≤ buf.length) && decomposes c (buf.drop n) ps) := by
  cases p with
  | error k r => cases hw
  | _ => simp only [decomposes, hw]

/-- **C02** on the trace of a call: what the call returned decomposes the buffer. -/
theorem decomposes_of_run {c : Config} (hf : c.t.framingOk = true) {st st' : PState} {buf : Bytes} {pkts : List Packet}
    (h : Run c st buf st' pkts) : decomposes c buf pkts = true := by
  induction h with
  | nil => rfl
  | ok hp _ ih =>
    obtain ⟨n, hw, h0, hn, rfl⟩ := parsePacket_ok_wireLen c hf hp
    rw [decomposes_cons hw, ih]
    simp [h0, hn]
  | fail hne hp =>
    have he := List.isEmpty_eq_false_iff.2 hne
    simp [Preds.decomposes, he, parsePacket_fail_consistent c hf hp]
  | unallowed hne hp =>
    obtain ⟨_, v, hv, ha⟩ := parsePacket_unallowed_inv hp
    have ha' : v ∉ c.allowed := by simpa using ha
    simp [Preds.decomposes, versionOf_eq_some.2 hv, ha']

/-- **C02** for `parse_bytes` as modelled (fuel `|buf| + 1`), any configuration whose generated
    tables satisfy the framing facts. -/
theorem C02 (c : Config) (hf : c.t.framingOk = true) (st st' : PState) (buf : Bytes) (pkts : List Packet)
    (h : parseBytes c st buf = (st', .done pkts)) : decomposes c buf pkts = true :=
  decomposes_of_run hf (parseBytes_run h)

/-- the framing facts hold for the tables generated from the current Rust source -/
theorem C02_generated_framing : Generated.tables.framingOk = true := by decide +kernel

/-- **C02** instantiated with the generated tables: every allowed set, every cache state, every buffer. -/
theorem C02_generated (allowed : List Nat) (uf : Bool) (st st' : PState) (buf : Bytes) (pkts : List Packet)
    (h : parseBytes { t := Generated.tables, allowed := allowed, unknownFields := uf } st buf = (st', .done pkts)) :
    decomposes { t := Generated.tables, allowed := allowed, unknownFields := uf } buf pkts = true :=
  C02 { t := Generated.tables, allowed := allowed, unknownFields := uf } C02_generated_framing _ _ _ _ h

/-- an empty buffer yields an empty list -/
theorem C02_empty (c : Config) (st : PState) : parseBytes c st [] = (st, .done []) := by
  simp [parseBytes, parseBytesF]


/-- non-vacuity: a concrete buffer (an empty V5 packet followed by one stray byte) on which the
    model returns a packet and a final error, and the decomposition predicate holds. -/
example :
    (parseBytes { t := Generated.tables, allowed := [5, 7, 9, 10] } {}
      [0, 5, 0, 0, 0, 0, 0, 1, 0, 0, 0, 2, 0, 0, 0, 3, 0, 0, 0, 4, 5, 6, 0, 7, 9]).2 =
      .done [.v5 [5, 0, 1, 2, 3, 4, 5, 6, 7] [], .error .incomplete [9]] := by decide +kernel

end Netflow.Props
