/-
  Props/C03.lean — C03: V5 and V7 packets decode exactly per the Cisco fixed layouts.
  A buffer that starts with a complete packet decodes to a header and exactly `count` records, every
  field the big-endian value at its Cisco offset; a shorter buffer is `Partial`, never a packet with
  fewer records.  The symbolic protocol of a record is `ProtocolTypes::from(protocol_number)`, which
  is the IANA name for 252 of the 256 numbers and a WRONG name for 0, 1, 144 and 255: the property
  with names included is refuted (`C03_full_fails`) and proved on the remaining inputs (`_partial`).
-/
import NetflowModel.Lemmas.FixedLayout
import NetflowModel.Props.C02
import NetflowModel.Generated
import NetflowModel.Lemmas.GenTables
namespace Netflow.Props
open Netflow Preds

/-- all decidable side conditions of the decode theorems (layouts are Cisco's, well formed:
    distinct names, version constant first, no other constants, `protocol_type` computed from the
    1-byte `protocol_number` in front of it, `count` is the word at offset 2) hold for the tables
    generated from the current Rust source -/
theorem C03_generated_ciscoOk : Generated.tables.ciscoOk = true := by decide +kernel

/-- field names, widths and order of the four `derive(Nom)` structs are those of the Cisco V5/V7
    export format (the injected `version` constant counted at its declared 2 bytes; the computed
    `protocol_type` occupies no bytes) -/
theorem C03_layouts_are_cisco :
    Spec.layoutWire Generated.v5Hdr = Spec.ciscoV5Hdr ∧ Spec.layoutWire Generated.v5Rec = Spec.ciscoV5Rec ∧
    Spec.layoutWire Generated.v7Hdr = Spec.ciscoV7Hdr ∧ Spec.layoutWire Generated.v7Rec = Spec.ciscoV7Rec :=
  have h5 := fixedLayoutOk_inv (Tables.ciscoOk_fixed C03_generated_ciscoOk .v5)
  have h7 := fixedLayoutOk_inv (Tables.ciscoOk_fixed C03_generated_ciscoOk .v7)
  ⟨h5.2.2.1, h5.2.2.2.1, h7.2.2.1, h7.2.2.2.1⟩

/-- the Cisco sizes: 24-byte headers, 48- and 52-byte records -/
theorem C03_cisco_sizes :
    Spec.totalLen Spec.ciscoV5Hdr = 24 ∧ Spec.totalLen Spec.ciscoV5Rec = 48 ∧
    Spec.totalLen Spec.ciscoV7Hdr = 24 ∧ Spec.totalLen Spec.ciscoV7Rec = 52 := by
  decide

/-- both versions are dispatched to their own parser by the generated `match version` -/
theorem generated_dispatch_fixed (v : FixedV) : Generated.tables.dispatch.lookup v.ver = some v.ver := by
  cases v <;> decide

/-- what `fixedDecodesNP` says record by record: record `k` is decoded from offset
    `|hdrSpec| + |recSpec| * k`, and its symbolic protocol is `proto` of its protocol number -/
theorem C03_records_at (proto : Nat → Nat) (hdrLay recLay : Layout) (hdrSpec recSpec : List (String × Nat))
    (buf : Bytes) (h : List Nat) (rs : List (List Nat))
    (hd : fixedDecodesNP proto hdrLay recLay hdrSpec recSpec buf h rs = true) :
    fieldsAtOffsets hdrLay hdrSpec buf h = true ∧ h.length = hdrLay.length ∧ rs.length = hdrLay.get "count" h ∧
    ∀ (k : Nat) (hk : k < rs.length),
      fieldsAtOffsets recLay recSpec (buf.drop (Spec.totalLen hdrSpec + Spec.totalLen recSpec * k)) rs[k] = true ∧
      recLay.get "protocol_type" rs[k] = proto (recLay.get "protocol_number" rs[k]) ∧
      recLay.get "protocol_number" rs[k] < 256 ∧ rs[k].length = recLay.length := by
  simp only [fixedDecodesNP, Bool.and_eq_true, beq_iff_eq] at hd
  refine ⟨hd.1.1.1, hd.1.1.2, hd.1.2, ?_⟩
  intro k hk
  have := recsAtOffsetsNP_getElem proto recLay recSpec rs _ hd.2 k hk
  rw [List.drop_drop] at this
  exact this

/-- **C03, complete packet of either fixed version** (any configuration whose tables satisfy
    `ciscoOk`): a buffer whose version word is that of `v` (allowed, dispatched to the parser of `v`)
    and that holds at least `H + R * count` bytes — `H`, `R` the Cisco header and record lengths,
    `count` the big-endian word at offset 2 — yields, without touching the template caches, a packet
    with exactly `count` records, every header field and every field of record `k` equal to the
    big-endian value at its Cisco offset (`+ H + R*k`), and the remaining input starts right after
    byte `H + R * count`. -/
theorem C03_decode (c : Config) (hok : c.t.ciscoOk = true) (st : PState) (v : FixedV) (buf body : Bytes)
    (hv : beU 2 buf = some (v.ver, body)) (ha : c.allowed.contains v.ver = true)
    (hd : c.t.dispatch.lookup v.ver = some v.ver) {H R : Nat} (hH : Spec.totalLen v.hdrSpec = H)
    (hR : Spec.totalLen v.recSpec = R) (hlen : H + R * beNat ((buf.drop 2).take 2) ≤ buf.length) :
    ∃ h rs, parsePacket c st buf = (st, .ok (v.mk h rs) (buf.drop (H + R * beNat ((buf.drop 2).take 2)))) ∧
      rs.length = beNat ((buf.drop 2).take 2) ∧
      fixedDecodesNP c.t.protoFromU8 (v.hdrLay c.t) (v.recLay c.t) v.hdrSpec v.recSpec buf h rs = true := by
  obtain ⟨_, hver, rfl⟩ := beU_some hv
  obtain ⟨h, rs, hp, hl, hdec⟩ := fixed_decode c v.ver _ _ _ _ (Tables.ciscoOk_fixed hok v) hH hR buf hver.symm hlen
  exact ⟨h, rs, by rw [parsePacket_fixed st v hv ha hd, hp], hl, hdec⟩

/-- **C03, truncated packet of either fixed version**: fewer than `H` bytes, or fewer than the
    `H + R * count` the header announces, is `Partial` with the bytes after the version word — never
    a packet with fewer or invented records; the caches are untouched. -/
theorem C03_short (c : Config) (hok : c.t.ciscoOk = true) (st : PState) (v : FixedV) (buf body : Bytes)
    (hv : beU 2 buf = some (v.ver, body)) (ha : c.allowed.contains v.ver = true)
    (hd : c.t.dispatch.lookup v.ver = some v.ver) {H R : Nat} (hH : Spec.totalLen v.hdrSpec = H)
    (hR : Spec.totalLen v.recSpec = R)
    (hshort : buf.length < H ∨ buf.length < H + R * beNat ((buf.drop 2).take 2)) :
    parsePacket c st buf = (st, .fail (.partialParse v.ver (buf.drop 2))) := by
  obtain ⟨hl2, hver, rfl⟩ := beU_some hv
  rw [parsePacket_fixed st v hv ha hd,
    fixed_short c v.ver _ _ _ _ (Tables.ciscoOk_fixed hok v) hH hR buf hl2 hver.symm hshort]

/-- **C03, complete V5 packet**: `C03_decode` with the Cisco sizes 24 and 48. -/
theorem C03_decode_v5 (c : Config) (hok : c.t.ciscoOk = true) (st : PState) (buf body : Bytes)
    (hv : beU 2 buf = some (5, body)) (ha : c.allowed.contains 5 = true) (hd : c.t.dispatch.lookup 5 = some 5)
    (hlen : 24 + 48 * beNat ((buf.drop 2).take 2) ≤ buf.length) :
    ∃ h rs, parsePacket c st buf = (st, .ok (.v5 h rs) (buf.drop (24 + 48 * beNat ((buf.drop 2).take 2)))) ∧
      rs.length = beNat ((buf.drop 2).take 2) ∧
      fixedDecodesNP c.t.protoFromU8 c.t.v5Hdr c.t.v5Rec Spec.ciscoV5Hdr Spec.ciscoV5Rec buf h rs = true :=
  C03_decode c hok st .v5 buf body hv ha hd C03_cisco_sizes.1 C03_cisco_sizes.2.1 hlen

/-- **C03, truncated V5 packet**. -/
theorem C03_short_v5 (c : Config) (hok : c.t.ciscoOk = true) (st : PState) (buf body : Bytes)
    (hv : beU 2 buf = some (5, body)) (ha : c.allowed.contains 5 = true) (hd : c.t.dispatch.lookup 5 = some 5)
    (hshort : buf.length < 24 ∨ buf.length < 24 + 48 * beNat ((buf.drop 2).take 2)) :
    parsePacket c st buf = (st, .fail (.partialParse 5 (buf.drop 2))) :=
  C03_short c hok st .v5 buf body hv ha hd C03_cisco_sizes.1 C03_cisco_sizes.2.1 hshort

/-- **C03, truncated V7 packet**. -/
theorem C03_short_v7 (c : Config) (hok : c.t.ciscoOk = true) (st : PState) (buf body : Bytes)
    (hv : beU 2 buf = some (7, body)) (ha : c.allowed.contains 7 = true) (hd : c.t.dispatch.lookup 7 = some 7)
    (hshort : buf.length < 24 ∨ buf.length < 24 + 52 * beNat ((buf.drop 2).take 2)) :
    parsePacket c st buf = (st, .fail (.partialParse 7 (buf.drop 2))) :=
  C03_short c hok st .v7 buf body hv ha hd C03_cisco_sizes.2.2.1 C03_cisco_sizes.2.2.2 hshort

/-- **protocol names, 252 of 256 numbers**: `ProtocolTypes::from(n)` is the variant named by IANA for
    protocol number `n`.  PARTIAL: the full statement (all 256 numbers) is false, see the four
    `C03_protoName_fails_*` theorems — numbers 0, 1, 144 and 255 are excluded. -/
theorem C03_protoName_iana_partial (n : Nat) (hn : n < 256) (hb : n ∉ [0, 1, 144, 255]) :
    Generated.protoNames.lookup (Generated.tables.protoFromU8 n) = some (Spec.ianaName n) := by
  rw [protoFromU8_generated hb]
  exact protoNames_lookup_ianaDisc n

/-- non-vacuity of `C03_protoName_iana_partial`: TCP, UDP, ICMPv6 -/
example : (6 < 256 ∧ 6 ∉ [0, 1, 144, 255]) ∧ (17 < 256 ∧ 17 ∉ [0, 1, 144, 255]) ∧ Spec.ianaName 6 = "Tcp" ∧
    Spec.ianaName 17 = "Udp" ∧ Spec.ianaName 58 = "Ipv6Icmp" := by decide

/-- protocol number 0 (HOPOPT) is named `Unknown` -/
theorem C03_protoName_fails_0 :
    Generated.protoNames.lookup (Generated.tables.protoFromU8 0) = some "Unknown" ∧ Spec.ianaName 0 = "Hopopt" := by
  decide

/-- protocol number 1 (ICMP) is named `Hopopt` -/
theorem C03_protoName_fails_1 :
    Generated.protoNames.lookup (Generated.tables.protoFromU8 1) = some "Hopopt" ∧ Spec.ianaName 1 = "Icmp" := by
  decide

/-- protocol number 144 (AGGFRAG) is named `Reserved` -/
theorem C03_protoName_fails_144 :
    Generated.protoNames.lookup (Generated.tables.protoFromU8 144) = some "Reserved" ∧ Spec.ianaName 144 = "Aggfrag" := by
  decide

/-- protocol number 255 (Reserved) is named `Unknown` -/
theorem C03_protoName_fails_255 :
    Generated.protoNames.lookup (Generated.tables.protoFromU8 255) = some "Unknown" ∧ Spec.ianaName 255 = "Reserved" := by
  decide

/-- the enum's declared discriminants (what the V9/IPFIX `ProtocolType` decoder uses) ARE the IANA
    numbers: variant `d ≤ 144` is the IANA name of `d`, 145 is `Unknown`, 255 is `Reserved` — the defect
    is only in the hand-written `From<u8>` arms -/
theorem C03_discriminants_are_iana :
    (∀ p ∈ Generated.protoNames, p.1 ≤ 144 → p.2 = Spec.ianaName p.1) ∧
    Generated.protoNames.lookup 145 = some "Unknown" ∧ Generated.protoNames.lookup 255 = some "Reserved" ∧
    Generated.protoNames.map (·.1) = Generated.protoDiscs := by
  refine ⟨fun p hp h => ?_, by decide +kernel, by decide +kernel, by decide +kernel⟩
  have h1 := lookup_of_mem protoNames_keys_nodup (n := p.1) (v := p.2) hp
  have h2 := protoNames_lookup_ianaDisc p.1
  rw [ianaDisc, if_pos (Or.inl h)] at h2
  exact Option.some.inj (h1.symm.trans h2)

/-- byte 38 of a V5/V7 record is its protocol number -/
theorem protocol_number_at (v : FixedV) :
    ("protocol_number", 1) ∈ v.recSpec ∧ Spec.offsetOf v.recSpec "protocol_number" = 38 := by
  cases v <;> decide

/-- **C03 with protocol names** (the oracle predicate `Preds.fixedDecodes`), either fixed version.
    PARTIAL: needs a name table `names` that is right outside a set `bad` of numbers, and that no
    record of the packet carries a protocol number in `bad` (for the generated tables:
    `bad = [0, 1, 144, 255]`).  The hypothesis on the records is stated on the INPUT bytes (byte 38
    of each record). -/
theorem C03_decode_partial (c : Config) (hok : c.t.ciscoOk = true) (names : List (Nat × String)) (bad : List Nat)
    (hnames : ∀ n, n < 256 → n ∉ bad → names.lookup (c.t.protoFromU8 n) = some (Spec.ianaName n))
    (st : PState) (v : FixedV) (buf body : Bytes)
    (hv : beU 2 buf = some (v.ver, body)) (ha : c.allowed.contains v.ver = true)
    (hd : c.t.dispatch.lookup v.ver = some v.ver) {H R : Nat} (hH : Spec.totalLen v.hdrSpec = H)
    (hR : Spec.totalLen v.recSpec = R) (hlen : H + R * beNat ((buf.drop 2).take 2) ≤ buf.length)
    (hgood : ∀ k, k < beNat ((buf.drop 2).take 2) → beNat ((buf.drop (H + R * k + 38)).take 1) ∉ bad) :
    ∃ h rs, parsePacket c st buf = (st, .ok (v.mk h rs) (buf.drop (H + R * beNat ((buf.drop 2).take 2)))) ∧
      fixedDecodes names (v.hdrLay c.t) (v.recLay c.t) v.hdrSpec v.recSpec buf h rs = true := by
  obtain ⟨h, rs, hp, hl, hdec⟩ := C03_decode c hok st v buf body hv ha hd hH hR hlen
  refine ⟨h, rs, hp, fixedDecodes_of_NP names _ _ _ _ _ buf h rs hdec ?_⟩
  intro r hr
  obtain ⟨k, hk, rfl⟩ := List.getElem_of_mem hr
  obtain ⟨hf, hpt, hpn, _⟩ := (C03_records_at _ _ _ _ _ _ _ _ hdec).2.2.2 k hk
  have hnum := List.all_eq_true.mp hf _ (protocol_number_at v).1
  rw [beq_iff_eq, (protocol_number_at v).2, hH, hR, List.drop_drop] at hnum
  have hg := hgood k (by omega)
  rw [← hnum] at hg
  rw [protoIsIana, hpt, beq_iff_eq]
  exact hnames _ hpn hg

/-- the configuration the crate builds from the generated tables -/
abbrev genCfg (allowed : List Nat) (uf : Bool := true) : Config :=
  { t := Generated.tables, allowed := allowed, unknownFields := uf }

/-- **C03 (V5) for the generated tables**, every allowed set containing 5, every cache state, every buffer:
    complete packets decode per Cisco (`fixedDecodesNP`: all fields at their offsets, `count` records,
    `protocol_type = ProtocolTypes::from(protocol_number)`), truncated ones are `Partial`. -/
theorem C03_generated_v5 (allowed : List Nat) (uf : Bool) (h5 : 5 ∈ allowed) (st : PState) (buf body : Bytes)
    (hv : beU 2 buf = some (5, body)) :
    (24 + 48 * beNat ((buf.drop 2).take 2) ≤ buf.length →
      ∃ h rs, parsePacket (genCfg allowed uf) st buf =
          (st, .ok (.v5 h rs) (buf.drop (24 + 48 * beNat ((buf.drop 2).take 2)))) ∧
        rs.length = beNat ((buf.drop 2).take 2) ∧
        fixedDecodesNP Generated.tables.protoFromU8 Generated.v5Hdr Generated.v5Rec Spec.ciscoV5Hdr Spec.ciscoV5Rec
          buf h rs = true) ∧
    (buf.length < 24 + 48 * beNat ((buf.drop 2).take 2) →
      parsePacket (genCfg allowed uf) st buf = (st, .fail (.partialParse 5 (buf.drop 2)))) :=
  have ha : (genCfg allowed uf).allowed.contains 5 = true := List.contains_iff_mem.mpr h5
  ⟨C03_decode_v5 (genCfg allowed uf) C03_generated_ciscoOk st buf body hv ha (generated_dispatch_fixed .v5),
    fun hs => C03_short_v5 (genCfg allowed uf) C03_generated_ciscoOk st buf body hv ha (generated_dispatch_fixed .v5)
      (Or.inr hs)⟩

/-- **C03 (V7) for the generated tables**. -/
theorem C03_generated_v7 (allowed : List Nat) (uf : Bool) (h7 : 7 ∈ allowed) (st : PState) (buf body : Bytes)
    (hv : beU 2 buf = some (7, body)) :
    (24 + 52 * beNat ((buf.drop 2).take 2) ≤ buf.length →
      ∃ h rs, parsePacket (genCfg allowed uf) st buf =
          (st, .ok (.v7 h rs) (buf.drop (24 + 52 * beNat ((buf.drop 2).take 2)))) ∧
        rs.length = beNat ((buf.drop 2).take 2) ∧
        fixedDecodesNP Generated.tables.protoFromU8 Generated.v7Hdr Generated.v7Rec Spec.ciscoV7Hdr Spec.ciscoV7Rec
          buf h rs = true) ∧
    (buf.length < 24 + 52 * beNat ((buf.drop 2).take 2) →
      parsePacket (genCfg allowed uf) st buf = (st, .fail (.partialParse 7 (buf.drop 2)))) :=
  have ha : (genCfg allowed uf).allowed.contains 7 = true := List.contains_iff_mem.mpr h7
  ⟨C03_decode (genCfg allowed uf) C03_generated_ciscoOk st .v7 buf body hv ha (generated_dispatch_fixed .v7)
      C03_cisco_sizes.2.2.1 C03_cisco_sizes.2.2.2,
    fun hs => C03_short_v7 (genCfg allowed uf) C03_generated_ciscoOk st buf body hv ha (generated_dispatch_fixed .v7)
      (Or.inr hs)⟩

/-- **C03 with IANA protocol names for the generated tables** (the oracle predicate
    `Preds.fixedDecodes Generated.protoNames`), V5.  PARTIAL: no record may carry protocol number
    0, 1, 144 or 255 (byte 38 of the record). -/
theorem C03_generated_v5_partial (allowed : List Nat) (uf : Bool) (h5 : 5 ∈ allowed) (st : PState) (buf body : Bytes)
    (hv : beU 2 buf = some (5, body)) (hlen : 24 + 48 * beNat ((buf.drop 2).take 2) ≤ buf.length)
    (hgood : ∀ k, k < beNat ((buf.drop 2).take 2) → beNat ((buf.drop (24 + 48 * k + 38)).take 1) ∉ [0, 1, 144, 255]) :
    ∃ h rs, parsePacket (genCfg allowed uf) st buf =
        (st, .ok (.v5 h rs) (buf.drop (24 + 48 * beNat ((buf.drop 2).take 2)))) ∧
      fixedDecodes Generated.protoNames Generated.v5Hdr Generated.v5Rec Spec.ciscoV5Hdr Spec.ciscoV5Rec buf h rs = true :=
  C03_decode_partial (genCfg allowed uf) C03_generated_ciscoOk Generated.protoNames [0, 1, 144, 255]
    C03_protoName_iana_partial st .v5 buf body hv (List.contains_iff_mem.mpr h5) (generated_dispatch_fixed .v5)
    C03_cisco_sizes.1 C03_cisco_sizes.2.1 hlen hgood

/-- **C03 with IANA protocol names for the generated tables**, V7.  PARTIAL as above. -/
theorem C03_generated_v7_partial (allowed : List Nat) (uf : Bool) (h7 : 7 ∈ allowed) (st : PState) (buf body : Bytes)
    (hv : beU 2 buf = some (7, body)) (hlen : 24 + 52 * beNat ((buf.drop 2).take 2) ≤ buf.length)
    (hgood : ∀ k, k < beNat ((buf.drop 2).take 2) → beNat ((buf.drop (24 + 52 * k + 38)).take 1) ∉ [0, 1, 144, 255]) :
    ∃ h rs, parsePacket (genCfg allowed uf) st buf =
        (st, .ok (.v7 h rs) (buf.drop (24 + 52 * beNat ((buf.drop 2).take 2)))) ∧
      fixedDecodes Generated.protoNames Generated.v7Hdr Generated.v7Rec Spec.ciscoV7Hdr Spec.ciscoV7Rec buf h rs = true :=
  C03_decode_partial (genCfg allowed uf) C03_generated_ciscoOk Generated.protoNames [0, 1, 144, 255]
    C03_protoName_iana_partial st .v7 buf body hv (List.contains_iff_mem.mpr h7) (generated_dispatch_fixed .v7)
    C03_cisco_sizes.2.2.1 C03_cisco_sizes.2.2.2 hlen hgood

/-- a V5 packet with one record: src 10.0.0.1 → dst 10.0.0.2, protocol number `p`, distinct values in
    every field -/
def v5Sample (p : UInt8) : Bytes :=
  [0, 5, 0, 1, 0, 0, 0, 1, 0, 0, 0, 2, 0, 0, 0, 3, 0, 0, 0, 4, 5, 6, 0, 7,
   10, 0, 0, 1, 10, 0, 0, 2, 10, 0, 0, 254, 0, 11, 0, 12, 0, 0, 0, 13, 0, 0, 0, 14, 0, 0, 0, 15, 0, 0, 0, 16,
   0x12, 0x34, 0xfe, 0xdc, 17, 18, p, 19, 0, 20, 0, 21, 22, 23, 0, 24]

/-- **C03 as stated** (model, generated tables, V5 half): every V5 packet returned by
    `parse_packet_by_version` satisfies the oracle predicate `fixedDecodes`, protocol NAMES included. -/
def C03_full : Prop :=
  ∀ (allowed : List Nat) (st st' : PState) (buf : Bytes) (h : List Nat) (rs : List (List Nat)) (rest : Bytes),
    parsePacket (genCfg allowed) st buf = (st', .ok (.v5 h rs) rest) →
    fixedDecodes Generated.protoNames Generated.v5Hdr Generated.v5Rec Spec.ciscoV5Hdr Spec.ciscoV5Rec buf h rs = true

/-- the sample packet with protocol number 1 (ICMP) decodes, every field from its Cisco offset … -/
theorem C03_sample_decodes :
    parsePacket (genCfg [5]) {} (v5Sample 1) =
      ({}, .ok (.v5 [5, 1, 1, 2, 3, 4, 5, 6, 7]
        [[0x0a000001, 0x0a000002, 0x0a0000fe, 11, 12, 13, 14, 15, 16, 0x1234, 0xfedc, 17, 18, 1, 0, 19, 20, 21, 22, 23, 24]]) []) := by
  decide +kernel

/-- … but its symbolic protocol is discriminant 0 = `Hopopt`, not `Icmp`: **C03 as stated is false of
    the model** (and of the crate: the snapshot test pins `protocol_type: Hopopt`-style names).
    Witnesses for the other three numbers: `C03_protoName_fails_0/_144/_255`. -/
theorem C03_full_fails : ¬ C03_full := by
  intro hfull
  have := hfull [5] {} {} (v5Sample 1) _ _ _ C03_sample_decodes
  revert this
  decide +kernel

/-- non-vacuity of `C03_decode_v5` / `C03_generated_v5_partial`: the sample with protocol 6 meets every
    hypothesis (version word 5, 72 = 24 + 48·1 bytes, protocol byte 6 ∉ {0,1,144,255}) … -/
example : beU 2 (v5Sample 6) = some (5, (v5Sample 6).drop 2) ∧
    24 + 48 * beNat (((v5Sample 6).drop 2).take 2) ≤ (v5Sample 6).length ∧
    (∀ k, k < beNat (((v5Sample 6).drop 2).take 2) →
      beNat (((v5Sample 6).drop (24 + 48 * k + 38)).take 1) ∉ [0, 1, 144, 255]) := by
  refine ⟨by decide, by decide, ?_⟩
  intro k hk
  have h1 : beNat (((v5Sample 6).drop 2).take 2) = 1 := by decide
  have : k = 0 := by omega
  subst this
  decide

/-- … and the oracle predicate evaluates to `true` on its decoding (protocol 6 = `Tcp`) -/
example :
    fixedDecodes Generated.protoNames Generated.v5Hdr Generated.v5Rec Spec.ciscoV5Hdr Spec.ciscoV5Rec (v5Sample 6)
      [5, 1, 1, 2, 3, 4, 5, 6, 7]
      [[0x0a000001, 0x0a000002, 0x0a0000fe, 11, 12, 13, 14, 15, 16, 0x1234, 0xfedc, 17, 18, 6, 6, 19, 20, 21, 22, 23, 24]] = true := by
  decide +kernel

/-- non-vacuity of `C03_short_v5`: the sample cut after 71 bytes is `Partial` -/
example : parsePacket (genCfg [5]) {} ((v5Sample 6).take 71) = ({}, .fail (.partialParse 5 (((v5Sample 6).take 71).drop 2))) := by
  decide +kernel

/-- a V7 packet with two records (UDP, GRE) -/
def v7Sample : Bytes :=
  [0, 7, 0, 2, 0, 0, 0, 1, 0, 0, 0, 2, 0, 0, 0, 3, 0, 0, 0, 4, 0, 0, 0, 0] ++
  [10, 0, 0, 1, 10, 0, 0, 2, 10, 0, 0, 254, 0, 11, 0, 12, 0, 0, 0, 13, 0, 0, 0, 14, 0, 0, 0, 15, 0, 0, 0, 16,
   0x12, 0x34, 0xfe, 0xdc, 17, 18, 17, 19, 0, 20, 0, 21, 22, 23, 0, 24, 192, 168, 0, 1] ++
  [10, 0, 0, 3, 10, 0, 0, 4, 10, 0, 0, 253, 0, 31, 0, 32, 0, 0, 0, 33, 0, 0, 0, 34, 0, 0, 0, 35, 0, 0, 0, 36,
   0xab, 0xcd, 0x00, 0x35, 37, 38, 47, 39, 0, 40, 0, 41, 42, 43, 0, 44, 192, 168, 0, 2]

/-- non-vacuity of `C03_decode` / `C03_generated_v7_partial`: hypotheses hold for `v7Sample ++ [1, 2, 3]`,
    the model returns two records and the three trailing bytes, and the oracle predicate is `true` -/
example :
    beU 2 (v7Sample ++ [1, 2, 3]) = some (7, (v7Sample ++ [1, 2, 3]).drop 2) ∧
    24 + 52 * beNat (((v7Sample ++ [1, 2, 3]).drop 2).take 2) ≤ (v7Sample ++ [1, 2, 3]).length ∧
    (match parsePacket (genCfg [7]) {} (v7Sample ++ [1, 2, 3]) with
     | (_, .ok (.v7 h rs) rest) =>
       rs.length == 2 && rest == [1, 2, 3] &&
       fixedDecodes Generated.protoNames Generated.v7Hdr Generated.v7Rec Spec.ciscoV7Hdr Spec.ciscoV7Rec
         (v7Sample ++ [1, 2, 3]) h rs
     | _ => false) = true := by
  decide +kernel

/-- non-vacuity of `C03_short_v7`: one byte short of the second record is `Partial`, not a
    one-record packet -/
example : parsePacket (genCfg [7]) {} (v7Sample.take 127) = ({}, .fail (.partialParse 7 ((v7Sample.take 127).drop 2))) := by
  decide +kernel

/-- **C03 along a whole run, in the oracle's vocabulary** (every trace of the parse loop, every
    fuel `n` of the predicate).  PARTIAL: the hypothesis `protoNamesOkPkts` (every decoded V5/V7 record
    has the IANA name of its number) is needed because the crate's `From<u8>` table is wrong for
    0, 1, 144 and 255; everything else `c03ok` checks — offsets, record counts, packet boundaries,
    truncation ⇒ error — holds unconditionally. -/
theorem C03_run_partial (c : Config) (hok : c.t.ciscoOk = true) (hf : c.t.framingOk = true)
    (hd5 : c.t.dispatch.lookup 5 = some 5) (hd7 : c.t.dispatch.lookup 7 = some 7) (names : List (Nat × String))
    {st st' : PState} {buf : Bytes} {pkts : List Packet} (h : Run c st buf st' pkts) :
    protoNamesOkPkts c names pkts = true → ∀ n, c03ok c names n buf pkts = true := by
  have hdw : ∀ w : FixedV, c.t.dispatch.lookup w.ver = some w.ver := fun w => by cases w <;> assumption
  -- a dispatched version word that is not a fixed-format one is neither 5 nor 7
  have hne : ∀ v, (¬ ∃ w : FixedV, v = w.ver) → v ≠ 5 ∧ v ≠ 7 := fun v hfx => ⟨fun e => hfx ⟨.v5, e⟩, fun e => hfx ⟨.v7, e⟩⟩
  induction h with
  | nil st => intro _ n; exact c03ok_of_no_version c names n [] [] rfl
  | @ok st st1 st' buf rest pkt ps hp _ ih =>
    intro hnm n
    cases n with
    | zero => rfl
    | succ n =>
    obtain ⟨v, kind, hv, ha, hdk, hpv⟩ := parsePacket_ok_versioned hp
    have hvo : versionOf buf = some v := by simp [versionOf, hv]
    have hrest := ih (protoNamesOkPkts_tail hnm) n
    by_cases hfx : ∃ w : FixedV, v = w.ver
    · obtain ⟨w, rfl⟩ := hfx
      by_cases hlen : Spec.totalLen w.hdrSpec + Spec.totalLen w.recSpec * beNat ((buf.drop 2).take 2) ≤ buf.length
      · obtain ⟨hh, rs, hpp, _, hdec⟩ := C03_decode c hok st w buf _ hv ha (hdw w) rfl rfl hlen
        rw [hp] at hpp
        cases hpp
        rw [c03ok_fixed_complete c names n w buf hh rs ps hvo ha rfl rfl hlen, hrest, Bool.and_true]
        exact fixedDecodes_of_NP names _ _ _ _ _ buf hh rs hdec (protoNamesOkPkts_fixed w hnm).1
      · have := C03_short c hok st w buf _ hv ha (hdw w) rfl rfl (Or.inr (by omega))
        rw [hp] at this
        cases this
    · obtain ⟨m, hw, _, hr⟩ := C02_versioned_ok c hf _ _ _ _ _ _ hpv
      rw [hr, List.drop_drop] at hrest
      rw [c03ok_other c names n buf v _ hvo ha (hne v hfx).1 (hne v hfx).2]
      simp [hw, hrest]
  | @fail st st' buf e _ hp =>
    intro _ n
    cases n with
    | zero => rfl
    | succ n =>
    rcases parsePacket_inv c st st' buf _ hp with ⟨hl, _, _⟩ | ⟨_, _, _, _, hs⟩ | ⟨v, hv, ha, hdn, _, _⟩ | ⟨v, kind, hv, ha, hdk, hpv⟩
    · exact c03ok_of_no_version c names _ _ _ (by simp [versionOf, beU, Nat.not_le.mpr hl])
    · cases hs
    · have hfx : ¬ ∃ w : FixedV, v = w.ver := fun ⟨w, e⟩ => by rw [e, hdw w] at hdn; cases hdn
      rw [c03ok_other c names n buf v _ (by simp [versionOf, hv]) ha (hne v hfx).1 (hne v hfx).2]
      simp [wireLen]
    · have hvo : versionOf buf = some v := by simp [versionOf, hv]
      by_cases hfx : ∃ w : FixedV, v = w.ver
      · obtain ⟨w, rfl⟩ := hfx
        by_cases hlen : Spec.totalLen w.hdrSpec + Spec.totalLen w.recSpec * beNat ((buf.drop 2).take 2) ≤ buf.length
        · obtain ⟨_, _, hpp, _⟩ := C03_decode c hok st w buf _ hv ha (hdw w) rfl rfl hlen
          rw [hp] at hpp
          cases hpp
        · exact c03ok_fixed_short c names n w buf _ _ hvo ha rfl rfl (Or.inr (by omega))
      · rw [c03ok_other c names n buf v _ hvo ha (hne v hfx).1 (hne v hfx).2]
        simp [wireLen]
  | @unallowed st st' buf _ hp =>
    intro _ n
    cases n with
    | zero => rfl
    | succ n =>
    obtain ⟨_, v, hv, ha⟩ := parsePacket_unallowed_inv hp
    simp only [c03ok, versionOf, hv, ha]
    rfl

/-- **C03 for `parse_bytes` as modelled** (fuel `|buf| + 1`), in the oracle's vocabulary.  PARTIAL: see
    `C03_run_partial`. -/
theorem C03_stream_partial (c : Config) (hok : c.t.ciscoOk = true) (hf : c.t.framingOk = true)
    (hd5 : c.t.dispatch.lookup 5 = some 5) (hd7 : c.t.dispatch.lookup 7 = some 7) (names : List (Nat × String))
    (n : Nat) (st st' : PState) (buf : Bytes) (pkts : List Packet)
    (h : parseBytes c st buf = (st', .done pkts)) (hnm : protoNamesOkPkts c names pkts = true) :
    c03ok c names n buf pkts = true :=
  C03_run_partial c hok hf hd5 hd7 names (parseBytes_run h) hnm n

/-- **C03 along a run for the generated tables**: every allowed set, cache state, buffer and predicate
    fuel.  PARTIAL: only results in which some V5/V7 record has protocol number 0, 1, 144 or 255
    (`protoNamesOkPkts … = false`) can violate the oracle predicate — cf. `C03_c03ok_fails`. -/
theorem C03_generated_stream_partial (allowed : List Nat) (uf : Bool) (n : Nat) (st st' : PState) (buf : Bytes)
    (pkts : List Packet) (h : parseBytes (genCfg allowed uf) st buf = (st', .done pkts))
    (hnm : protoNamesOkPkts (genCfg allowed uf) Generated.protoNames pkts = true) :
    c03ok (genCfg allowed uf) Generated.protoNames n buf pkts = true :=
  C03_stream_partial (genCfg allowed uf) C03_generated_ciscoOk C02_generated_framing
    (generated_dispatch_fixed .v5) (generated_dispatch_fixed .v7) Generated.protoNames n st st' buf pkts h hnm

/-- non-vacuity: two V5 packets (TCP, UDP) and a stray byte — the hypotheses hold and the oracle
    predicate evaluates to `true` -/
example :
    let buf := v5Sample 6 ++ v5Sample 17 ++ [9]
    let pkts := match (parseBytes (genCfg [5, 7, 9, 10]) {} buf).2 with | .done ps => ps | _ => []
    (pkts.length == 3 && protoNamesOkPkts (genCfg [5, 7, 9, 10]) Generated.protoNames pkts &&
      c03ok (genCfg [5, 7, 9, 10]) Generated.protoNames (buf.length + 1) buf pkts) = true := by
  decide +kernel

/-- the oracle predicate is `false` on the model's own output for the ICMP sample: the defect
    `C03_protoName_fails_1` as the check sees it -/
theorem C03_c03ok_fails :
    (parseBytes (genCfg [5]) {} (v5Sample 1)).2 =
      .done [.v5 [5, 1, 1, 2, 3, 4, 5, 6, 7]
        [[0x0a000001, 0x0a000002, 0x0a0000fe, 11, 12, 13, 14, 15, 16, 0x1234, 0xfedc, 17, 18, 1, 0, 19, 20, 21, 22, 23, 24]]] ∧
    c03ok (genCfg [5]) Generated.protoNames 73 (v5Sample 1)
      [.v5 [5, 1, 1, 2, 3, 4, 5, 6, 7]
        [[0x0a000001, 0x0a000002, 0x0a0000fe, 11, 12, 13, 14, 15, 16, 0x1234, 0xfedc, 17, 18, 1, 0, 19, 20, 21, 22, 23, 24]]] = false := by
  exact ⟨congrArg Prod.snd (parseBytes_done_iff.mpr (.ok C03_sample_decodes (.nil _))), by decide +kernel⟩

end Netflow.Props

