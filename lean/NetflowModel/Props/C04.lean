/-
  Props/C04.lean — property C04: "V9 flowsets decode record by record exactly as the governing
  template says", as a PRINT-THEN-PARSE theorem: writing an abstract V9 message with the RFC 3954
  writer `Spec.encV9` and parsing the bytes with the model of the crate gives the packet that
  `Spec.expMsg` expects, and the parser's template caches keep representing the exporter's memory.
  The full-strength statement `C04_full` is FALSE of the model (protocol numbers 146..254: known crate
  defect); `C04_partial` proves it under the decidable conformance conditions `C04Conformant`, and the
  `C04_*_fails` theorems are concrete witnesses that the conditions are needed.
-/
import NetflowModel.Lemmas.V9Witness
import NetflowModel.Lemmas.RfcCount
import NetflowModel.Lemmas.G1Arms
namespace Netflow.Props
open Netflow Netflow.Spec

/-- C04, full strength, for the generated tables (any allowed-version list containing 9, either
    setting of `parse_unknown_fields`): for every exporter-side template memory `d`, every parser
    state representing it, every V9 message for which the specification expects a packet `p` (the
    `.inexpressible` case, options data with ≥ 2 records, is excluded by the `.pkt` premise) and every
    trailing input `rest`, the parser returns exactly `p`, leaves exactly `rest`, and its caches
    represent the updated memory. -/
def C04_full : Prop :=
  ∀ (allowed : List Nat) (uf : Bool), allowed.contains 9 = true →
  ∀ (d d' : Defs) (st : PState) (m : V9Msg) (p : Packet) (rest : Bytes),
    Repr9 d.v9 st →
    expMsg { t := Generated.tables, allowed := allowed, unknownFields := uf } Generated.protoNames d (.v9 m) = some (d', .pkt p) →
    ∃ st', parsePacket { t := Generated.tables, allowed := allowed, unknownFields := uf } st (encV9 m ++ rest) = (st', .ok p rest) ∧
      Repr9 d'.v9 st'

/-- Conformance conditions that `Spec.expMsg` does not impose but the round trip needs
    (all decidable): header numbers fit their wire widths, and per flowset `setConf`
    (see Lemmas/V9Frame.lean): bodies fit the 16-bit length, template records well formed,
    template padding not parseable as a record (true for 0..3 bytes), data flowset ids ≥ 2 and
    < 65536, per-field conditions `fieldOk` (protocol number where discriminant parse = IANA variant,
    8/16-byte signed values fit 32 bits, unknown field types only with `parse_unknown_fields`),
    options templates decodable (`optDataOk`: known scope types, no zero-length field). -/
def C04Conformant (c : Config) (names : List (Nat × String)) (d : List (Nat × V9Def)) (m : V9Msg) : Bool :=
  decide (m.count < 65536) && decide (m.sysUpTime < 4294967296) && decide (m.unixSecs < 4294967296) &&
  decide (m.seq < 4294967296) && decide (m.sourceId < 4294967296) && setsConf c names d m.sets

/-- inversion of `expMsg` on a V9 message that yields a packet -/
theorem expMsg_v9_inv {c : Config} {names : List (Nat × String)} {D D1 : Defs} {m : V9Msg} {p : Packet}
    (h : expMsg c names D (.v9 m) = some (D1, .pkt p)) :
    ∃ outs, m.count = m.sets.length ∧ expV9Sets c names D.v9 m.sets = some (D1.v9, some outs) ∧
      p = .v9 [9, m.count, m.sysUpTime, m.unixSecs, m.seq, m.sourceId] outs ∧ D1.ip = D.ip := by
  simp only [expMsg] at h
  by_cases hc : m.count = m.sets.length
  · simp only [hc, ne_eq, not_true_eq_false, ↓reduceIte] at h
    cases he : expV9Sets c names D.v9 m.sets with
    | none => simp [he] at h
    | some r =>
      obtain ⟨d2, o⟩ := r
      cases o with
      | none => simp [he] at h
      | some outs =>
        simp only [he, Option.some.injEq, Prod.mk.injEq, Exp.pkt.injEq] at h
        obtain ⟨rfl, rfl⟩ := h
        exact ⟨outs, hc, rfl, by rw [hc], rfl⟩
  · simp [hc] at h

/-- `parse_bytes`' packet step on a written V9 message, for a header count that is the number of
    flowsets (then any bytes may follow) or exceeds it (then the packet must end the buffer: the
    flowset loop runs `count` times and skips an iteration only on exhausted input). -/
theorem C04_parsePacket_enc (c : Config) (names : List (Nat × String)) (harms : DnArmsOk c.t.dnArms) (hl : V9LayoutOk c.t)
    (hallow : c.allowed.contains 9 = true)
    (d d2 : List (Nat × V9Def)) (st : PState) (m : V9Msg) (outs : List V9Set) (rest : Bytes)
    (hR : Repr9 d st) (hcount : m.count = m.sets.length ∨ m.sets.length ≤ m.count ∧ rest = [])
    (hexp : expV9Sets c names d m.sets = some (d2, some outs))
    (hconf : C04Conformant c names d m = true) :
    ∃ st', parsePacket c st (encV9 m ++ rest) =
        (st', .ok (.v9 [9, m.count, m.sysUpTime, m.unixSecs, m.seq, m.sourceId] outs) rest) ∧ Repr9 d2 st' := by
  simp only [C04Conformant, Bool.and_eq_true, decide_eq_true_eq] at hconf
  obtain ⟨⟨⟨⟨⟨h1, h2⟩, h3⟩, h4⟩, h5⟩, hs⟩ := hconf
  have hsets : ∃ st', v9ParseSets c m.count st (m.sets.flatMap encV9FS ++ rest) = (st', .ok (outs, rest)) ∧
      Repr9 d2 st' := by
    rcases hcount with he | ⟨hle, rfl⟩
    · rw [he]; exact v9ParseSets_enc c names harms hl m.sets d d2 st outs rest hR hexp hs
    · rw [List.append_nil]; exact P3.v9ParseSets_enc_le c names harms hl m.sets m.count hle d d2 st outs hR hexp hs
  obtain ⟨st', p, hR'⟩ := hsets
  refine ⟨st', ?_, hR'⟩
  obtain ⟨hk, hi, -, -, -, -, -, hd⟩ := hl
  have hp := parseLayout_v9Hdr c.t.protoFromU8 c.t.v9Hdr hk m.count m.sysUpTime m.unixSecs m.seq m.sourceId
    (m.sets.flatMap encV9FS ++ rest) h1 h2 h3 h4 h5
  have hg : c.t.v9Hdr.get "count" [9, m.count, m.sysUpTime, m.unixSecs, m.seq, m.sourceId] = m.count := by
    simp [Layout.get, hi]
  simp only [parsePacket, encV9, List.append_assoc, beU2_toBE (show 9 < 65536 by decide), hallow, ↓reduceIte, hd,
    parseVersioned, Nat.reduceEqDiff, parseV9, hp, hg, p, liftRes]

/-- **C04 (partial)** — print-then-parse for V9, parametric in the configuration.
    Extra hypotheses relative to `C04_full`:
    * `harms`, `hl` — decidable facts about the tables (arm table of `DataNumber::parse`, V9 layouts,
      flowset ids 0/1, dispatch of version 9), true of the generated tables;
    * `hconf : C04Conformant …` — the conformance conditions `Spec.expMsg` does not impose.  Each is
      needed: see the `C04_*_fails` witnesses below.  In particular the conclusion is NOT available for
      protocol fields holding 146..254, 8/16-byte signed values outside 32 bits (crate defects), for
      options templates with an unknown scope type or a zero-length field, template padding of 4+
      bytes, data flowset ids 0/1, numbers exceeding their wire width (gaps of the spec's notion of
      conformance).
    `Repr9` includes that both caches are key-sorted (true of every state the parser builds). -/
theorem C04_partial (c : Config) (names : List (Nat × String)) (harms : DnArmsOk c.t.dnArms) (hl : V9LayoutOk c.t)
    (hallow : c.allowed.contains 9 = true)
    (d d' : Defs) (st : PState) (m : V9Msg) (p : Packet) (rest : Bytes)
    (hR : Repr9 d.v9 st)
    (hexp : expMsg c names d (.v9 m) = some (d', .pkt p))
    (hconf : C04Conformant c names d.v9 m = true) :
    ∃ st', parsePacket c st (encV9 m ++ rest) = (st', .ok p rest) ∧ Repr9 d'.v9 st' := by
  obtain ⟨outs, hc, he, rfl, -⟩ := expMsg_v9_inv hexp
  exact C04_parsePacket_enc c names harms hl hallow d.v9 d'.v9 st m outs rest hR (.inl hc) he hconf

/-- **C04 for the shipped tables** (any allowed list containing 9, either feature setting). -/
theorem C04_generated_partial (allowed : List Nat) (uf : Bool) (hallow : allowed.contains 9 = true)
    (d d' : Defs) (st : PState) (m : V9Msg) (p : Packet) (rest : Bytes)
    (hR : Repr9 d.v9 st)
    (hexp : expMsg { t := Generated.tables, allowed := allowed, unknownFields := uf } Generated.protoNames d (.v9 m) = some (d', .pkt p))
    (hconf : C04Conformant { t := Generated.tables, allowed := allowed, unknownFields := uf } Generated.protoNames d.v9 m = true) :
    ∃ st', parsePacket { t := Generated.tables, allowed := allowed, unknownFields := uf } st (encV9 m ++ rest) = (st', .ok p rest) ∧
      Repr9 d'.v9 st' :=
  C04_partial _ Generated.protoNames dnArmsOk_generated v9LayoutOk_generated hallow d d' st m p rest hR hexp hconf

/-- template 256 = (IPV4_SRC_ADDR/4, PROTOCOL/1, IN_BYTES/2, LAST_SWITCHED/4 [ms duration]),
    options template 257 = (scope System/4; option 34 SAMPLING_INTERVAL/4) -/
def exTemplate : V9Template := { id := 256, fieldCount := 4, fields := [⟨8, 4⟩, ⟨4, 1⟩, ⟨1, 2⟩, ⟨21, 4⟩] }
def exOptTemplate : V9OptTemplate := { id := 257, scopeLen := 4, optLen := 4, scope := [⟨1, 4⟩], opts := [⟨34, 4⟩] }

/-- a template flowset, an options-template flowset, a data flowset with 2 records of 11 bytes and
    2 bytes of padding, and an options-data flowset with one record -/
def exMsg : V9Msg :=
  { count := 4, sysUpTime := 1000, unixSecs := 1700000000, seq := 7, sourceId := 42,
    sets := [.templates [exTemplate] [], .optTemplates [exOptTemplate] [0, 0],
             .data 256 [[[10, 0, 0, 1], [6], [1, 0], [0, 0, 4, 210]], [[192, 168, 0, 9], [145], [255, 255], [0, 1, 0, 0]]] [0, 0],
             .data 257 [[[0, 0, 0, 1], [0, 0, 0, 100]]] []] }

theorem exMsg_conformant : C04Conformant genConfig Generated.protoNames [] exMsg = true := by decide +kernel

/-- the specification expects a packet for `exMsg` (from an empty template memory) and `exMsg` is
    `C04Conformant`: the hypotheses of `C04_partial` / `C04_generated_partial` are jointly satisfiable
    (`Repr9.empty` gives the state) -/
example : isPkt (expMsg genConfig Generated.protoNames {} (.v9 exMsg)) = true ∧
    C04Conformant genConfig Generated.protoNames [] exMsg = true ∧ genConfig.allowed.contains 9 = true :=
  ⟨by decide +kernel, exMsg_conformant, by decide⟩

/-- …and the conclusion, instantiated: whatever follows the message is left untouched -/
example (d' : Defs) (p : Packet) (h : expMsg genConfig Generated.protoNames {} (.v9 exMsg) = some (d', .pkt p)) :
    ∃ st', parsePacket genConfig {} (encV9 exMsg ++ [0, 5, 0, 0]) = (st', .ok p [0, 5, 0, 0]) ∧ Repr9 d'.v9 st' :=
  C04_generated_partial [5, 7, 9, 10] true (by decide) {} d' {} exMsg p _ Repr9.empty h exMsg_conformant

/-- KNOWN CRATE DEFECT (protocol 146..254): template 256 = (PROTOCOL/1), one record holding protocol
    number 200.  The spec expects one record `Protocol = Unknown`; the crate's discriminant-based
    `ProtocolTypes::parse` fails, the record loop drops the record and reports its byte as padding. -/
theorem C04_proto_146_254_fails :
    Deviates [(256, .t ⟨256, 1, [⟨4, 1⟩]⟩)] { v9T := [(256, ⟨256, 1, [⟨4, 1⟩]⟩)] } (msgOf [.data 256 [[[200]]] []]) :=
  deviatesB_sound (repr9_single_t _ _) (by decide +kernel)

/-- what the parser returns in that case: no record, the record's byte as padding -/
theorem C04_proto_146_254_result :
    parsePacket genConfig { v9T := [(256, ⟨256, 1, [⟨4, 1⟩]⟩)] } (encV9 (msgOf [.data 256 [[[200]]] []])) =
      ({ v9T := [(256, ⟨256, 1, [⟨4, 1⟩]⟩)] }, .ok (.v9 [9, 1, 0, 0, 0, 0] [⟨256, 5, .data [] [200]⟩]) []) := by
  decide +kernel

/-- **`C04_full` is false of the model.** -/
theorem C04_full_fails : ¬ C04_full := by
  intro h
  obtain ⟨hR, d', p, he, hne⟩ := C04_proto_146_254_fails
  obtain ⟨st', hp, _⟩ := h [5, 7, 9, 10] true (by decide) { v9 := [(256, .t ⟨256, 1, [⟨4, 1⟩]⟩)] } d' _ _ p [] hR he
  apply hne
  rw [List.append_nil] at hp
  exact congrArg Prod.snd hp

/-- KNOWN CRATE DEFECT (8/16-byte signed value outside 32 bits is truncated by `as i32`).  No V9 field
    of the generated table has a signed type (`v9Ty_generated_not_signed`), so for V9 this carve-out is
    vacuous and the witness is at field level; it bites in IPFIX (C05). -/
theorem C04_signed_wide_field_fails :
    interpSpec Generated.protoNames .signed [0, 0, 0, 1, 0, 0, 0, 0] = some (.num (.i32 4294967296)) ∧
    parseValue genConfig.vc .signed 8 [0, 0, 0, 1, 0, 0, 0, 0] = some (.num (.i32 0), []) := by
  decide +kernel

/-- SPEC GAP (zero-length field in an options template): `Spec.expV9Set` accepts it, the crate's
    `many0` reports no progress and the whole packet fails. -/
theorem C04_optdata_zero_len_fails :
    Deviates [(256, .o ⟨256, 4, 4, [⟨1, 0⟩], [⟨1, 1⟩]⟩)] { v9O := [(256, ⟨256, 4, 4, [⟨1, 0⟩], [⟨1, 1⟩]⟩)] }
      (msgOf [.data 256 [[[], [5]]] []]) :=
  deviatesB_sound (repr9_single_o _ _) (by decide +kernel)

/-- SPEC GAP (unknown scope field type 9): the scope loop stops at once with no scope field and the
    option loop then reads the scope bytes as option values. -/
theorem C04_optdata_unknown_scope_fails :
    Deviates [(256, .o ⟨256, 4, 4, [⟨9, 1⟩], [⟨1, 1⟩]⟩)] { v9O := [(256, ⟨256, 4, 4, [⟨9, 1⟩], [⟨1, 1⟩]⟩)] }
      (msgOf [.data 256 [[[7], [5]]] []]) :=
  deviatesB_sound (repr9_single_o _ _) (by decide +kernel)

/-- SPEC GAP (padding of 4+ bytes in a template flowset): greedy `many0` reports four zero bytes as
    a further template (id 0, no fields) — and caches it. -/
theorem C04_template_zero_pad_fails :
    Deviates [] {} (msgOf [.templates [⟨256, 1, [⟨1, 4⟩]⟩] [0, 0, 0, 0]]) :=
  deviatesB_sound Repr9.empty (by decide +kernel)

/-- SPEC GAP (template ids below 256 are not excluded): a data flowset whose id is 1 is parsed as an
    options-template flowset whatever the template memory says. -/
theorem C04_data_id_reserved_fails :
    Deviates [(1, .t ⟨1, 1, [⟨1, 1⟩]⟩)] { v9T := [(1, ⟨1, 1, [⟨1, 1⟩]⟩)] } (msgOf [.data 1 [[[5]]] []]) :=
  deviatesB_sound (repr9_single_t _ _) (by decide +kernel)

/-- SPEC GAP (header numbers are not range-checked): `sysUpTime = 2^32` is written as 0. -/
theorem C04_header_range_fails :
    Deviates [] {} { count := 0, sysUpTime := 4294967296, unixSecs := 0, seq := 0, sourceId := 0, sets := [] } :=
  deviatesB_sound Repr9.empty (by decide +kernel)

/-- SPEC GAP (template records are not checked for well-formedness): a template whose count field
    disagrees with its field list is read back differently. -/
theorem C04_template_count_fails :
    Deviates [] {} (msgOf [.templates [⟨256, 2, [⟨1, 4⟩]⟩] []]) :=
  deviatesB_sound Repr9.empty (by decide +kernel)

/-- the lookup-only part of `Repr9` (what one would write first) -/
def Repr9Lookup (d : List (Nat × V9Def)) (st : PState) : Prop :=
  (∀ id t, amLookup id d = some (.t t) ↔ amLookup id st.v9T = some t) ∧
  (∀ id t, amLookup id d = some (.o t) ↔ amLookup id st.v9O = some t)

/-- MODEL REMARK: the lookup-only relation is NOT preserved by a template flowset when a cache is not
    in canonical (key-sorted) form: `amErase` removes the first entry only, so a shadowed duplicate
    becomes visible.  Every cache the parser builds is sorted (`AmSorted.insert/erase`), so this concerns
    artificial states only; it is why `Repr9` carries the two sortedness components. -/
theorem C04_repr_lookup_only_not_preserved :
    ∃ (d : List (Nat × V9Def)) (st : PState) (t : V9Template),
      Repr9Lookup d st ∧ ¬ Repr9Lookup ([t].foldl (fun d t => v9Insert d t.id (.t t)) d) (insertV9Templates st [t]) := by
  refine ⟨[(300, .o ⟨300, 0, 0, [], []⟩)], { v9O := [(300, ⟨300, 0, 0, [], []⟩), (300, ⟨300, 4, 0, [⟨1, 4⟩], []⟩)] },
    ⟨300, 0, []⟩, ⟨?_, ?_⟩, ?_⟩
  · intro id t
    simp only [amLookup]
    by_cases h : id = 300 <;> simp [h]
  · intro id t
    simp only [amLookup]
    by_cases h : id = 300 <;> simp [h]
  · intro h
    have := (h.2 300 ⟨300, 4, 0, [⟨1, 4⟩], []⟩).mpr (by decide)
    revert this
    decide

/-- the value decoder of the model IS the interpretation (`Arms.lean`) of the arms of `FieldValue::from_field_type`
    that `tools/translate.py` regenerates from data_number.rs on every run: which reader, which constructor and which duration unit each library type uses. -/
theorem C04_value_arms_generated (c : ValueCfg) (ty : FType) (len : Nat) (i : Bytes) :
    parseValue c ty len i = parseValueBy Generated.valueArms c ty len i :=
  G1.parseValue_eq_generated c ty len i

end Netflow.Props
