/-
  Props/C04c.lean — property C04 for the header `count` AS RFC 3954 DEFINES IT.  The file also defines the
  specification-side stream semantics it states them with (`expRfcStream`, `rfcStreamConf`).

  RFC 3954 §5.1: `Count` = "the total number of records in the Export Packet, which is the sum of
  Options FlowSet records, Template FlowSet records, and Data FlowSet records".  The crate (and
  `Spec.expMsg`, which demands `m.count = m.sets.length`) reads it as the number of FLOWSETS, so every
  theorem of Props/C04.lean silently excludes RFC-conformant packets in which some flowset holds more
  than one record (`C04_expMsg_rejects_rfc_count`).  The crate's flowset loop runs `count` times and
  skips an iteration when the input is exhausted, so such a packet still decodes correctly PROVIDED IT
  ENDS ITS BUFFER:

  `C04_rfc_count_partial` and its corollaries state this for any `count ≥ number of flowsets`;
  `C04_count_above_sets_not_last_fails` shows that "ends its buffer" is necessary (followed by another
  packet, the next packet's bytes are read as a flowset and BOTH packets are lost);
  `C04_optdata_multi_record_fails`: an options-data flowset with two records is decoded as ONE record
  and the second record is reported as padding; `C04_count_below_sets_result`: a count BELOW the number
  of flowsets silently drops flowsets.
-/
import NetflowModel.Props.C04
import NetflowModel.Props.C11
import NetflowModel.Lemmas.RfcCount
namespace Netflow.Props
open Netflow Netflow.Spec Netflow.P3

/-- `C04Conformant` does not relate `count` to the flowsets at all (it only asks `count < 65536`);
    it is the same formula as the helper `P3.hdrSetsConf` -/
theorem C04Conformant_eq_hdrSetsConf (c : Config) (names : List (Nat × String)) (d : List (Nat × V9Def)) (m : V9Msg) :
    C04Conformant c names d m = hdrSetsConf c names d m := rfl

/-- **C04, RFC count (partial)** — print-then-parse for a V9 message whose header count is ANY number
    `≥` the number of flowsets (in particular the RFC 3954 record count, `C04_rfc_stream_partial`),
    when the packet ENDS the buffer.  `outs` are the flowsets `Spec.expV9Sets` expects for `m.sets`
    from the template memory `d`; the header is reported with the count as sent.
    Hypotheses, relative to a full-strength statement:
    * `harms`, `hl`, `hconf` exactly as in `C04_partial` (`C04Conformant` does not constrain the
      relation between `count` and the flowsets; it needs `count < 65536`);
    * nothing may follow the packet in the buffer — necessary: `C04_count_above_sets_not_last_fails`. -/
theorem C04_rfc_count_partial (c : Config) (names : List (Nat × String)) (harms : DnArmsOk c.t.dnArms) (hl : V9LayoutOk c.t)
    (hallow : c.allowed.contains 9 = true)
    (d d2 : List (Nat × V9Def)) (st : PState) (m : V9Msg) (outs : List V9Set)
    (hR : Repr9 d st) (hcount : m.sets.length ≤ m.count)
    (hexp : expV9Sets c names d m.sets = some (d2, some outs))
    (hconf : C04Conformant c names d m = true) :
    ∃ st', parsePacket c st (encV9 m) =
        (st', .ok (.v9 [9, m.count, m.sysUpTime, m.unixSecs, m.seq, m.sourceId] outs) []) ∧ Repr9 d2 st' := by
  simpa only [List.append_nil] using
    C04_parsePacket_enc c names harms hl hallow d d2 st m outs [] hR (.inr ⟨hcount, rfl⟩) hexp hconf

/-- the message with its count replaced by the number of its flowsets (the only count `Spec.expMsg` accepts) -/
def setsCounted (m : V9Msg) : V9Msg := { m with count := m.sets.length }

/-- **the same, stated against `Spec.expMsg`** for the message with its count replaced by
    `m.sets.length`: the parser returns the packet the specification expects for that message, except
    that the header carries the count as sent; the caches represent the updated memory. -/
theorem C04_rfc_count_expMsg_partial (c : Config) (names : List (Nat × String)) (harms : DnArmsOk c.t.dnArms)
    (hl : V9LayoutOk c.t) (hallow : c.allowed.contains 9 = true)
    (D D' : Defs) (st : PState) (m : V9Msg) (p : Packet)
    (hR : Repr9 D.v9 st) (hcount : m.sets.length ≤ m.count)
    (hexp : expMsg c names D (.v9 (setsCounted m)) = some (D', .pkt p))
    (hconf : C04Conformant c names D.v9 m = true) :
    ∃ outs st', p = .v9 [9, m.sets.length, m.sysUpTime, m.unixSecs, m.seq, m.sourceId] outs ∧
      parsePacket c st (encV9 m) = (st', .ok (.v9 [9, m.count, m.sysUpTime, m.unixSecs, m.seq, m.sourceId] outs) []) ∧
      Repr9 D'.v9 st' := by
  obtain ⟨outs, -, he, rfl, -⟩ := expMsg_v9_inv hexp
  obtain ⟨st', hp, hR'⟩ := C04_rfc_count_partial c names harms hl hallow D.v9 D'.v9 st m outs hR hcount he hconf
  exact ⟨outs, st', rfl, hp, hR'⟩

/-- **for the shipped tables** (any allowed list containing 9, either feature setting) -/
theorem C04_rfc_count_generated_partial (allowed : List Nat) (uf : Bool) (hallow : allowed.contains 9 = true)
    (d d2 : List (Nat × V9Def)) (st : PState) (m : V9Msg) (outs : List V9Set)
    (hR : Repr9 d st) (hcount : m.sets.length ≤ m.count)
    (hexp : expV9Sets { t := Generated.tables, allowed := allowed, unknownFields := uf } Generated.protoNames d m.sets = some (d2, some outs))
    (hconf : C04Conformant { t := Generated.tables, allowed := allowed, unknownFields := uf } Generated.protoNames d m = true) :
    ∃ st', parsePacket { t := Generated.tables, allowed := allowed, unknownFields := uf } st (encV9 m) =
        (st', .ok (.v9 [9, m.count, m.sysUpTime, m.unixSecs, m.seq, m.sourceId] outs) []) ∧ Repr9 d2 st' :=
  C04_rfc_count_partial _ Generated.protoNames dnArmsOk_generated v9LayoutOk_generated hallow d d2 st m outs hR hcount hexp hconf

/-- **one `parse_bytes` call on the packet alone**: exactly the expected packet, nothing else. -/
theorem C04_rfc_count_parseBytes_partial (c : Config) (names : List (Nat × String)) (harms : DnArmsOk c.t.dnArms)
    (hl : V9LayoutOk c.t) (hf : c.t.framingOk = true) (hallow : c.allowed.contains 9 = true)
    (d d2 : List (Nat × V9Def)) (st : PState) (m : V9Msg) (outs : List V9Set)
    (hR : Repr9 d st) (hcount : m.sets.length ≤ m.count)
    (hexp : expV9Sets c names d m.sets = some (d2, some outs))
    (hconf : C04Conformant c names d m = true) :
    ∃ st', parseBytes c st (encV9 m) =
        (st', .done [.v9 [9, m.count, m.sysUpTime, m.unixSecs, m.seq, m.sourceId] outs]) ∧ Repr9 d2 st' := by
  obtain ⟨st', hp, hR'⟩ := C04_rfc_count_partial c names harms hl hallow d d2 st m outs hR hcount hexp hconf
  exact ⟨st', parseBytes_selfDelimiting c hp, hR'⟩

/-- **last in the buffer**: after a chain `ps` of self-delimiting packets (C11's `chainOk`) in the SAME
    buffer, the packet is decoded against the state the chain leaves (`Repr9` assumed of that state). -/
theorem C04_rfc_count_last_partial (c : Config) (names : List (Nat × String)) (harms : DnArmsOk c.t.dnArms)
    (hl : V9LayoutOk c.t) (hf : c.t.framingOk = true) (hallow : c.allowed.contains 9 = true)
    (st0 : PState) (ps : List Bytes) (hchain : chainOk c st0 ps = true)
    (d d2 : List (Nat × V9Def)) (m : V9Msg) (outs : List V9Set)
    (hR : Repr9 d (foldCalls c st0 ps).1) (hcount : m.sets.length ≤ m.count)
    (hexp : expV9Sets c names d m.sets = some (d2, some outs))
    (hconf : C04Conformant c names d m = true) :
    ∃ st', parseBytes c st0 (ps.flatten ++ encV9 m) =
        (st', .done ((foldCalls c st0 ps).2 ++ [.v9 [9, m.count, m.sysUpTime, m.unixSecs, m.seq, m.sourceId] outs])) ∧
      Repr9 d2 st' := by
  obtain ⟨st', hp, hR'⟩ := C04_rfc_count_parseBytes_partial c names harms hl hf hallow d d2 _ m outs hR hcount hexp hconf
  refine ⟨st', ?_, hR'⟩
  rw [C11_chain_append c hf st0 ps hchain (encV9 m), hp]
  simp [Outcome.prepend]

/-- every flowset holds at least one record ⇒ the RFC count is at least the number of flowsets -/
theorem C04_rfcCount_ge_sets (m : V9Msg) (h : ∀ s ∈ m.sets, 1 ≤ fsRecords s) : m.sets.length ≤ rfcCount m :=
  length_le_rfcCount m h

/-- … and strictly larger as soon as one flowset holds two records: exactly the RFC-conformant
    packets that `Spec.expMsg` (hence `C04_partial`) does not cover -/
theorem C04_rfcCount_gt_sets (m : V9Msg) (h : ∀ s ∈ m.sets, 1 ≤ fsRecords s) (h2 : ∃ s ∈ m.sets, 2 ≤ fsRecords s) :
    m.sets.length < rfcCount m :=
  length_lt_sum_fsRecords m.sets h h2

/-- `Spec.expMsg` rejects every message whose count is the RFC count when some flowset holds two
    records (no flowset empty): the C04 theorems of Props/C04.lean are silent about them. -/
theorem C04_expMsg_rejects_rfc_count (c : Config) (names : List (Nat × String)) (D : Defs) (m : V9Msg)
    (h : ∀ s ∈ m.sets, 1 ≤ fsRecords s) (h2 : ∃ s ∈ m.sets, 2 ≤ fsRecords s) (hc : m.count = rfcCount m) :
    expMsg c names D (.v9 m) = none := by
  have := C04_rfcCount_gt_sets m h h2
  have hne : m.count ≠ m.sets.length := by omega
  simp only [expMsg, hne, ne_eq, not_false_eq_true, ↓reduceIte]

/-- **C04 for the RFC 3954 count (partial)**: a message whose header count is the number of records
    (`rfcCount`), none of whose flowsets is empty, conformant as in `C04_partial`, alone in / last in
    its buffer, is decoded to exactly the flowsets the specification expects. -/
theorem C04_rfc_stream_partial (c : Config) (names : List (Nat × String)) (harms : DnArmsOk c.t.dnArms) (hl : V9LayoutOk c.t)
    (hallow : c.allowed.contains 9 = true)
    (d d2 : List (Nat × V9Def)) (st : PState) (m : V9Msg) (outs : List V9Set)
    (hR : Repr9 d st) (hcount : m.count = rfcCount m) (hne : noEmptySet m = true)
    (hexp : expV9Sets c names d m.sets = some (d2, some outs))
    (hconf : C04Conformant c names d m = true) :
    ∃ st', parsePacket c st (encV9 m) =
        (st', .ok (.v9 [9, rfcCount m, m.sysUpTime, m.unixSecs, m.seq, m.sourceId] outs) []) ∧ Repr9 d2 st' := by
  have hle : m.sets.length ≤ m.count := by rw [hcount]; exact length_le_rfcCount_of_noEmptySet m hne
  have := C04_rfc_count_partial c names harms hl hallow d d2 st m outs hR hle hexp hconf
  rwa [hcount] at this

/-- what the specification expects for a stream of V9 messages with ARBITRARY header counts: the
    flowsets by `Spec.expV9Sets` (template memory threaded), the header as sent; `none` if some
    message is not conformant or not expressible -/
def expRfcStream (c : Config) (names : List (Nat × String)) : List (Nat × V9Def) → List V9Msg → Option (List (Nat × V9Def) × List Packet)
  | d, [] => some (d, [])
  | d, m :: ms =>
    match expV9Sets c names d m.sets with
    | some (d1, some outs) =>
      match expRfcStream c names d1 ms with
      | some (d2, ps) => some (d2, .v9 [9, m.count, m.sysUpTime, m.unixSecs, m.seq, m.sourceId] outs :: ps)
      | none => none
    | _ => none

/-- RFC conformance of a stream, threading the template memory: every header count is the RFC record
    count, no flowset is empty, and `C04Conformant` holds relative to the memory in force -/
def rfcStreamConf (c : Config) (names : List (Nat × String)) : List (Nat × V9Def) → List V9Msg → Bool
  | _, [] => true
  | d, m :: ms =>
    decide (m.count = rfcCount m) && noEmptySet m && C04Conformant c names d m &&
    match expV9Sets c names d m.sets with
    | some (d1, _) => rfcStreamConf c names d1 ms
    | none => true

/-- **C04, RFC-count stream (partial)**: a stream of V9 messages whose counts are the RFC 3954 record
    counts, delivered ONE MESSAGE PER `parse_bytes` CALL (one UDP datagram per call), is decoded to
    exactly the expected packets, each data flowset against the templates announced before it, and
    the caches finally represent the exporter's memory.  (Delivery of several such messages in ONE
    buffer does not work: `C04_count_above_sets_not_last_fails`.) -/
theorem C04_rfc_stream_calls_partial (c : Config) (names : List (Nat × String)) (harms : DnArmsOk c.t.dnArms)
    (hl : V9LayoutOk c.t) (hf : c.t.framingOk = true) (hallow : c.allowed.contains 9 = true) :
    ∀ (ms : List V9Msg) (d d' : List (Nat × V9Def)) (st : PState) (pkts : List Packet),
      Repr9 d st → expRfcStream c names d ms = some (d', pkts) → rfcStreamConf c names d ms = true →
      ∃ st', foldCalls c st (ms.map encV9) = (st', pkts) ∧ Repr9 d' st' := by
  intro ms
  induction ms with
  | nil =>
    intro d d' st pkts hR hexp _
    simp only [expRfcStream, Option.some.injEq, Prod.mk.injEq] at hexp
    obtain ⟨rfl, rfl⟩ := hexp
    exact ⟨st, rfl, hR⟩
  | cons m ms ih =>
    intro d d' st pkts hR hexp hconf
    simp only [expRfcStream] at hexp
    cases he : expV9Sets c names d m.sets with
    | none => simp [he] at hexp
    | some r =>
      obtain ⟨d1, o⟩ := r
      cases o with
      | none => simp [he] at hexp
      | some outs =>
        simp only [he] at hexp
        cases hs : expRfcStream c names d1 ms with
        | none => simp [hs] at hexp
        | some q =>
          obtain ⟨d2, ps⟩ := q
          simp only [hs, Option.some.injEq, Prod.mk.injEq] at hexp
          obtain ⟨rfl, rfl⟩ := hexp
          simp only [rfcStreamConf, he, Bool.and_eq_true, decide_eq_true_eq] at hconf
          obtain ⟨⟨⟨hc, hne⟩, hcf⟩, hrest⟩ := hconf
          have hle : m.sets.length ≤ m.count := by rw [hc]; exact length_le_rfcCount_of_noEmptySet m hne
          obtain ⟨st1, hp, hR1⟩ := C04_rfc_count_partial c names harms hl hallow d d1 st m outs hR hle he hcf
          obtain ⟨st2, hfc, hR2⟩ := ih d1 d2 st1 ps hR1 hs hrest
          refine ⟨st2, ?_, hR2⟩
          rw [List.map_cons, foldCalls_cons_selfDelimiting c hp, hfc]

namespace C04cEx
/-- data template 256 = (IPV4_SRC_ADDR/4, IN_BYTES/2), data template 257 = (PROTOCOL/1) -/
def t256 : V9Template := { id := 256, fieldCount := 2, fields := [⟨8, 4⟩, ⟨1, 2⟩] }
def t257 : V9Template := { id := 257, fieldCount := 1, fields := [⟨4, 1⟩] }
/-- options template 258 = (scope System/4; option 34 SAMPLING_INTERVAL/4) -/
def o258 : V9OptTemplate := { id := 258, scopeLen := 4, optLen := 4, scope := [⟨1, 4⟩], opts := [⟨34, 4⟩] }

/-- ONE template flowset holding TWO template records and one options-template flowset: 2 flowsets,
    RFC count 3 -/
def mT : V9Msg :=
  { count := 3, sysUpTime := 1, unixSecs := 2, seq := 3, sourceId := 4,
    sets := [.templates [t256, t257] [], .optTemplates [o258] [0, 0]] }
/-- one data flowset with THREE records (6 bytes each, 2 bytes padding), one with two 1-byte records,
    one options-data record: 3 flowsets, RFC count 6 -/
def mD : V9Msg :=
  { count := 6, sysUpTime := 5, unixSecs := 6, seq := 7, sourceId := 4,
    sets := [.data 256 [[[10, 0, 0, 1], [0, 9]], [[10, 0, 0, 2], [1, 0]], [[10, 0, 0, 3], [0, 0]]] [0, 0],
             .data 257 [[[6]], [[17]]] [],
             .data 258 [[[0, 0, 0, 1], [0, 0, 0, 100]]] []] }
/-- the follower used by the "not last" witness: a plain one-flowset data packet -/
def mNext : V9Msg :=
  { count := 1, sysUpTime := 5, unixSecs := 6, seq := 7, sourceId := 4,
    sets := [.data 256 [[[10, 0, 0, 1], [0, 9]]] []] }
/-- one template flowset with two template records, header count 2 (the RFC count) -/
def mT2 : V9Msg :=
  { count := 2, sysUpTime := 1, unixSecs := 2, seq := 3, sourceId := 4,
    sets := [.templates [t256, t257] []] }
end C04cEx
open C04cEx

/-- the two messages carry the RFC count, which exceeds the number of flowsets; `Spec.expMsg` rejects both -/
example : mT.count = rfcCount mT ∧ mT.sets.length < mT.count ∧ mD.count = rfcCount mD ∧ mD.sets.length < mD.count ∧
    expMsg genConfig Generated.protoNames {} (.v9 mT) = none := by decide

/-- hypotheses of `C04_rfc_count_partial` / `C04_rfc_stream_partial` hold for `mT` from the empty memory … -/
example : mT.sets.length ≤ mT.count ∧ mT.count = rfcCount mT ∧ noEmptySet mT = true ∧
    (expV9Sets genConfig Generated.protoNames [] mT.sets).isSome = true ∧
    C04Conformant genConfig Generated.protoNames [] mT = true ∧ genConfig.allowed.contains 9 = true := by
  decide +kernel

theorem rfcStreamConf_mT_mD : rfcStreamConf genConfig Generated.protoNames [] [mT, mD] = true := by
  decide +kernel

/-- … and the hypotheses of `C04_rfc_stream_calls_partial` for the stream `[mT, mD]`
    (`expRfcStream` yields two packets; `Repr9.empty` gives the start state) -/
example : rfcStreamConf genConfig Generated.protoNames [] [mT, mD] = true ∧
    ((expRfcStream genConfig Generated.protoNames [] [mT, mD]).map (·.2.length)) = some 2 :=
  ⟨rfcStreamConf_mT_mD, by decide +kernel⟩

/-- the conclusion instantiated on the example stream: the data message (count 6, three flowsets) is
    decoded with the templates of the first call: 3 + 2 data records and one options record -/
example : (foldCalls genConfig {} [encV9 mT, encV9 mD]).2.map (fun p => match p with
      | .v9 h ss => (h.take 2, ss.map fun s => match s.body with
          | .data rs pad => (rs.length, pad.length) | .optData _ _ pad => (1, pad.length)
          | .templates ts pad => (ts.length, pad.length) | .optTemplates ts pad => (ts.length, pad.length))
      | _ => ([], [])) =
    [([9, 3], [(2, 0), (1, 2)]), ([9, 6], [(3, 2), (2, 0), (1, 0)])] := by
  decide +kernel

/-- the theorem applied to the example -/
example (d' : List (Nat × V9Def)) (pkts : List Packet)
    (h : expRfcStream genConfig Generated.protoNames [] [mT, mD] = some (d', pkts)) :
    ∃ st', foldCalls genConfig {} [encV9 mT, encV9 mD] = (st', pkts) ∧ Repr9 d' st' :=
  C04_rfc_stream_calls_partial genConfig Generated.protoNames dnArmsOk_generated v9LayoutOk_generated
    C02_generated_framing (by decide) [mT, mD] [] d' {} pkts Repr9.empty h rfcStreamConf_mT_mD

/-- non-vacuity of `C04_rfc_count_expMsg_partial`: the spec expects a packet for the re-counted message -/
example : isPkt (expMsg genConfig Generated.protoNames {} (.v9 (setsCounted mT))) = true := by decide +kernel

/-- non-vacuity of `C04_rfc_count_last_partial`: `mT2` (count 2, one flowset) is not self-delimiting in
    C11's sense, but it may come LAST after a chain — here after a V5 packet in the same buffer -/
example : chainOk genConfig {} [C11ex.v5p] = true ∧ mT2.sets.length < mT2.count ∧
    (parseBytes genConfig {} (C11ex.v5p ++ encV9 mT2)).2.pkts.length = 2 := by
  decide +kernel

/-- `C04_rfc_count_partial` for the generated tables WITHOUT the restriction that the packet ends the
    buffer (i.e. with an arbitrary `rest`, as `C04_partial` has for `count = number of flowsets`) -/
def C04_rfc_count_any_rest : Prop :=
  ∀ (d d2 : List (Nat × V9Def)) (st : PState) (m : V9Msg) (outs : List V9Set) (rest : Bytes),
    Repr9 d st → m.sets.length ≤ m.count →
    expV9Sets genConfig Generated.protoNames d m.sets = some (d2, some outs) →
    C04Conformant genConfig Generated.protoNames d m = true →
    ∃ st', parsePacket genConfig st (encV9 m ++ rest) =
      (st', .ok (.v9 [9, m.count, m.sysUpTime, m.unixSecs, m.seq, m.sourceId] outs) rest) ∧ Repr9 d2 st'

/-- what really happens: `mT2` (ONE template flowset with TWO template records, RFC count 2) followed
    in the same buffer by the data packet `mNext`.  The second loop iteration reads the next packet's
    first four bytes `00 09 00 01` as a flowset header (id 9, length 1), finds no template 9 and the
    WHOLE buffer is reported as one `PartialParse` error: both packets are lost — although the
    templates of the first one HAVE been cached by then.  Delivered one per call both decode. -/
theorem C04_count_above_sets_not_last_result :
    parseBytes genConfig {} (encV9 mT2 ++ encV9 mNext) =
      ({ v9T := [(256, t256), (257, t257)] },
       .done [.error (.partialParse 9 ((encV9 mT2 ++ encV9 mNext).drop 2)) (encV9 mT2 ++ encV9 mNext)]) ∧
    (foldCalls genConfig {} [encV9 mT2, encV9 mNext]).2 =
      [.v9 [9, 2, 1, 2, 3, 4] [⟨0, 24, .templates [t256, t257] []⟩],
       .v9 [9, 1, 5, 6, 7, 4] [⟨256, 10, .data [[(0, 8, .ip4 167772161), (1, 1, .num (.u16 9))]] []⟩]] := by
  decide +kernel

/-- **the restriction is necessary**: with bytes following, a packet whose count exceeds its number of
    flowsets is NOT decoded as expected (compare `C11_noCountHyp_fails`). -/
theorem C04_count_above_sets_not_last_fails : ¬ C04_rfc_count_any_rest := by
  intro h
  obtain ⟨st', hp, -⟩ := h [] _ {} mT2 _ (encV9 mNext) Repr9.empty (by decide)
    (by decide +kernel : expV9Sets genConfig Generated.protoNames [] mT2.sets =
      some ([(256, .t t256), (257, .t t257)], some [⟨0, 24, .templates [t256, t257] []⟩]))
    (by decide +kernel)
  have h2 := (parseBytes_run C04_count_above_sets_not_last_result.1).error_inv.2.2.2
  rw [hp] at h2
  cases h2

/-- **an options-data flowset with TWO records is decoded as ONE record plus padding.**  Options
    template 258 (scope System/4, option SAMPLING_INTERVAL/4) is cached; the flowset holds the records
    (system 1, interval 100) and (system 2, interval 200).  The specification says the message is
    conformant but `.inexpressible` (`OptionsData` holds one record); the parser returns `Ok` with the
    first record only and reports the 8 bytes of the SECOND RECORD as padding — with the header count
    written as number of flowsets (1) and equally with the RFC count (2). -/
theorem C04_optdata_multi_record_fails :
    let recs : List (List Bytes) := [[[0, 0, 0, 1], [0, 0, 0, 100]], [[0, 0, 0, 2], [0, 0, 0, 200]]]
    let st : PState := { v9O := [(258, o258)] }
    Repr9 [(258, .o o258)] st ∧
    expMsg genConfig Generated.protoNames { v9 := [(258, .o o258)] } (.v9 (msgOf [.data 258 recs []])) =
      some ({ v9 := [(258, .o o258)] }, .inexpressible 9) ∧
    parsePacket genConfig st (encV9 (msgOf [.data 258 recs []])) =
      (st, .ok (.v9 [9, 1, 0, 0, 0, 0]
        [⟨258, 20, .optData [(1, [0, 0, 0, 1])] [(34, [0, 0, 0, 100])] [0, 0, 0, 2, 0, 0, 0, 200]⟩]) []) ∧
    parsePacket genConfig st (encV9 { msgOf [.data 258 recs []] with count := 2 }) =
      (st, .ok (.v9 [9, 2, 0, 0, 0, 0]
        [⟨258, 20, .optData [(1, [0, 0, 0, 1])] [(34, [0, 0, 0, 100])] [0, 0, 0, 2, 0, 0, 0, 200]⟩]) []) :=
  ⟨repr9_single_o _ _, by decide +kernel, by decide +kernel, by decide +kernel⟩

/-- with `count` = 1 and TWO flowsets the loop stops after the first flowset; the second
    flowset's bytes (`00 01 00 14 …`, an options-template flowset) are handed back as `remaining`, and
    `parse_bytes` then reads them as a new packet of version 1, which is not an allowed version and is
    dropped WITHOUT any error packet: the options template 258 is silently never learned.
    So `sets.length ≤ count` in `C04_rfc_count_partial` cannot be dropped. -/
theorem C04_count_below_sets_result :
    parseBytes genConfig {} (encV9 { mT with count := 1 }) =
      ({ v9T := [(256, t256), (257, t257)] },
       .done [.v9 [9, 1, 1, 2, 3, 4] [⟨0, 24, .templates [t256, t257] []⟩]]) := by
  decide +kernel

end Netflow.Props
