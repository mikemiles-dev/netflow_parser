/-
  Props/C05.lean — C05: IPFIX sets decode exactly as RFC 7011 and the governing template say.

  PRINT-THEN-PARSE: for an abstract IPFIX message `m`, the model parser run on the bytes written
  by the RFC 7011 writer `Spec.encIpfix m` returns exactly the packet `Spec.expMsg` expects, leaves
  the caller's `rest` untouched, and its template caches keep representing the exporter-side
  template memory.

  The full-strength statement `C05_full` is FALSE of the model (which mirrors the crate):
  `C05_full_fails`.  `C05_partial` / `C05_generated` prove it under the decidable predicate
  `C05Conformant` (defined with the set-level conditions in Lemmas/IpfixMsg.lean); each excluded class has a
  `…_fails` witness below.
-/
import NetflowModel.Lemmas.IpfixFindings
import NetflowModel.Lemmas.Inversion
import NetflowModel.Generated
import NetflowModel.Lemmas.G1Arms
namespace Netflow.Props
open Netflow Spec

/-- C05, full strength: every message the specification accepts (`expMsg = some (_, .pkt p)`) is
    decoded to exactly `p` by the model with the generated tables, from any parser state that
    represents the template memory, and the new state represents the new memory. -/
def C05_full : Prop :=
  ∀ (c : Config), c.t = Generated.tables → c.allowed.contains 10 = true →
  ∀ (names : List (Nat × String)) (v9 v9' : List (Nat × V9Def)) (d d' : List (Nat × IpDef)) (st : PState)
    (m : IpMsg) (p : Packet) (rest : Bytes),
    ReprIp d st →
    expMsg c names ⟨v9, d⟩ (.ipfix m) = some (⟨v9', d'⟩, .pkt p) →
    ∃ st', parsePacket c st (encIpfix m ++ rest) = (st', .ok p rest) ∧ ReprIp d' st'

/-- the message is in the scope of C05 (the specification expects a packet for it) -/
def c05Applies (c : Config) (names : List (Nat × String)) (d : List (Nat × IpDef)) (m : IpMsg) : Bool :=
  match expMsg c names ⟨[], d⟩ (.ipfix m) with
  | some (_, .pkt _) => true
  | _ => false

/-- decidable instance check of the conclusion of C05 (packet part) for one message -/
def c05Holds (c : Config) (names : List (Nat × String)) (d : List (Nat × IpDef)) (st : PState) (m : IpMsg)
    (rest : Bytes) : Bool :=
  match expMsg c names ⟨[], d⟩ (.ipfix m) with
  | some (_, .pkt p) => decide ((parsePacket c st (encIpfix m ++ rest)).2 = .ok p rest)
  | _ => true

theorem C05_full_holds (h : C05_full) (c : Config) (hc : c.t = Generated.tables) (h10 : c.allowed.contains 10 = true)
    (names : List (Nat × String)) (d : List (Nat × IpDef)) (st : PState) (m : IpMsg) (rest : Bytes)
    (hr : ReprIp d st) : c05Holds c names d st m rest = true := by
  unfold c05Holds
  split
  · rename_i D p heq
    obtain ⟨v9', d'⟩ := D
    obtain ⟨st', hp, _⟩ := h c hc h10 names [] v9' d d' st m p rest hr heq
    simp [hp]
  · rfl

/-- **C05, partial.**  Parametric in the configuration: for tables satisfying the decidable facts
    `Tables.ipfixOk` (header layouts, set-id constants, `DataNumber::parse` arms, dispatch) and in
    which no IPFIX element has the `ProtocolTypes` kind, every message the specification accepts AND
    that satisfies `C05Conformant` is decoded exactly as expected, `rest` is returned untouched, and
    the template caches keep representing the template memory.

    Missing for full strength (each with a `…_fails` witness below): `C05Conformant` excludes
    (1) data sets in which a record is longer than all the bytes that follow it although further
        (shorter) records follow, and data sets whose padding is at least as long as the last record
        (`recLoopOk`), and data sets without records;
    (2) signed fields of width 8/16 whose value does not fit 32 bits (`ipFieldValOk`);
    (3) template sets whose padding can be read as a further field specifier (`padStopsFields`:
        4 or more bytes, unless 4..7 bytes starting with the enterprise bit);
    (4) templates without a field of non-zero length, in particular template withdrawals
        (`ipValid` inside `IpTemplateOk`), options templates with scope count > field count;
    (5) unknown-typed fields when the `parse_unknown_fields` feature is off;
    (6) values the abstract message allows but the wire cannot carry (header fields ≥ 2^32, ids and
        lengths ≥ 2^16) and data sets whose id is below 256.
    Sets with two or more (options) template records are excluded by the `.pkt` premise itself. -/
theorem C05_partial (c : Config) (ht : c.t.ipfixOk = true) (hnp : NoProto c) (h10 : c.allowed.contains 10 = true)
    (names : List (Nat × String)) (v9 v9' : List (Nat × V9Def)) (d d' : List (Nat × IpDef)) (st : PState)
    (m : IpMsg) (p : Packet) (rest : Bytes)
    (hr : ReprIp d st) (hconf : C05Conformant c d m = true)
    (hexp : expMsg c names ⟨v9, d⟩ (.ipfix m) = some (⟨v9', d'⟩, .pkt p)) :
    ∃ st', parsePacket c st (encIpfix m ++ rest) = (st', .ok p rest) ∧ ReprIp d' st' := by
  obtain ⟨ss, hs, -, rfl, -⟩ := expMsg_ipfix_inv c names ⟨v9, d⟩ ⟨v9', d'⟩ m p hexp
  exact parsePacket_encIpfix c names ht hnp h10 d st m d' ss rest hr hconf hs

theorem C05_generated_tables : Generated.tables.ipfixOk = true := by decide +kernel

/-- no IPFIX information element of the generated table is decoded as a `ProtocolTypes` value -/
theorem C05_generated_noProto (c : Config) (hc : c.t = Generated.tables) : NoProto c := by
  intro n
  rw [hc]
  have := lookupD_of_all Generated.ipTyTbl Generated.ipTyDefault (· != FType.proto) (by decide +kernel) (by decide)
    (Generated.tables.ipField n)
  exact bne_iff_ne.mp this

/-- **C05 for the generated tables** (either setting of `parse_unknown_fields`, any allowed-version
    list containing 10): the only remaining hypothesis is `C05Conformant`. -/
theorem C05_generated (c : Config) (hc : c.t = Generated.tables) (h10 : c.allowed.contains 10 = true)
    (names : List (Nat × String)) (v9 v9' : List (Nat × V9Def)) (d d' : List (Nat × IpDef)) (st : PState)
    (m : IpMsg) (p : Packet) (rest : Bytes)
    (hr : ReprIp d st) (hconf : C05Conformant c d m = true)
    (hexp : expMsg c names ⟨v9, d⟩ (.ipfix m) = some (⟨v9', d'⟩, .pkt p)) :
    ∃ st', parsePacket c st (encIpfix m ++ rest) = (st', .ok p rest) ∧ ReprIp d' st' :=
  C05_partial c (by rw [hc]; exact C05_generated_tables) (C05_generated_noProto c hc) h10
    names v9 v9' d d' st m p rest hr hconf hexp

/-- the trace of one call on a concatenation of conformant messages -/
theorem C05_stream_run (c : Config) (ht : c.t.ipfixOk = true) (hnp : NoProto c) (h10 : c.allowed.contains 10 = true)
    (names : List (Nat × String)) :
    ∀ (ms : List IpMsg) (D D' : Defs) (st : PState) (pkts : List Packet),
      ReprIp D.ip st → C05ConformantStream c D.ip ms = true →
      expMsgs c names D (ms.map .ipfix) = some (D', pkts.map .pkt) →
      ∃ st', Run c st (ms.flatMap encIpfix) st' pkts ∧ ReprIp D'.ip st' := by
  intro ms
  induction ms with
  | nil =>
    intro D D' st pkts hr _ hexp
    simp only [List.map_nil, expMsgs, Option.some.injEq, Prod.mk.injEq, List.nil_eq, List.map_eq_nil_iff] at hexp
    obtain ⟨rfl, rfl⟩ := hexp
    exact ⟨st, .nil st, hr⟩
  | cons m ms ih =>
    intro D D' st pkts hr hconf hexp
    simp only [List.map_cons, expMsgs] at hexp
    cases h1 : expMsg c names D (.ipfix m) with
    | none => simp [h1] at hexp
    | some x =>
      obtain ⟨D1, e1⟩ := x
      simp only [h1] at hexp
      cases h2 : expMsgs c names D1 (ms.map .ipfix) with
      | none => simp [h2] at hexp
      | some y =>
        obtain ⟨D2, es⟩ := y
        simp only [h2, Option.some.injEq, Prod.mk.injEq] at hexp
        obtain ⟨rfl, e3⟩ := hexp
        cases pkts with
        | nil => simp at e3
        | cons p pkts' =>
          simp only [List.map_cons, List.cons.injEq] at e3
          obtain ⟨rfl, rfl⟩ := e3
          obtain ⟨ss, g1, _, rfl, g4⟩ := expMsg_ipfix_inv c names D D1 m p h1
          simp only [C05ConformantStream, Bool.and_eq_true] at hconf
          rw [← g4] at hconf
          obtain ⟨st1, hp, hr1⟩ := parsePacket_encIpfix c names ht hnp h10 D.ip st m D1.ip ss (ms.flatMap encIpfix)
            hr hconf.1 g1
          obtain ⟨st2, hrun, hr2⟩ := ih D1 D2 st1 pkts' hr1 hconf.2 h2
          exact ⟨st2, .ok hp hrun, hr2⟩

/-- **C05 for a stream of IPFIX messages through `parse_bytes`**: a concatenation of conformant
    messages is decoded into exactly the expected packets, in order, and the final caches represent
    the final template memory (same extra hypotheses as `C05_partial`, threaded through the stream) -/
theorem C05_stream_partial (c : Config) (ht : c.t.ipfixOk = true) (hnp : NoProto c) (h10 : c.allowed.contains 10 = true)
    (names : List (Nat × String)) (ms : List IpMsg) (D D' : Defs) (st : PState) (pkts : List Packet)
    (hr : ReprIp D.ip st) (hconf : C05ConformantStream c D.ip ms = true)
    (hexp : expMsgs c names D (ms.map .ipfix) = some (D', pkts.map .pkt)) :
    ∃ st', parseBytes c st (ms.flatMap encIpfix) = (st', .done pkts) ∧ ReprIp D'.ip st' :=
  (C05_stream_run c ht hnp h10 names ms D D' st pkts hr hconf hexp).imp fun _ h => ⟨parseBytes_done_iff.mpr h.1, h.2⟩

/-- non-vacuity of `C05_stream_partial`: the template set and the data set of `C05_good` sent as two
    separate messages (the second relies on the cache filled by the first) -/
example :
    let ms : List IpMsg := [ { exportTime := 1, seq := 2, odid := 3, sets := [.templates [{ id := 256, fields := [{ typ := 4, len := 1, ent := none }] }] []] },
                            { exportTime := 4, seq := 5, odid := 3, sets := [.data 256 [[⟨[6], .fixed⟩], [⟨[17], .fixed⟩]] []] } ]
    C05ConformantStream { t := Generated.tables, allowed := [10] } [] ms = true ∧
    (match expMsgs { t := Generated.tables, allowed := [10] } Generated.protoNames {} (ms.map .ipfix) with
     | some (_, [.pkt _, .pkt _]) => true
     | _ => false) = true := by
  decide +kernel

/-- the data-set hypothesis of `C05Conformant` implies absence of the known-finding class
    "ipfix-varlen-tail" (`Findings.varlenTail`) -/
theorem C05_conformant_not_varlenTail (c : Config) (fs : List IpTField) (recs : List (List FieldBytes)) (pad : Bytes)
    (h : ipDataConf c fs recs pad = true) : Findings.varlenTail recs pad = false := by
  simp only [ipDataConf, Bool.and_eq_true] at h
  exact recLoopOk_not_varlenTail recs pad h.2

def C05_cfg : Config := { t := Generated.tables, allowed := Generated.defaultAllowed }
def C05_cfgOff : Config := { t := Generated.tables, allowed := Generated.defaultAllowed, unknownFields := false }
def C05_msg (sets : List IpFS) : IpMsg := { exportTime := 1, seq := 2, odid := 3, sets := sets }

def C05_fU4 : IpTField := { typ := 1, len := 4, ent := none }        -- octetDeltaCount, 4 bytes
def C05_fU1 : IpTField := { typ := 4, len := 1, ent := none }        -- protocolIdentifier, 1 byte
def C05_fStr : IpTField := { typ := 82, len := 65535, ent := none }  -- interfaceName, variable length
def C05_fEnt : IpTField := { typ := 5, len := 2, ent := some 9 }     -- enterprise 9, element 5, 2 bytes
def C05_fEntVar : IpTField := { typ := 1, len := 65535, ent := some 9 }

/-- non-vacuity: a template set (fixed field, variable-length field, enterprise field; 2 padding
    bytes), a data set with two records (short-form lengths) and padding, an options template set
    with 9 padding bytes, an options data set using the long length form -/
def C05_good : IpMsg := C05_msg
  [ .templates [{ id := 256, fields := [C05_fU4, C05_fStr, C05_fEnt] }] [0, 0],
    .data 256 [[⟨[0, 0, 1, 0], .fixed⟩, ⟨[101, 116, 104], .short⟩, ⟨[1, 2], .fixed⟩],
               [⟨[0, 0, 2, 0], .fixed⟩, ⟨[108, 111], .short⟩, ⟨[3, 4], .fixed⟩]] [0, 0],
    .optTemplates [{ id := 257, scopeCount := 1, fields := [C05_fU4, C05_fStr] }] [0, 0, 0, 0, 0, 0, 0, 0, 0],
    .data 257 [[⟨[0, 0, 0, 9], .fixed⟩, ⟨[65, 66, 67], .long⟩]] [] ]

/-- non-vacuity of `C05_partial` / `C05_generated`: the hypotheses are met by `C05_good` from the
    empty state (and the conclusion is confirmed by evaluation) -/
example : C05_cfg.t.ipfixOk = true ∧ C05_cfg.allowed.contains 10 = true ∧ ReprIp [] {} ∧
    C05Conformant C05_cfg [] C05_good = true ∧ c05Applies C05_cfg Generated.protoNames [] C05_good = true ∧
    c05Holds C05_cfg Generated.protoNames [] {} C05_good [9, 9] = true :=
  ⟨C05_generated_tables, by decide, ReprIp.empty, by decide +kernel, by decide +kernel⟩

/-- (1) variable-length records of 3 and 2 bytes: after the first record only 2 < 3 bytes remain, the
    loop stops, the second record is reported as padding -/
def C05_varlenTailMsg : IpMsg := C05_msg
  [ .templates [{ id := 256, fields := [C05_fEntVar] }] [],
    .data 256 [[⟨[1, 2], .short⟩], [⟨[3], .short⟩]] [] ]

theorem C05_varlenTail_fails :
    c05Applies C05_cfg Generated.protoNames [] C05_varlenTailMsg = true ∧
    c05Holds C05_cfg Generated.protoNames [] {} C05_varlenTailMsg [] = false ∧
    Findings.varlenTail [[⟨[1, 2], .short⟩], [⟨[3], .short⟩]] [] = true ∧
    (parsePacket C05_cfg {} (encIpfix C05_varlenTailMsg)).2 =
      .ok (.ipfix [10, 41, 1, 2, 3]
        [ { id := 2, len := 16, body := .template { id := 256, fieldCount := 1, fields := [C05_fEntVar], pad := [] } },
          { id := 256, len := 9, body := .data [[(0, 503, .vec [1, 2])]] [1, 3] } ]) [] := by
  decide +kernel

/-- **the full-strength statement is false of the model** -/
theorem C05_full_fails : ¬ C05_full := by
  intro h
  have h1 := C05_full_holds h C05_cfg rfl (by decide) Generated.protoNames [] {} C05_varlenTailMsg [] ReprIp.empty
  have h2 := C05_varlenTail_fails.2.1
  rw [h1] at h2
  exact absurd h2 (by decide)

/-- (2) a signed 8-byte field (element 434) holding 2^32 is reported as `I32(0)` -/
def C05_signedWideMsg : IpMsg := C05_msg
  [ .templates [{ id := 256, fields := [{ typ := 434, len := 8, ent := none }] }] [],
    .data 256 [[⟨[0, 0, 0, 1, 0, 0, 0, 0], .fixed⟩]] [] ]

theorem C05_signedWide_fails :
    c05Applies C05_cfg Generated.protoNames [] C05_signedWideMsg = true ∧
    c05Holds C05_cfg Generated.protoNames [] {} C05_signedWideMsg [] = false ∧
    Findings.signedWide [0, 0, 0, 1, 0, 0, 0, 0] = true ∧
    (parsePacket C05_cfg {} (encIpfix C05_signedWideMsg)).2 =
      .ok (.ipfix [10, 40, 1, 2, 3]
        [ { id := 2, len := 12, body := .template { id := 256, fieldCount := 1, fields := [{ typ := 434, len := 8, ent := none }], pad := [] } },
          { id := 256, len := 12, body := .data [[(0, 434, .num (.i32 0))]] [] } ]) [] := by
  decide +kernel

/-- (premise) a template set with two template records (RFC 7011 §3.4.1) is outside the `.pkt` premise
    (`inexpressible`); the model reports ONE template 256 whose field list swallows the second
    record's header `(257, 1)` as a field specifier, and template 257 is never cached -/
def C05_multiTemplateMsg : IpMsg := C05_msg
  [ .templates [{ id := 256, fields := [C05_fU4] }, { id := 257, fields := [C05_fU1] }] [] ]

theorem C05_multiTemplate_fails :
    c05Applies C05_cfg Generated.protoNames [] C05_multiTemplateMsg = false ∧
    (expMsg C05_cfg Generated.protoNames {} (.ipfix C05_multiTemplateMsg)).map (·.2) = some (.inexpressible 10) ∧
    parsePacket C05_cfg {} (encIpfix C05_multiTemplateMsg) =
      ({ ipT := [(256, { id := 256, fieldCount := 1, fields := [C05_fU4, { typ := 257, len := 1, ent := none }, C05_fU1], pad := [] })] },
       .ok (.ipfix [10, 36, 1, 2, 3]
        [ { id := 2, len := 20, body := .template { id := 256, fieldCount := 1, fields := [C05_fU4, { typ := 257, len := 1, ent := none }, C05_fU1], pad := [] } } ]) []) := by
  decide +kernel

/-- (3) four zero padding bytes after a template record are read as a further field `(0, 0)` -/
def C05_templatePadMsg : IpMsg := C05_msg [ .templates [{ id := 256, fields := [C05_fU4] }] [0, 0, 0, 0] ]

theorem C05_templatePad_fails :
    c05Applies C05_cfg Generated.protoNames [] C05_templatePadMsg = true ∧
    c05Holds C05_cfg Generated.protoNames [] {} C05_templatePadMsg [] = false ∧
    padStopsFields [0, 0, 0, 0] = false ∧
    (parsePacket C05_cfg {} (encIpfix C05_templatePadMsg)).2 =
      .ok (.ipfix [10, 32, 1, 2, 3]
        [ { id := 2, len := 16, body := .template { id := 256, fieldCount := 1, fields := [C05_fU4, { typ := 0, len := 0, ent := none }], pad := [] } } ]) [] := by
  decide +kernel

/-- (1) data-set padding as long as the last record is decoded as one more record -/
def C05_dataPadMsg : IpMsg := C05_msg
  [ .templates [{ id := 256, fields := [C05_fU1] }] [], .data 256 [[⟨[7], .fixed⟩]] [0] ]

theorem C05_dataPad_fails :
    c05Applies C05_cfg Generated.protoNames [] C05_dataPadMsg = true ∧
    c05Holds C05_cfg Generated.protoNames [] {} C05_dataPadMsg [] = false ∧
    recLoopOk [1] 1 = false ∧
    (parsePacket C05_cfg {} (encIpfix C05_dataPadMsg)).2 =
      .ok (.ipfix [10, 34, 1, 2, 3]
        [ { id := 2, len := 12, body := .template { id := 256, fieldCount := 1, fields := [C05_fU1], pad := [] } },
          { id := 256, len := 6, body := .data [[(0, 4, .num (.u8 7))], [(0, 4, .num (.u8 0))]] [] } ]) [] := by
  decide +kernel

/-- (1) a data set without records does not decode, and every later set of the message (here a
    template set) is silently dropped -/
def C05_noRecordsMsg : IpMsg := C05_msg
  [ .templates [{ id := 256, fields := [C05_fU1] }] [], .data 256 [] [],
    .templates [{ id := 257, fields := [C05_fU1] }] [] ]

theorem C05_noRecords_fails :
    c05Applies C05_cfg Generated.protoNames [] C05_noRecordsMsg = true ∧
    c05Holds C05_cfg Generated.protoNames [] {} C05_noRecordsMsg [] = false ∧
    parsePacket C05_cfg {} (encIpfix C05_noRecordsMsg) =
      ({ ipT := [(256, { id := 256, fieldCount := 1, fields := [C05_fU1], pad := [] })] },
       .ok (.ipfix [10, 44, 1, 2, 3]
        [ { id := 2, len := 12, body := .template { id := 256, fieldCount := 1, fields := [C05_fU1], pad := [] } } ]) []) := by
  decide +kernel

/-- (4) a template without a field of non-zero length (here: a template withdrawal, RFC 7011 §8.1)
    is rejected (`is_valid`), and every later set of the message is silently dropped -/
def C05_withdrawalMsg : IpMsg := C05_msg
  [ .templates [{ id := 256, fields := [] }] [], .templates [{ id := 257, fields := [C05_fU1] }] [] ]

theorem C05_withdrawal_fails :
    c05Applies C05_cfg Generated.protoNames [] C05_withdrawalMsg = true ∧
    c05Holds C05_cfg Generated.protoNames [] {} C05_withdrawalMsg [] = false ∧
    parsePacket C05_cfg {} (encIpfix C05_withdrawalMsg) = ({}, .ok (.ipfix [10, 36, 1, 2, 3] []) []) := by
  decide +kernel

/-- (6) the abstract message allows an export time of 2^32, the wire carries it modulo 2^32
    (a looseness of `Spec.expMsg`, not a crate defect) -/
theorem C05_headerRange_fails :
    c05Applies C05_cfg Generated.protoNames [] { exportTime := 4294967296, seq := 2, odid := 3, sets := [] } = true ∧
    c05Holds C05_cfg Generated.protoNames [] {} { exportTime := 4294967296, seq := 2, odid := 3, sets := [] } [] = false := by
  decide +kernel

/-- (6) `Spec.expIpSet` accepts a data set whose id is below 256 when a template with that id was
    announced; on the wire set id 2 is a template set (a looseness of the specification) -/
def C05_lowIdMsg : IpMsg := C05_msg
  [ .templates [{ id := 2, fields := [C05_fU1] }] [], .data 2 [[⟨[7], .fixed⟩]] [] ]

theorem C05_lowId_fails :
    c05Applies C05_cfg Generated.protoNames [] C05_lowIdMsg = true ∧
    c05Holds C05_cfg Generated.protoNames [] {} C05_lowIdMsg [] = false := by
  decide +kernel

/-- (4) an options template whose scope count exceeds its field count: the crate asks for
    `scope + field_count` field specifiers, fails, and drops the set and everything after it -/
def C05_scopeCountMsg : IpMsg := C05_msg [ .optTemplates [{ id := 256, scopeCount := 2, fields := [C05_fU1] }] [] ]

theorem C05_scopeCount_fails :
    c05Applies C05_cfg Generated.protoNames [] C05_scopeCountMsg = true ∧
    c05Holds C05_cfg Generated.protoNames [] {} C05_scopeCountMsg [] = false ∧
    (parsePacket C05_cfg {} (encIpfix C05_scopeCountMsg)).2 = .ok (.ipfix [10, 30, 1, 2, 3] []) [] := by
  decide +kernel

/-- (5) with the `parse_unknown_fields` feature off, a data set governed by a template containing
    an element the library does not know (65) does not decode; with the feature on it does -/
def C05_unknownMsg : IpMsg := C05_msg
  [ .templates [{ id := 256, fields := [{ typ := 65, len := 1, ent := none }] }] [], .data 256 [[⟨[7], .fixed⟩]] [] ]

theorem C05_unknownOff_fails :
    c05Applies C05_cfgOff Generated.protoNames [] C05_unknownMsg = true ∧
    c05Holds C05_cfgOff Generated.protoNames [] {} C05_unknownMsg [] = false ∧
    C05Conformant C05_cfgOff [] C05_unknownMsg = false ∧
    C05Conformant C05_cfg [] C05_unknownMsg = true ∧
    c05Holds C05_cfg Generated.protoNames [] {} C05_unknownMsg [] = true := by
  decide +kernel

/-- (1) a record that occupies no bytes ends the loop (`total_taken == 0 → break`): with a cached
    template whose only field has length 0 (not reachable through the parser, which rejects such
    templates, but allowed by `ReprIp`), two empty records are reported as one -/
theorem C05_zeroSizeRecord_fails :
    let f : IpTField := { typ := 1, len := 0, ent := some 9 }
    let st : PState := { ipT := [(256, { id := 256, fieldCount := 1, fields := [f], pad := [] })] }
    let d : List (Nat × IpDef) := [(256, .t { id := 256, fields := [f] })]
    let m : IpMsg := C05_msg [ .data 256 [[⟨[], .fixed⟩], [⟨[], .fixed⟩]] [] ]
    (∀ id, amLookup id d = absIp st id) ∧
    c05Applies C05_cfg Generated.protoNames d m = true ∧
    c05Holds C05_cfg Generated.protoNames d st m [] = false ∧
    recLoopOk [0, 0] 0 = false := by
  refine ⟨?_, by decide +kernel, by decide +kernel, by decide⟩
  intro id
  by_cases h : id = 256
  · subst h; rfl
  · simp [amLookup, absIp, h]

/-- the value decoder of the model IS the interpretation (`Arms.lean`) of the arms of `FieldValue::from_field_type`
    that `tools/translate.py` regenerates from data_number.rs on every run: which reader, which constructor and which duration unit each library type uses. -/
theorem C05_value_arms_generated (c : ValueCfg) (ty : FType) (len : Nat) (i : Bytes) :
    parseValue c ty len i = parseValueBy Generated.valueArms c ty len i :=
  G1.parseValue_eq_generated c ty len i

end Netflow.Props
