/-
  Props/C06.lean — C06 on the model, the part that holds for ARBITRARY bytes: frame conditions
  (what can change the template caches), isolation between the two protocols, persistence (no
  eviction) and "the latest definition wins".  Split independence is C11.
-/
import NetflowModel.Lemmas.State
import NetflowModel.Props.C02
import NetflowModel.Lemmas.GenTables
namespace Netflow.Props
open Netflow Preds

/-- a buffer with fewer than two bytes, a version that is not allowed, a version without
    dispatch arm, and every arm other than the V9 / IPFIX ones (V5, V7) leave all four caches
    untouched — whatever the rest of the bytes is. -/
theorem C06_fixed_frame (c : Config) (st st' : PState) (buf : Bytes) (s : Step)
    (h : parsePacket c st buf = (st', s))
    (hk : match versionOf buf with
          | none => True
          | some v => c.allowed.contains v = false ∨ ∀ k, c.t.dispatch.lookup v = some k → k ≠ 9 ∧ k ≠ 10) :
    st' = st := by
  rcases parsePacket_inv c st st' buf s h with ⟨_, e, _⟩ | ⟨_, _, _, e, _⟩ | ⟨_, _, _, _, e, _⟩ | ⟨v, k, hv, ha, hd, hp⟩
  · exact e
  · exact e
  · exact e
  · simp only [versionOf, hv] at hk
    rcases hk with hk | hk
    · rw [ha] at hk; simp at hk
    · obtain ⟨h9, h10⟩ := hk k hd
      have := parseVersioned_frame c st k (buf.drop 2) h9 h10
      rw [hp] at this
      exact this

/-- instance for the generated dispatch table: version words 5 and 7 (and every word other than
    9 and 10) never change the caches -/
theorem C06_fixed_frame_generated (allowed : List Nat) (uf : Bool) (st st' : PState) (buf : Bytes) (s : Step) (v : Nat)
    (h : parsePacket { t := Generated.tables, allowed := allowed, unknownFields := uf } st buf = (st', s))
    (hv : versionOf buf = some v) (h9 : v ≠ 9) (h10 : v ≠ 10) : st' = st := by
  apply C06_fixed_frame _ st st' buf s h
  rw [hv]
  right
  intro k hk
  have := (Tables.framingOk_inv C02_generated_framing).2.2.2 _ (lookup_mem hk)
  simp only at this
  omega

/-- a whole call: a buffer whose first version word is not allowed changes nothing and returns
    nothing -/
theorem C06_disallowed_frame (c : Config) (st : PState) (buf : Bytes) (v : Nat)
    (hv : versionOf buf = some v) (ha : c.allowed.contains v = false) :
    parseBytes c st buf = (st, .done []) :=
  parseBytes_done_iff.2 (.unallowed (versionOf_ne_nil hv) (parsePacket_unallowed (versionOf_eq_some.1 hv) ha))

/-- V9 input never touches the IPFIX caches -/
theorem C06_v9_touches_only_v9 (c : Config) (st : PState) (i : Bytes) :
    (parseV9 c st i).1.ipT = st.ipT ∧ (parseV9 c st i).1.ipO = st.ipO :=
  parseV9_pres (I := fun s => s.ipT = st.ipT ∧ s.ipO = st.ipO)
    (fun s id b hI => by
      obtain ⟨f1, f2⟩ := v9ParseBody_ip_frame c s id b
      exact ⟨f1.trans hI.1, f2.trans hI.2⟩) st i ⟨rfl, rfl⟩

/-- IPFIX input never touches the V9 caches -/
theorem C06_ipfix_touches_only_ipfix (c : Config) (st : PState) (i : Bytes) :
    (parseIpfix c st i).1.v9T = st.v9T ∧ (parseIpfix c st i).1.v9O = st.v9O :=
  parseIpfix_pres (I := fun s => s.v9T = st.v9T ∧ s.v9O = st.v9O)
    (fun s id b hI => by
      obtain ⟨f1, f2⟩ := ipParseBody_v9_frame c s id b
      exact ⟨f1.trans hI.1, f2.trans hI.2⟩) st i ⟨rfl, rfl⟩

/-- the V9 parser's result, and the V9 maps it leaves behind, depend only on the V9
    maps: nothing learned from IPFIX input is visible to V9 decoding. -/
theorem C06_v9_reads_only_v9 (c : Config) (s1 s2 : PState) (i : Bytes) (h : AgreeV9 s1 s2) :
    (parseV9 c s1 i).2 = (parseV9 c s2 i).2 ∧ AgreeV9 (parseV9 c s1 i).1 (parseV9 c s2 i).1 :=
  parseV9_rel (v9ParseBody_respects_agree c) s1 s2 i h

/-- symmetric: IPFIX decoding depends only on the IPFIX maps -/
theorem C06_ipfix_reads_only_ipfix (c : Config) (s1 s2 : PState) (i : Bytes) (h : AgreeIp s1 s2) :
    (parseIpfix c s1 i).2 = (parseIpfix c s2 i).2 ∧ AgreeIp (parseIpfix c s1 i).1 (parseIpfix c s2 i).1 :=
  parseIpfix_rel (ipParseBody_respects_agree c) s1 s2 i h

/-- consequence of `C06_v9_touches_only_v9` and `C06_v9_reads_only_v9`: swapping in ANY IPFIX caches changes neither what a V9 packet decodes
    to nor the V9 caches afterwards -/
theorem C06_v9_isolated (c : Config) (st : PState) (ipT : List (Nat × IpTemplate)) (ipO : List (Nat × IpOptTemplate))
    (i : Bytes) :
    (parseV9 c { st with ipT := ipT, ipO := ipO } i).2 = (parseV9 c st i).2 ∧
    (parseV9 c { st with ipT := ipT, ipO := ipO } i).1 =
      { (parseV9 c st i).1 with ipT := ipT, ipO := ipO } := by
  obtain ⟨e, a⟩ := C06_v9_reads_only_v9 c { st with ipT := ipT, ipO := ipO } st i ⟨rfl, rfl⟩
  exact ⟨e, PState.eq_of_agree a (C06_v9_touches_only_v9 c { st with ipT := ipT, ipO := ipO } i)⟩

theorem C06_ipfix_isolated (c : Config) (st : PState) (v9T : List (Nat × V9Template)) (v9O : List (Nat × V9OptTemplate))
    (i : Bytes) :
    (parseIpfix c { st with v9T := v9T, v9O := v9O } i).2 = (parseIpfix c st i).2 ∧
    (parseIpfix c { st with v9T := v9T, v9O := v9O } i).1 =
      { (parseIpfix c st i).1 with v9T := v9T, v9O := v9O } := by
  obtain ⟨e, a⟩ := C06_ipfix_reads_only_ipfix c { st with v9T := v9T, v9O := v9O } st i ⟨rfl, rfl⟩
  exact ⟨e, PState.eq_of_agree (C06_ipfix_touches_only_ipfix c { st with v9T := v9T, v9O := v9O } i) a⟩

/-- with a set header that occupies bytes (true of the generated layout) the IPFIX set loop never
    reports an error: it just stops -/
theorem C06_ipfix_sets_never_err (c : Config) (hw : 0 < c.t.ipSetHdr.wireLen) (f : Nat) (st : PState) (i : Bytes) :
    (ipParseSets c f st i).2 ≠ .err :=
  ipParseSets_no_err c hw f st i

/-- an IPFIX message that is reported as an error (header incomplete, or fewer bytes
    than its length field announces — the `take` precedes all set parsing) changes nothing. -/
theorem C06_ipfix_truncated_frame (c : Config) (hf : c.t.framingOk = true) (st st' : PState) (i : Bytes)
    (h : parseIpfix c st i = (st', .err)) : st' = st := by
  obtain ⟨_, _, hw, _⟩ := Tables.framingOk_inv hf
  rcases parseIpfix_err_inv h with ⟨e, _⟩ | ⟨_, _, _, _, _, _, hs⟩
  · exact e
  · exact absurd (congrArg Prod.snd hs) (ipParseSets_no_err c (by omega) _ _ _)

/-- for the generated tables -/
theorem C06_ipfix_truncated_frame_generated (allowed : List Nat) (uf : Bool) (st st' : PState) (i : Bytes)
    (h : parseIpfix { t := Generated.tables, allowed := allowed, unknownFields := uf } st i = (st', .err)) : st' = st :=
  C06_ipfix_truncated_frame { t := Generated.tables, allowed := allowed, unknownFields := uf } C02_generated_framing st st' i h

/-- truncation, explicitly: fewer bytes than header + announced length ⇒ error, state unchanged -/
theorem C06_ipfix_short_is_err (c : Config) (hf : c.t.framingOk = true) (st : PState) (i : Bytes)
    (hs : i.length < 14 ∨ ∃ hd r, parseLayout c.t.protoFromU8 c.t.ipHdr i = some (hd, r) ∧
            r.length < c.t.ipHdr.get "length" hd - 16) :
    parseIpfix c st i = (st, .err) := by
  obtain ⟨_, hw, _, _⟩ := Tables.framingOk_inv hf
  unfold parseIpfix
  rcases hs with hs | ⟨hd, r, hp, hl⟩
  · have := (parseLayout_none_iff c.t.protoFromU8 c.t.ipHdr i).2 (by omega)
    simp [this]
  · simp only [hp]
    have : takeN (c.t.ipHdr.get "length" hd - 16) r = none := by simp [takeN]; omega
    simp [this]

/-- a set body that does not parse (in particular a template record that ends early)
    leaves the state unchanged — V9 and IPFIX -/
theorem C06_failed_body_frame (c : Config) (st : PState) (id : Nat) (b : Bytes) :
    ((v9ParseBody c st id b).2 = .err → (v9ParseBody c st id b).1 = st) ∧
    ((ipParseBody c st id b).2 = .err → (ipParseBody c st id b).1 = st) :=
  ⟨fun h => v9ParseBody_err_frame c st id b (by rw [h]; simp),
   fun h => ipParseBody_err_frame c st id b (by rw [h]; simp)⟩

/-- data sets never change the state (whatever they contain, decodable or not) -/
theorem C06_data_set_frame (c : Config) (st : PState) (id : Nat) (b : Bytes) :
    (id ≠ c.t.v9TemplateId → id ≠ c.t.v9OptTemplateId → (v9ParseBody c st id b).1 = st) ∧
    (c.t.ipSetMinRange ≤ id → id ≠ c.t.ipOptTemplateId → (ipParseBody c st id b).1 = st) :=
  ⟨v9ParseBody_data_frame c st id b, ipParseBody_data_frame c st id b⟩

/-- an id known to the V9 decoder (as template or options template — a redefinition with
    the other kind MOVES it to the sibling map) is still known after any further input. -/
theorem C06_never_evicted_v9 (c : Config) (st : PState) (buf : Bytes) (id : Nat) (h : KnownV9 st id) :
    KnownV9 (parseBytes c st buf).1 id :=
  parseBytes_pres (I := fun s => KnownV9 s id) (fun s i b hI => v9ParseBody_known c id s i b hI)
    (fun s i b hI => ipParseBody_knownV9 c id s i b hI) st buf h

theorem C06_never_evicted_ipfix (c : Config) (st : PState) (buf : Bytes) (id : Nat) (h : KnownIp st id) :
    KnownIp (parseBytes c st buf).1 id :=
  parseBytes_pres (I := fun s => KnownIp s id) (fun s i b hI => v9ParseBody_knownIp c id s i b hI)
    (fun s i b hI => ipParseBody_known c id s i b hI) st buf h

/-- both, over a whole history of calls -/
theorem C06_never_evicted (c : Config) (st : PState) (hist : List Bytes) (id : Nat) :
    (KnownV9 st id → KnownV9 (hist.foldl (fun s b => (parseBytes c s b).1) st) id) ∧
    (KnownIp st id → KnownIp (hist.foldl (fun s b => (parseBytes c s b).1) st) id) := by
  induction hist generalizing st with
  | nil => exact ⟨fun h => h, fun h => h⟩
  | cons b bs ih =>
    simp only [List.foldl_cons]
    exact ⟨fun h => (ih _).1 (C06_never_evicted_v9 c st b id h), fun h => (ih _).2 (C06_never_evicted_ipfix c st b id h)⟩

/-- the maps stay canonical (strictly sorted keys: at most one definition per id and kind) -/
theorem C06_state_wf (c : Config) (st : PState) (buf : Bytes) (h : StateWf st) : StateWf (parseBytes c st buf).1 :=
  parseBytes_pres (I := StateWf) (fun s i b hI => v9ParseBody_wf c s i b hI) (fun s i b hI => ipParseBody_wf c s i b hI) st buf h

theorem C06_state_wf_empty : StateWf {} := StateWf_empty

/-- V9 template flowset: after inserting the templates `pre ++ t :: post` where no
    template in `post` redefines `t.id`, the id maps to `t`, and (canonical maps) it is no longer
    an options-template id. -/
theorem C06_latest_wins_v9 (st : PState) (pre post : List V9Template) (t : V9Template)
    (hlast : ∀ u ∈ post, u.id ≠ t.id) :
    amLookup t.id (insertV9Templates st (pre ++ t :: post)).v9T = some t ∧
    (amSorted st.v9O → amLookup t.id (insertV9Templates st (pre ++ t :: post)).v9O = none) := by
  rw [insertV9Templates_eq, List.map_append, List.map_cons]
  obtain ⟨h1, h2⟩ := insErase_latest (pre.map fun t => (t.id, t)) (post.map fun t => (t.id, t)) t.id t (st.v9T, st.v9O)
    (keys_ne_of_forall_ne V9Template.id hlast)
  exact ⟨h1, fun hs => h2 ((insErase_sorted (pre.map fun t => (t.id, t)) (st.v9T, st.v9O)).2 hs)⟩

/-- ids not mentioned in a template flowset keep their definition (both kinds) -/
theorem C06_others_kept_v9 (st : PState) (ts : List V9Template) (id : Nat) (h : ∀ u ∈ ts, u.id ≠ id) :
    amLookup id (insertV9Templates st ts).v9T = amLookup id st.v9T ∧
    amLookup id (insertV9Templates st ts).v9O = amLookup id st.v9O :=
  insertV9Templates_other id ts st h

/-- V9 options-template flowset, symmetric -/
theorem C06_latest_wins_v9_opt (st : PState) (pre post : List V9OptTemplate) (t : V9OptTemplate)
    (hlast : ∀ u ∈ post, u.id ≠ t.id) :
    amLookup t.id (insertV9OptTemplates st (pre ++ t :: post)).v9O = some t ∧
    (amSorted st.v9T → amLookup t.id (insertV9OptTemplates st (pre ++ t :: post)).v9T = none) := by
  rw [insertV9OptTemplates_eq, List.map_append, List.map_cons]
  obtain ⟨h1, h2⟩ := insErase_latest (pre.map fun t => (t.id, t)) (post.map fun t => (t.id, t)) t.id t (st.v9O, st.v9T)
    (keys_ne_of_forall_ne V9OptTemplate.id hlast)
  exact ⟨h1, fun hs => h2 ((insErase_sorted (pre.map fun t => (t.id, t)) (st.v9O, st.v9T)).2 hs)⟩

theorem C06_others_kept_v9_opt (st : PState) (ts : List V9OptTemplate) (id : Nat) (h : ∀ u ∈ ts, u.id ≠ id) :
    amLookup id (insertV9OptTemplates st ts).v9T = amLookup id st.v9T ∧
    amLookup id (insertV9OptTemplates st ts).v9O = amLookup id st.v9O :=
  insertV9OptTemplates_other id ts st h

/-- IPFIX template set (one template per set): when the set parses, its template is the
    definition of its id, the id is no longer an options-template id, all other ids are unchanged -/
theorem C06_latest_wins_ipfix (c : Config) (st st' : PState) (id : Nat) (b : Bytes) (t : IpTemplate)
    (h : ipParseBody c st id b = (st', .ok (.template t))) :
    amLookup t.id st'.ipT = some t ∧ (amSorted st.ipO → amLookup t.id st'.ipO = none) ∧
    (∀ k, k ≠ t.id → amLookup k st'.ipT = amLookup k st.ipT ∧ amLookup k st'.ipO = amLookup k st.ipO) ∧
    ipValid t.fields = true := by
  rcases ipParseBody_ok_inv h with ⟨_, _, t', _, hv, e, hb⟩ | ⟨_, _, _, _, _, hb⟩ |
    ⟨_, _, _, _, _, _, _, _, ⟨_, _, _, hb⟩ | ⟨_, _, _, _, hb⟩⟩
  · cases hb
    subst e
    refine ⟨by simp [amLookup_amInsert], fun hs => amLookup_amErase_self _ hs, fun k hk => ?_, hv⟩
    simp [amLookup_amInsert, hk, amLookup_amErase_ne hk]
  all_goals cases hb

theorem C06_latest_wins_ipfix_opt (c : Config) (st st' : PState) (id : Nat) (b : Bytes) (t : IpOptTemplate)
    (h : ipParseBody c st id b = (st', .ok (.optTemplate t))) :
    amLookup t.id st'.ipO = some t ∧ (amSorted st.ipT → amLookup t.id st'.ipT = none) ∧
    (∀ k, k ≠ t.id → amLookup k st'.ipT = amLookup k st.ipT ∧ amLookup k st'.ipO = amLookup k st.ipO) ∧
    ipValid t.fields = true := by
  rcases ipParseBody_ok_inv h with ⟨_, _, _, _, _, _, hb⟩ | ⟨_, t', _, hv, e, hb⟩ |
    ⟨_, _, _, _, _, _, _, _, ⟨_, _, _, hb⟩ | ⟨_, _, _, _, hb⟩⟩
  · cases hb
  · cases hb
    subst e
    refine ⟨by simp [amLookup_amInsert], fun hs => amLookup_amErase_self _ hs, fun k hk => ?_, hv⟩
    simp [amLookup_amInsert, hk, amLookup_amErase_ne hk]
  all_goals cases hb

/-- the V9 body parser installs exactly the templates it reports, in order -/
theorem C06_v9_templates_installed (c : Config) (st st' : PState) (id : Nat) (b : Bytes) (ts : List V9Template) (pad : Bytes)
    (h : v9ParseBody c st id b = (st', .ok (.templates ts pad))) : st' = insertV9Templates st ts := by
  rcases v9ParseBody_ok_inv h with ⟨_, _, _, _, e, hb⟩ | ⟨_, _, _, _, _, _, hb⟩ | ⟨_, _, _, _, _, _, _, _, _, _, _, hb⟩ |
    ⟨_, _, _, _, _, _, _, hb⟩
  · cases hb; exact e
  all_goals cases hb

theorem C06_v9_opt_templates_installed (c : Config) (st st' : PState) (id : Nat) (b : Bytes) (ts : List V9OptTemplate) (pad : Bytes)
    (h : v9ParseBody c st id b = (st', .ok (.optTemplates ts pad))) : st' = insertV9OptTemplates st ts := by
  rcases v9ParseBody_ok_inv h with ⟨_, _, _, _, _, hb⟩ | ⟨_, _, _, _, _, e, hb⟩ | ⟨_, _, _, _, _, _, _, _, _, _, _, hb⟩ |
    ⟨_, _, _, _, _, _, _, hb⟩
  · cases hb
  · cases hb; exact e
  all_goals cases hb

/-- **C06** a data flowset / set is decoded with exactly the CURRENT definition of its id: the result
    depends on the caches only through the two lookups of that id in the protocol's own maps
    (with `C06_latest_wins_*`: the most recent definition received, of either kind). -/
theorem C06_data_decoded_by_lookup (c : Config) (s1 s2 : PState) (id : Nat) (b : Bytes) :
    (id ≠ c.t.v9TemplateId → id ≠ c.t.v9OptTemplateId →
      amLookup id s1.v9T = amLookup id s2.v9T → amLookup id s1.v9O = amLookup id s2.v9O →
      (v9ParseBody c s1 id b).2 = (v9ParseBody c s2 id b).2) ∧
    (c.t.ipSetMinRange ≤ id → id ≠ c.t.ipOptTemplateId →
      amLookup id s1.ipT = amLookup id s2.ipT → amLookup id s1.ipO = amLookup id s2.ipO →
      (ipParseBody c s1 id b).2 = (ipParseBody c s2 id b).2) := by
  constructor
  · intro h1 h2 e1 e2
    unfold v9ParseBody
    simp only [h1, h2, ↓reduceIte, e1, e2]
    cases amLookup id s2.v9O with
    | some ot =>
      simp only
      cases v9ScopeLoop c ot.scope b with
      | none => rfl
      | some x =>
        simp only
        cases v9OptLoop c ot.opts x.2 with
        | none => rfl
        | some y => rfl
    | none =>
      simp only
      cases amLookup id s2.v9T with
      | some t => simp only; split <;> rfl
      | none => rfl
  · intro h1 h2 e1 e2
    have : ¬ (id < c.t.ipSetMinRange) := by omega
    unfold ipParseBody
    simp only [this, h2, false_and, ↓reduceIte, e1, e2]
    cases amLookup id s2.ipT with
    | some t =>
      simp only
      split
      · rfl
      · cases ipRecLoop c t.fields (b.length + 1) b <;> rfl
    | none =>
      simp only
      cases amLookup id s2.ipO with
      | some t =>
        simp only
        split
        · rfl
        · cases ipRecLoop c t.fields (b.length + 1) b <;> rfl
      | none => rfl

private def c06Cfg : Config := { t := Generated.tables, allowed := [5, 7, 9, 10] }
private def c06T (len : Nat) : V9Template := { id := 256, fieldCount := 1, fields := [{ typ := 1, len := len }] }
private def c06IpT : IpTemplate := { id := 256, fieldCount := 1, fields := [{ typ := 1, len := 3, ent := none }], pad := [] }
/-- a state with a template in each protocol's cache -/
private def c06St : PState := { v9T := [(256, c06T 3)], ipT := [(256, c06IpT)] }

/-- `C06_fixed_frame`: a V5 packet parsed in a non-empty state -/
example : parsePacket c06Cfg c06St [0, 5, 0, 0, 0, 0, 0, 1, 0, 0, 0, 2, 0, 0, 0, 3, 0, 0, 0, 4, 5, 6, 0, 7] =
    (c06St, .ok (.v5 [5, 0, 1, 2, 3, 4, 5, 6, 7] []) []) ∧
    versionOf [0, 5, 0, 0, 0, 0, 0, 1, 0, 0, 0, 2, 0, 0, 0, 3, 0, 0, 0, 4, 5, 6, 0, 7] = some 5 := by decide +kernel

/-- `C06_disallowed_frame`: version 9 while only 5 is allowed -/
example : versionOf [0, 9, 1, 2, 3] = some 9 ∧ ({ c06Cfg with allowed := [5] } : Config).allowed.contains 9 = false := by decide +kernel

/-- `C06_v9_reads_only_v9` / `C06_v9_isolated`: two states that agree on the V9 maps and differ
    on the IPFIX maps; the V9 data flowset decodes (identically) in both -/
example : AgreeV9 c06St { c06St with ipT := [] } ∧ c06St ≠ { c06St with ipT := [] } ∧
    (parseV9 c06Cfg c06St [0,1, 0,0,0,1, 0,0,0,2, 0,0,0,3, 0,0,0,4,  1,0, 0,8, 1,2,3, 0]).2 =
      .ok (.v9 [9, 1, 1, 2, 3, 4] [{ id := 256, len := 8, body := .data [[(0, 1, .num (.u24 66051))]] [0] }], []) :=
  ⟨⟨rfl, rfl⟩, by decide +kernel, by decide +kernel⟩

/-- `C06_ipfix_truncated_frame`: a message that announces 36 bytes but carries a complete template
    set and then ends: error (and, by the theorem, no template is learned) -/
example : parseIpfix c06Cfg {} [0,36, 0,0,0,1, 0,0,0,2, 0,0,0,3,   0,2, 0,12, 1,0, 0,1, 0,1, 0,3] = ({}, .err) := by decide +kernel

/-- `C06_never_evicted_*`: a known id -/
example : KnownV9 c06St 256 ∧ KnownIp c06St 256 := ⟨Or.inl rfl, Or.inl rfl⟩

/-- `C06_latest_wins_v9`: redefinition inside one flowset — the last of three definitions wins -/
example : amLookup 256 (insertV9Templates c06St ([c06T 1] ++ c06T 2 :: [{ c06T 9 with id := 300 }])).v9T = some (c06T 2) := by
  decide +kernel

/-- a redefinition with the other kind moves the id to the sibling map -/
example : (insertV9OptTemplates c06St [{ id := 256, scopeLen := 0, optLen := 0, scope := [], opts := [] }]).v9T = [] := by decide +kernel

/-- why `C06_latest_wins_*` ask for a canonical (sorted) sibling map: on a hand-built map with a
    duplicated key `amErase` removes only the first entry.  Every state reachable from `{}` is
    canonical (`C06_state_wf`). -/
example : amLookup 256 (amErase 256 [(256, c06T 1), (256, c06T 2)]) = some (c06T 2) := by decide +kernel

/-- `C06_latest_wins_ipfix`: an IPFIX template set redefining 256 (field length 3 → 2) -/
example : ipParseBody c06Cfg c06St 2 [1,0, 0,1, 0,1, 0,2] =
    ({ c06St with ipT := [(256, { c06IpT with fields := [{ typ := 1, len := 2, ent := none }] })] },
     .ok (.template { c06IpT with fields := [{ typ := 1, len := 2, ent := none }] })) := by decide +kernel

/-- `C06_state_wf`: a non-empty canonical state -/
example : StateWf c06St := by simp [StateWf, amSorted, c06St]

/-- `C06_ipfix_short_is_err`: second disjunct — header present, body shorter than announced -/
example : parseLayout c06Cfg.t.protoFromU8 c06Cfg.t.ipHdr [0,36, 0,0,0,1, 0,0,0,2, 0,0,0,3, 0,2] =
    some ([10, 36, 1, 2, 3], [0, 2]) := by decide +kernel

/-- `C06_v9_templates_installed`: a template flowset body with two records -/
example : (v9ParseBody c06Cfg {} 0 [1,0, 0,1, 0,1, 0,3,  1,1, 0,1, 0,2, 0,4]).2 =
    .ok (.templates [c06T 3, { id := 257, fieldCount := 1, fields := [{ typ := 2, len := 4 }] }] []) := by decide +kernel

/-- no global state (`generated_noGlobals`): the caches of one parser value are the ONLY state, nothing is shared between parser instances or kept per thread -/
theorem C06_no_global_state : Generated.noGlobals = true := generated_noGlobals


end Netflow.Props
