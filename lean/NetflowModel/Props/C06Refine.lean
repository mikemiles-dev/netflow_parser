/-
  Props/C06Refine.lean — the UNIFIED REFINEMENT theorem behind properties C04 + C05 + C06 + C11:

    the model of `NetflowParser` (template caches + `parse_bytes`) REFINES the specification's
    exporter-memory semantics (`Spec.Defs` + `Spec.expMsgs`), for every conformant HISTORY of calls,
    each call carrying any mix of V5, V7, V9 and IPFIX messages written by the RFC / Cisco writers
    `Spec.enc`.

  The statement without conformance hypotheses (`C06_refine_full`) is FALSE (witness: one V5 record
  with protocol number 1; the V9 / IPFIX witnesses are in C04 / C05).  Proved under `MsgConformant`:
  one message, one call, a history of calls (`B4.Refines`), and the corollaries (a) latest definition
  wins wherever it arrived, (b) independence of how the stream is cut into calls, (c) nothing learned
  for one protocol is visible to the other.  The proofs are projections of `B4.step` / `B4.history_refines`
  (Lemmas/Refinement.lean, which rests on C04, C05, C06 and C11).
-/
import NetflowModel.Lemmas.Refinement
namespace Netflow.Props
open Netflow Netflow.Spec Netflow.B4

/-- full strength: for the generated tables with all four versions allowed, EVERY history for which
    the specification expects a packet per message is refined call by call from the empty parser:
    call `k` returns exactly the expected packets and afterwards the caches represent the exporter
    memory (`B4.Refines`). -/
def C06_refine_full : Prop :=
  ∀ (c : Config), c.t = Generated.tables → c.allowed.contains 5 = true → c.allowed.contains 7 = true →
    c.allowed.contains 9 = true → c.allowed.contains 10 = true →
  ∀ (hist : List (List Msg)) (D' : Defs) (pkts : List Packet),
    expMsgs c Generated.protoNames {} hist.flatten = some (D', pkts.map .pkt) →
    Refines c Generated.protoNames {} {} hist

/-- **one message, any version** (PARTIAL: needs `MsgConformant`).  From a state representing the
    exporter memory `D` (both protocols), the bytes of a conformant message followed by ANY bytes are
    decoded to exactly the packet the specification expects from `D`; the state reached does not
    depend on the trailing bytes, represents the updated memory `D'` (both protocols), and the
    message touched only its own protocol's half (`B4.Untouched`): V5/V7 nothing at all.

    Missing for full strength: `MsgConformant` = `C04Conformant` (V9), `C05Conformant` (IPFIX) — see
    the `C04_*_fails` / `C05_*_fails` witnesses — and for V5/V7 `B4.fixedConf`: values within their
    Cisco field widths, fewer than 65536 records, and no record whose protocol number is named
    wrongly by `From<u8> for ProtocolTypes` (0, 1, 144, 255 for the generated tables:
    `B4.protoAgree_generated_fails`, `C06_refine_v5_proto_fails`). -/
theorem C06_refine_step_partial (c : Config) (names : List (Nat × String)) (H : SideConds c)
    (D D' : Defs) (st : PState) (m : Msg) (p : Packet)
    (hR : Repr D st) (hconf : MsgConformant c names D m = true) (hexp : expMsg c names D m = some (D', .pkt p)) :
    ∃ st', (∀ rest, parsePacket c st (enc m ++ rest) = (st', .ok p rest)) ∧ Repr D' st' ∧ Untouched m D D' st st' := by
  obtain ⟨st', h1, _, h3, h4⟩ := step c names H D D' st m p hR hconf hexp
  exact ⟨st', h1, h3, h4⟩

/-- **one call** (PARTIAL as above, conformance threaded through the call by `MsgsConformant`): the
    concatenated bytes of a conformant message list, parsed by one `parse_bytes` call, give exactly
    the expected packets, in order; each message is decoded against the memory as updated by the
    messages before it IN THE SAME BUFFER; the final state represents the final memory. -/
theorem C06_refine_call_partial (c : Config) (names : List (Nat × String)) (H : SideConds c)
    (ms : List Msg) (D D' : Defs) (st : PState) (pkts : List Packet)
    (hR : Repr D st) (hconf : MsgsConformant c names D ms = true)
    (hexp : expMsgs c names D ms = some (D', pkts.map .pkt)) :
    ∃ st', parseBytes c st (ms.flatMap enc) = (st', .done pkts) ∧ Repr D' st' := by
  obtain ⟨st', h1, h2, _⟩ := call_refines c names H ms D D' st pkts hR hconf hexp
  exact ⟨st', h1, h2⟩

/-- **C06 refinement (partial)** — a history of calls.  Hypotheses: the side conditions on the tables
    (`SideConds`, all decidable, true of the generated tables), a start state representing the start
    memory, conformance threaded through the flattened history, and the specification expects a
    packet for every message (`hexp`).  Conclusion `Refines`: for EVERY call `k`, the packets
    returned are exactly `Spec.expMsgs c names D_{k-1} msgs_k` and the state after the call
    represents `D_k` — `Repr9 D_k.v9 st_k ∧ ReprIp D_k.ip st_k`.  Also: the concatenation of all
    returned packets is the specification's fold over the flattened history, and the final state
    represents the final memory. -/
theorem C06_refine_partial (c : Config) (names : List (Nat × String)) (H : SideConds c)
    (hist : List (List Msg)) (D D' : Defs) (st : PState) (pkts : List Packet)
    (hR : Repr D st) (hconf : MsgsConformant c names D hist.flatten = true)
    (hexp : expMsgs c names D hist.flatten = some (D', pkts.map .pkt)) :
    Refines c names D st hist ∧
    ∃ st', foldCalls c st (hist.map (·.flatMap enc)) = (st', pkts) ∧ Repr D' st' :=
  history_refines c names H hist D D' st pkts hR hconf hexp

/-- **C06 refinement for the shipped tables**, from the empty parser and the empty exporter memory,
    any allowed list containing 5, 7, 9, 10, either setting of `parse_unknown_fields`; both remaining
    hypotheses are decidable (`MsgsConformant`, `expAllPkt`). -/
theorem C06_refine_generated_partial (c : Config) (hc : c.t = Generated.tables)
    (h5 : c.allowed.contains 5 = true) (h7 : c.allowed.contains 7 = true)
    (h9 : c.allowed.contains 9 = true) (h10 : c.allowed.contains 10 = true)
    (hist : List (List Msg))
    (hconf : MsgsConformant c Generated.protoNames {} hist.flatten = true)
    (hexp : expAllPkt c Generated.protoNames {} hist.flatten = true) :
    Refines c Generated.protoNames {} {} hist := by
  obtain ⟨D', pkts, he⟩ := expAllPkt_elim hexp
  exact (C06_refine_partial c _ (SideConds.generated c hc h5 h7 h9 h10) hist {} D' {} pkts Repr.empty hconf he).1

/-- **(a)** the packet produced for a message `m` depends only on the messages BEFORE it in the
    flattened history — whether they arrived in the same buffer or in any earlier call: cut the
    flattened history anywhere as `pre ++ m :: post`; the packet at position `|pre|` of the
    concatenated results of all calls is the packet the specification expects for `m` from the
    memory `Dpre` obtained by folding `pre` (in which, by `C06_refine_spec_latest_wins`, every
    template id maps to its most recent definition of either kind). -/
theorem C06_refine_latest_wins_partial (c : Config) (names : List (Nat × String)) (H : SideConds c)
    (hist : List (List Msg)) (D D' : Defs) (st : PState) (pkts : List Packet)
    (hR : Repr D st) (hconf : MsgsConformant c names D hist.flatten = true)
    (hexp : expMsgs c names D hist.flatten = some (D', pkts.map .pkt))
    (pre : List Msg) (m : Msg) (post : List Msg) (hsplit : hist.flatten = pre ++ m :: post) :
    ∃ (Dpre Dm : Defs) (ppre : List Packet) (p : Packet),
      expMsgs c names D pre = some (Dpre, ppre.map .pkt) ∧ expMsg c names Dpre m = some (Dm, .pkt p) ∧
      (foldCalls c st (hist.map (·.flatMap enc))).2[pre.length]? = some p := by
  obtain ⟨_, st', hf, _⟩ := C06_refine_partial c names H hist D D' st pkts hR hconf hexp
  rw [hsplit] at hexp
  obtain ⟨D1, p1, p2, e, h1, h2⟩ := expMsgs_append_inv pre (m :: post) D D' pkts hexp
  obtain ⟨Dm, p, p2', e', h3, _⟩ := expMsgs_cons_inv h2
  subst e e'
  refine ⟨D1, Dm, p1, p, h1, h3, ?_⟩
  have hl : p1.length = pre.length := by
    have := expMsgs_length pre D D1 _ h1
    simpa using this
  rw [hf, ← hl]
  simp

/-- the specification's memory is "latest definition wins, of either kind": after recording a
    definition for `id` a lookup of `id` returns it, whatever was recorded before (a template
    replaces an options template and vice versa), and other ids are unaffected -/
theorem C06_refine_spec_latest_wins (d : List (Nat × V9Def)) (e : List (Nat × IpDef)) (id j : Nat) (v : V9Def) (w : IpDef) :
    amLookup id (v9Insert d id v) = some v ∧ amLookup id (ipInsert e id w) = some w ∧
    (j ≠ id → amLookup j (v9Insert d id v) = amLookup j d ∧ amLookup j (ipInsert e id w) = amLookup j e) := by
  refine ⟨by simp [v9Insert, amLookup_amInsert], by simp [ipInsert, amLookup_amInsert], fun h => ?_⟩
  simp [v9Insert, ipInsert, amLookup_amInsert, h]

/-- **(b)** two histories with the same flattened message list — i.e. the same export stream cut
    into calls differently (at message boundaries) — give the same final parser state (all four
    caches, literally) and the same concatenated packet list, namely the specification's fold. -/
theorem C06_refine_split_independent_partial (c : Config) (names : List (Nat × String)) (H : SideConds c)
    (hist1 hist2 : List (List Msg)) (D D' : Defs) (st : PState) (pkts : List Packet)
    (hR : Repr D st) (hflat : hist2.flatten = hist1.flatten)
    (hconf : MsgsConformant c names D hist1.flatten = true)
    (hexp : expMsgs c names D hist1.flatten = some (D', pkts.map .pkt)) :
    foldCalls c st (hist2.map (·.flatMap enc)) = foldCalls c st (hist1.map (·.flatMap enc)) ∧
    (foldCalls c st (hist1.map (·.flatMap enc))).2 = pkts := by
  obtain ⟨st', hc, hf, _⟩ := call_chain c names H hist1.flatten D D' st pkts hR hconf hexp
  have key : ∀ hist : List (List Msg), hist.flatten = hist1.flatten →
      foldCalls c st (hist.map (·.flatMap enc)) = (st', pkts) := by
    intro hist hfl
    have := C11_partition c H.framing (hist.map (fun ms => ms.map enc)) st
      (by rw [← List.map_flatten, hfl]; exact hc)
    rw [map_map_enc_flatten, ← List.map_flatten, hfl, hf] at this
    exact this
  rw [key hist2 hflat, key hist1 rfl]
  exact ⟨rfl, rfl⟩

/-- **(c), relation level**: the representation relation is the conjunction of two relations over
    disjoint parts: `Repr9` mentions only `D.v9` and the two V9 caches, `ReprIp` only `D.ip` and the
    two IPFIX caches.  Hence replacing the IPFIX half of memory and caches by ANY other represented
    pair keeps the V9 half represented, and vice versa. -/
theorem C06_refine_repr_components (D : Defs) (st : PState) :
    (Repr D st ↔ Repr9 D.v9 st ∧ ReprIp D.ip st) ∧
    (∀ st', st'.v9T = st.v9T → st'.v9O = st.v9O → Repr9 D.v9 st → Repr9 D.v9 st') ∧
    (∀ st', st'.ipT = st.ipT → st'.ipO = st.ipO → ReprIp D.ip st → ReprIp D.ip st') :=
  ⟨⟨fun h => ⟨h.v9, h.ip⟩, fun h => ⟨h.1, h.2⟩⟩, fun _ h1 h2 h => Repr9.congr h h1 h2,
   fun _ h1 h2 h => ReprIp.congr h h1 h2⟩

/-- **(c), step level**: in the refinement a V9 message changes neither the IPFIX memory nor the IPFIX
    caches, an IPFIX message neither the V9 memory nor the V9 caches, a V5/V7 message nothing:
    `Untouched m D D' st st'` is, by cases on `m` (`C06_refine_untouched_cases`),
    `.v9 _ ↦ D'.ip = D.ip ∧ st'.ipT = st.ipT ∧ st'.ipO = st.ipO`,
    `.ipfix _ ↦ D'.v9 = D.v9 ∧ st'.v9T = st.v9T ∧ st'.v9O = st.v9O`, otherwise `D' = D ∧ st' = st`. -/
theorem C06_refine_isolation_partial (c : Config) (names : List (Nat × String)) (H : SideConds c)
    (D D' : Defs) (st : PState) (m : Msg) (p : Packet)
    (hR : Repr D st) (hconf : MsgConformant c names D m = true) (hexp : expMsg c names D m = some (D', .pkt p)) :
    ∃ st', parsePacket c st (enc m) = (st', .ok p []) ∧ Untouched m D D' st st' := by
  obtain ⟨st', h1, _, _, h4⟩ := step_nil c names H D D' st m p hR hconf hexp
  exact ⟨st', h1, h4⟩

/-- what `Untouched` says per version: a V9 message leaves the IPFIX halves of memory and cache alone and conversely;
    V5 / V7 leave both -/
theorem C06_refine_untouched_cases (D D' : Defs) (st st' : PState) :
    (∀ m, Untouched (.v9 m) D D' st st' ↔ (D'.ip = D.ip ∧ st'.ipT = st.ipT ∧ st'.ipO = st.ipO)) ∧
    (∀ m, Untouched (.ipfix m) D D' st st' ↔ (D'.v9 = D.v9 ∧ st'.v9T = st.v9T ∧ st'.v9O = st.v9O)) ∧
    (∀ h rs, Untouched (.v5 h rs) D D' st st' ↔ (D' = D ∧ st' = st)) ∧
    (∀ h rs, Untouched (.v7 h rs) D D' st st' ↔ (D' = D ∧ st' = st)) :=
  ⟨fun _ => Iff.rfl, fun _ => Iff.rfl, fun _ _ => Iff.rfl, fun _ _ => Iff.rfl⟩

/-- **(c), stream level — V9 decoding is blind to IPFIX traffic**: delete every IPFIX message from a
    conformant stream and start from ANY state `st0` whose V9 caches represent the same V9 memory
    (its IPFIX caches may represent any IPFIX memory `ip0`, e.g. none): `parse_bytes` returns
    exactly the non-IPFIX packets of the original run — every V5/V7/V9 packet is decoded
    identically — and both runs end representing the same V9 memory.  (Stated for one call; by
    corollary (b) the cut into calls is irrelevant.) -/
theorem C06_refine_v9_blind_to_ipfix_partial (c : Config) (names : List (Nat × String)) (H : SideConds c)
    (ms : List Msg) (D D' : Defs) (st st0 : PState) (ip0 : List (Nat × IpDef)) (pkts : List Packet)
    (hR : Repr D st) (hR0 : Repr ⟨D.v9, ip0⟩ st0) (hconf : MsgsConformant c names D ms = true)
    (hexp : expMsgs c names D ms = some (D', pkts.map .pkt)) :
    ∃ st' st0', parseBytes c st (ms.flatMap enc) = (st', .done pkts) ∧
      parseBytes c st0 ((ms.filter (fun m => !isIpfixMsg m)).flatMap enc) =
        (st0', .done (pkts.filter (fun p => !isIpfixPkt p))) ∧
      Repr9 D'.v9 st' ∧ Repr9 D'.v9 st0' ∧ ReprIp ip0 st0' := by
  obtain ⟨st', h1, h2⟩ := C06_refine_call_partial c names H ms D D' st pkts hR hconf hexp
  obtain ⟨e1, e2⟩ := expMsgs_drop_ipfix c names ip0 ms D D' pkts hexp hconf
  obtain ⟨st0', h3, h4⟩ := C06_refine_call_partial c names H _ _ _ st0 _ hR0 e2 e1
  exact ⟨st', st0', h1, h3, h2.v9, h4.v9, h4.ip⟩

/-- **(c), stream level — IPFIX decoding is blind to V9 traffic** (symmetric). -/
theorem C06_refine_ipfix_blind_to_v9_partial (c : Config) (names : List (Nat × String)) (H : SideConds c)
    (ms : List Msg) (D D' : Defs) (st st0 : PState) (v0 : List (Nat × V9Def)) (pkts : List Packet)
    (hR : Repr D st) (hR0 : Repr ⟨v0, D.ip⟩ st0) (hconf : MsgsConformant c names D ms = true)
    (hexp : expMsgs c names D ms = some (D', pkts.map .pkt)) :
    ∃ st' st0', parseBytes c st (ms.flatMap enc) = (st', .done pkts) ∧
      parseBytes c st0 ((ms.filter (fun m => !isV9Msg m)).flatMap enc) =
        (st0', .done (pkts.filter (fun p => !isV9Pkt p))) ∧
      ReprIp D'.ip st' ∧ ReprIp D'.ip st0' ∧ Repr9 v0 st0' := by
  obtain ⟨st', h1, h2⟩ := C06_refine_call_partial c names H ms D D' st pkts hR hconf hexp
  obtain ⟨e1, e2⟩ := expMsgs_drop_v9 c names v0 ms D D' pkts hexp hconf
  obtain ⟨st0', h3, h4⟩ := C06_refine_call_partial c names H _ _ _ st0 _ hR0 e2 e1
  exact ⟨st', st0', h1, h3, h2.ip, h4.ip, h4.v9⟩

def c06rCfg : Config := { t := Generated.tables, allowed := [5, 7, 9, 10] }

/-- a V5 packet with one record (10.0.0.1 → 10.0.0.2, ports 1234 → 80, protocol number `proto`) -/
def c06rV5 (proto : Nat) : Msg :=
  .v5 [1000, 1700000000, 5, 77, 1, 2, 100]
    [[167772161, 167772162, 0, 1, 2, 10, 1000, 100, 200, 1234, 80, 0, 24, proto, 0, 0, 0, 24, 24, 0]]

/-- V9: template 256 = (IPV4_SRC_ADDR/4, PROTOCOL/1, IN_BYTES/2, LAST_SWITCHED/4) -/
def c06rV9T : Msg :=
  .v9 { count := 1, sysUpTime := 1000, unixSecs := 1700000000, seq := 7, sourceId := 42, sets := [.templates [exTemplate] []] }

/-- V9: one data record for template 256, two bytes of padding -/
def c06rV9D : Msg :=
  .v9 { count := 1, sysUpTime := 2000, unixSecs := 1700000001, seq := 8, sourceId := 42,
        sets := [.data 256 [[[10, 0, 0, 1], [6], [1, 0], [0, 0, 4, 210]]] [0, 0]] }

/-- IPFIX: template 256 (the SAME id as the V9 template) = (protocolIdentifier/1) -/
def c06rIpT : Msg :=
  .ipfix { exportTime := 1, seq := 2, odid := 3,
           sets := [.templates [{ id := 256, fields := [{ typ := 4, len := 1, ent := none }] }] []] }

/-- IPFIX: two data records for template 256 -/
def c06rIpD : Msg :=
  .ipfix { exportTime := 4, seq := 5, odid := 3, sets := [.data 256 [[⟨[6], .fixed⟩], [⟨[17], .fixed⟩]] []] }

/-- call 1: V5 packet + V9 template message; call 2: V9 data message -/
def c06rHist : List (List Msg) := [[c06rV5 6, c06rV9T], [c06rV9D]]

/-- the same with IPFIX messages using the same template id interleaved -/
def c06rHistMixed : List (List Msg) := [[c06rV5 6, c06rV9T, c06rIpT], [c06rV9D, c06rIpD]]

/-- a different cut of the same stream into calls -/
def c06rHistMixed' : List (List Msg) := [[c06rV5 6], [c06rV9T, c06rIpT, c06rV9D], [], [c06rIpD]]

theorem c06rSide : SideConds c06rCfg :=
  SideConds.generated c06rCfg rfl (by decide) (by decide) (by decide) (by decide)

theorem c06rHist_conf : MsgsConformant c06rCfg Generated.protoNames {} c06rHist.flatten = true ∧
    expAllPkt c06rCfg Generated.protoNames {} c06rHist.flatten = true := by decide +kernel

theorem c06rHistMixed_conf : MsgsConformant c06rCfg Generated.protoNames {} c06rHistMixed.flatten = true ∧
    expAllPkt c06rCfg Generated.protoNames {} c06rHistMixed.flatten = true := by decide +kernel

/-- the hypotheses of `C06_refine_generated_partial` hold for the two-call history -/
example : MsgsConformant c06rCfg Generated.protoNames {} c06rHist.flatten = true ∧
    expAllPkt c06rCfg Generated.protoNames {} c06rHist.flatten = true := c06rHist_conf

/-- …hence it is refined call by call -/
example : Refines c06rCfg Generated.protoNames {} {} c06rHist :=
  C06_refine_generated_partial c06rCfg rfl (by decide) (by decide) (by decide) (by decide) c06rHist
    c06rHist_conf.1 c06rHist_conf.2

/-- the mixed history (V5, V9 and IPFIX in the same buffers, same template id in both protocols) -/
example : Refines c06rCfg Generated.protoNames {} {} c06rHistMixed :=
  C06_refine_generated_partial c06rCfg rfl (by decide) (by decide) (by decide) (by decide) c06rHistMixed
    c06rHistMixed_conf.1 c06rHistMixed_conf.2

/-- the conclusion, evaluated: the V9 data message of call 2 is decoded with the template that
    arrived in call 1 (and not with the IPFIX template of the same id), the IPFIX data with the
    IPFIX template -/
example : ((foldCalls c06rCfg {} (c06rHistMixed.map (·.flatMap enc))).2.drop 3) =
    [.v9 [9, 1, 2000, 1700000001, 8, 42]
       [⟨256, 17, .data [[(0, 8, .ip4 167772161), (1, 4, .proto 6), (2, 1, .num (.u16 256)), (3, 21, .dur 1 234000000)]] [0, 0]⟩],
     .ipfix [10, 22, 4, 5, 3]
       [⟨256, 6, .data [[(0, 4, .num (.u8 6))], [(0, 4, .num (.u8 17))]] []⟩]] := by
  decide +kernel

/-- corollary (b) instantiated: the other cut gives the same state and the same packets -/
example : foldCalls c06rCfg {} (c06rHistMixed'.map (·.flatMap enc)) = foldCalls c06rCfg {} (c06rHistMixed.map (·.flatMap enc)) := by
  obtain ⟨D', pkts, he⟩ := expAllPkt_elim c06rHistMixed_conf.2
  exact (C06_refine_split_independent_partial c06rCfg Generated.protoNames c06rSide
    c06rHistMixed c06rHistMixed' {} D' {} pkts Repr.empty (by decide) c06rHistMixed_conf.1 he).1

/-- corollary (c) instantiated: parsing the stream without its IPFIX messages from the empty parser
    gives the three non-IPFIX packets of the mixed run -/
example : ∃ st0', parseBytes c06rCfg {} ((c06rHistMixed.flatten.filter (fun m => !isIpfixMsg m)).flatMap enc) =
    (st0', .done (((foldCalls c06rCfg {} (c06rHistMixed.map (·.flatMap enc))).2).filter (fun p => !isIpfixPkt p))) := by
  obtain ⟨D', pkts, he⟩ := expAllPkt_elim c06rHistMixed_conf.2
  have hc := c06rHistMixed_conf.1
  obtain ⟨_, _, hf, _⟩ := C06_refine_partial c06rCfg _ c06rSide c06rHistMixed {} D' {} pkts Repr.empty hc he
  obtain ⟨_, st0', _, h2, _⟩ := C06_refine_v9_blind_to_ipfix_partial c06rCfg _ c06rSide c06rHistMixed.flatten {} D' {} {} [] pkts
    Repr.empty Repr.empty hc he
  rw [hf]
  exact ⟨st0', h2⟩

/-- KNOWN CRATE DEFECT (`From<u8> for ProtocolTypes`, numbers 0, 1, 144, 255): for a V5 record with
    protocol number 1 (ICMP) the specification expects the variant `Icmp` (discriminant 1), the crate
    reports `Hopopt` (discriminant 0); the message is accepted by the specification (`expAllPkt`),
    is not `MsgConformant`, and the conclusion of the refinement fails for it (`callOk = false`). -/
theorem C06_refine_v5_proto_fails :
    callOk c06rCfg Generated.protoNames {} {} [c06rV5 1] = false ∧
    expAllPkt c06rCfg Generated.protoNames {} [c06rV5 1] = true ∧
    MsgConformant c06rCfg Generated.protoNames {} (c06rV5 1) = false ∧
    MsgConformant c06rCfg Generated.protoNames {} (c06rV5 6) = true := by
  decide +kernel

/-- **the full-strength refinement statement is false of the model** -/
theorem C06_refine_full_fails : ¬ C06_refine_full := by
  intro h
  obtain ⟨D', pkts, he⟩ := expAllPkt_elim C06_refine_v5_proto_fails.2.1
  have hr := h c06rCfg rfl (by decide) (by decide) (by decide) (by decide) [[c06rV5 1]] D' pkts he
  have := Refines.callOk hr
  rw [C06_refine_v5_proto_fails.1] at this
  exact absurd this (by decide)

end Netflow.Props
