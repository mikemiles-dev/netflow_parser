/-
  Props/C06c.lean — C06, the EXACT characterisation of how a call changes the template caches, for
  ARBITRARY input bytes, at `parseBytes` level and for every configuration `c` (no side condition on
  the tables):

    "A parser's caches change only through the complete, well-formed template records contained in
     input of an allowed version … templates are never evicted."

  `P1.replayPkt` / `P1.replay` (Lemmas/Replay.lean) apply to the caches exactly the template records
  REPORTED in a packet / a list of packets, in order.  The state after a call is that replay, except
  that a V9 packet which fails half way keeps the templates of its earlier flowsets although it is
  reported as an error only; `replayX` accounts for that case.
-/
import NetflowModel.Lemmas.Replay
import NetflowModel.Generated
namespace Netflow.Props
open Netflow Netflow.P1 Netflow.C1x   -- `C1x` for `v9Defines` / `ipDefines` (Lemmas/Replay.lean)

/-- for every configuration, state and buffer: if the result of the call does not end in
    a V9 partial-parse error, the caches afterwards are exactly the caches before with the reported
    template records applied in order — nothing else was learned, nothing was forgotten. -/
theorem C06_state_is_replay_of_reported (c : Config) (st : PState) (buf : Bytes) (st' : PState) (pkts : List Packet)
    (h : parseBytes c st buf = (st', .done pkts))
    (hlast : ∀ b r, pkts.getLast? ≠ some (.error (.partialParse 9 b) r)) :
    st' = replay st pkts :=
  (parseBytes_replay c st st' buf pkts h).2 ((endsInV9Err_iff pkts).2 hlast)

/-- the same with the decidable form of the side condition -/
theorem C06_state_is_replay_of_reported_dec (c : Config) (st : PState) (buf : Bytes) (st' : PState) (pkts : List Packet)
    (h : parseBytes c st buf = (st', .done pkts)) (hlast : endsInV9Err pkts = false) :
    st' = replay st pkts :=
  (parseBytes_replay c st st' buf pkts h).2 hlast

/-- without destructuring the result (`parseBytes` always returns `done`, `parseBytes_done`) -/
theorem C06_state_is_replay_of_reported_fn (c : Config) (st : PState) (buf : Bytes)
    (hlast : endsInV9Err (outPkts (parseBytes c st buf).2) = false) :
    (parseBytes c st buf).1 = replay st (outPkts (parseBytes c st buf).2) :=
  (parseBytes_replay c st _ buf _ (parseBytes_eq_done c st buf)).2 hlast

/-- IPFIX: no clause is needed for the IPFIX maps: whatever the call returned (including
    a failing V9 packet, an IPFIX message reported as an error, garbage), the two IPFIX maps are the
    replay of the reported packets. -/
theorem C06_ipfix_state_is_replay (c : Config) (st : PState) (buf : Bytes) (st' : PState) (pkts : List Packet)
    (h : parseBytes c st buf = (st', .done pkts)) :
    st'.ipT = (replay st pkts).ipT ∧ st'.ipO = (replay st pkts).ipO :=
  (parseBytes_replay c st st' buf pkts h).1

/-- an IPFIX message that is reported as an error teaches nothing — for EVERY configuration
    (`C06_ipfix_truncated_frame` in C06.lean needs `framingOk`; the set loop's `Many0` error needs a
    set header of zero bytes, and then no set has a body). -/
theorem C06_ipfix_error_frame (c : Config) (st st' : PState) (i : Bytes)
    (h : parseIpfix c st i = (st', .err)) : st' = st :=
  parseIpfix_err_frame c st st' i h

private def c06cCfg : Config := { t := Generated.tables, allowed := [5, 7, 9, 10] }
private def c06cT : V9Template := { id := 256, fieldCount := 1, fields := [{ typ := 1, len := 3 }] }
private def c06cIpT : IpTemplate := { id := 256, fieldCount := 1, fields := [{ typ := 1, len := 3, ent := none }], pad := [] }

/-- V9 header announcing TWO flowsets; a complete template flowset (id 256); then two stray bytes -/
private def c06cFailBuf : Bytes :=
  [0,9, 0,2, 0,0,0,1, 0,0,0,2, 0,0,0,3, 0,0,0,4,  0,0, 0,12, 1,0, 0,1, 0,1, 0,3,  0,0]

/-- (`…_fails`-style witness) the statement of `C06_state_is_replay_of_reported` without its
    side condition is FALSE of the model: the call below returns a single V9 partial-parse error, so
    the replay of what it reported is the initial (empty) state, yet template 256 of the first flowset
    has been learned. -/
theorem C06_v9_failed_packet_teaches :
    parseBytes c06cCfg {} c06cFailBuf =
      ({ v9T := [(256, c06cT)] }, .done [.error (.partialParse 9 (c06cFailBuf.drop 2)) c06cFailBuf]) ∧
    replay {} [.error (.partialParse 9 (c06cFailBuf.drop 2)) c06cFailBuf] = {} ∧
    ({ v9T := [(256, c06cT)] } : PState) ≠ replay {} [.error (.partialParse 9 (c06cFailBuf.drop 2)) c06cFailBuf] := by
  decide +kernel

/-- the unrestricted statement, and its refutation -/
def C06_state_is_replay_full : Prop :=
  ∀ (c : Config) (st : PState) (buf : Bytes) (st' : PState) (pkts : List Packet),
    parseBytes c st buf = (st', .done pkts) → st' = replay st pkts

theorem C06_state_is_replay_full_fails : ¬ C06_state_is_replay_full := by
  intro h
  obtain ⟨h1, _, h3⟩ := C06_v9_failed_packet_teaches
  exact h3 (h _ _ _ _ _ h1)

/-- for every call: the caches afterwards are the EXTENDED replay `replayX` of the returned
    list, which treats the error element of a failing V9 packet as "the flowsets of the recorded
    remaining bytes that parse before the failure" (`v9Learned`). -/
theorem C06_state_is_replay_always (c : Config) (st : PState) (buf : Bytes) (st' : PState) (pkts : List Packet)
    (h : parseBytes c st buf = (st', .done pkts)) : st' = replayX c st pkts :=
  parseBytesF_replayX c _ _ _ _ _ h

/-- `replayX` is `replay` on lists without a V9 partial-parse error -/
theorem C06_replayX_is_replay (c : Config) (st : PState) (pkts : List Packet)
    (h : ∀ b r, Packet.error (.partialParse 9 b) r ∉ pkts) : replayX c st pkts = replay st pkts :=
  replayX_eq_replay c pkts st h

/-- `v9Learned` on a V9 packet that IS returned: exactly its reported flowsets (so `replayX` and
    `replay` treat returned and failing V9 packets alike: the flowsets that parsed) -/
theorem C06_v9_learned_is_reported (c : Config) (st st' : PState) (i : Bytes) (hd : List Nat) (ss : List V9Set) (r : Bytes)
    (h : parseV9 c st i = (st', .ok (.v9 hd ss, r))) : v9Learned c st i = ss :=
  v9Learned_ok c st st' i hd ss r h

/-- the complement of `C06_state_is_replay_of_reported`: when the call DOES end in a V9
    partial-parse error with recorded bytes `b`, the caches are the replay of the packets before it,
    followed by the template records of the flowsets of `b` that parse (in the state reached so far) —
    complete, well-formed template records contained in the input, and nothing else. -/
theorem C06_v9_failed_packet_learns_prefix (c : Config) (st : PState) (buf : Bytes) (st' : PState) (pkts : List Packet)
    (b r : Bytes)
    (h : parseBytes c st buf = (st', .done pkts))
    (hlast : pkts.getLast? = some (.error (.partialParse 9 b) r)) :
    st' = (v9Learned c (replay st pkts.dropLast) b).foldl replayV9Set (replay st pkts.dropLast) := by
  have hne : pkts ≠ [] := by
    intro e; subst e; simp at hlast
  have hsplit : pkts = pkts.dropLast ++ [.error (.partialParse 9 b) r] := by
    have := List.dropLast_concat_getLast hne
    rw [List.getLast?_eq_some_getLast hne] at hlast
    simp only [Option.some.injEq] at hlast
    rw [hlast] at this
    exact this.symm
  have hfront : replayX c st pkts.dropLast = replay st pkts.dropLast :=
    replayX_eq_replay c _ st (fun b' r' hm => parseBytesF_errors_last c _ _ _ _ _ h _ hm _ _ rfl)
  have e := C06_state_is_replay_always c st buf st' pkts h
  rw [hsplit, replayX_concat, hfront] at e
  exact e

/-- V9: if no reported V9 flowset defines template id `id` (as template or options
    template) and the call does not end in a failing V9 packet, both V9 entries of `id` are what
    they were: an existing definition is neither evicted nor altered, an unknown id stays unknown. -/
theorem C06_changes_only_by_templates_v9 (c : Config) (st : PState) (buf : Bytes) (st' : PState) (pkts : List Packet)
    (id : Nat)
    (h : parseBytes c st buf = (st', .done pkts))
    (hlast : ∀ b r, pkts.getLast? ≠ some (.error (.partialParse 9 b) r))
    (hdef : ∀ hd ss, Packet.v9 hd ss ∈ pkts → ∀ s ∈ ss, v9Defines id s = false) :
    amLookup id st'.v9T = amLookup id st.v9T ∧ amLookup id st'.v9O = amLookup id st.v9O := by
  rw [C06_state_is_replay_of_reported c st buf st' pkts h hlast]
  apply replay_other_v9
  intro p hp
  cases p with
  | v9 hd ss =>
    simp only [pktDefinesV9, List.any_eq_false]
    intro s hs
    simp [hdef hd ss hp s hs]
  | _ => rfl

/-- IPFIX: no clause about the last element: if no reported IPFIX set defines `id`, both
    IPFIX entries of `id` are what they were. -/
theorem C06_changes_only_by_templates_ipfix (c : Config) (st : PState) (buf : Bytes) (st' : PState) (pkts : List Packet)
    (id : Nat)
    (h : parseBytes c st buf = (st', .done pkts))
    (hdef : ∀ hd ss, Packet.ipfix hd ss ∈ pkts → ∀ s ∈ ss, ipDefines id s = false) :
    amLookup id st'.ipT = amLookup id st.ipT ∧ amLookup id st'.ipO = amLookup id st.ipO := by
  obtain ⟨e1, e2⟩ := C06_ipfix_state_is_replay c st buf st' pkts h
  rw [e1, e2]
  apply replay_other_ip
  intro p hp
  cases p with
  | ipfix hd ss =>
    simp only [pktDefinesIp, List.any_eq_false]
    intro s hs
    simp [hdef hd ss hp s hs]
  | _ => rfl

/-- a call that reports no template / options-template set at all (V5 / V7 packets, data
    sets, errors other than a failing V9 packet, nothing) leaves the whole state untouched. -/
theorem C06_untouched_without_template_sets (c : Config) (st : PState) (buf : Bytes) (st' : PState) (pkts : List Packet)
    (h : parseBytes c st buf = (st', .done pkts))
    (hlast : ∀ b r, pkts.getLast? ≠ some (.error (.partialParse 9 b) r))
    (hno : ∀ p ∈ pkts, pktHasTemplateSet p = false) : st' = st := by
  rw [C06_state_is_replay_of_reported c st buf st' pkts h hlast]
  exact replay_no_template pkts st hno

/-- the V9 maps can only be changed by V9 packets, the IPFIX maps only by IPFIX messages — at replay
    level (with `C06_state_is_replay_of_reported`: at `parseBytes` level) -/
theorem C06_replay_scoped (st : PState) (hd : List Nat) (ss9 : List V9Set) (ssI : List IpSet) :
    ((replayPkt st (.v9 hd ss9)).ipT = st.ipT ∧ (replayPkt st (.v9 hd ss9)).ipO = st.ipO) ∧
    ((replayPkt st (.ipfix hd ssI)).v9T = st.v9T ∧ (replayPkt st (.ipfix hd ssI)).v9O = st.v9O) :=
  ⟨foldl_replayV9Set_ip ss9 st, foldl_replayIpSet_v9 ssI st⟩

/-- never evicted, never changed — history form, V9 -/
theorem C06_history_changes_only_by_templates_v9 (c : Config) (st : PState) (hist : List Bytes) (id : Nat)
    (h : ∀ b r, Packet.error (.partialParse 9 b) r ∉ histPkts c st hist)
    (hdef : ∀ p ∈ histPkts c st hist, pktDefinesV9 id p = false) :
    amLookup id (hist.foldl (fun s b => (parseBytes c s b).1) st).v9T = amLookup id st.v9T ∧
    amLookup id (hist.foldl (fun s b => (parseBytes c s b).1) st).v9O = amLookup id st.v9O := by
  rw [hist_replay c hist st h]
  exact replay_other_v9 id _ st hdef

/-- never evicted, never changed — history form, IPFIX (no clause) -/
theorem C06_history_changes_only_by_templates_ipfix (c : Config) (st : PState) (hist : List Bytes) (id : Nat)
    (hdef : ∀ p ∈ histPkts c st hist, pktDefinesIp id p = false) :
    amLookup id (hist.foldl (fun s b => (parseBytes c s b).1) st).ipT = amLookup id st.ipT ∧
    amLookup id (hist.foldl (fun s b => (parseBytes c s b).1) st).ipO = amLookup id st.ipO := by
  obtain ⟨e1, e2⟩ := hist_replay_ip c hist st
  rw [e1, e2]
  exact replay_other_ip id _ st hdef

/-- V9 template packet (template 256: one 3-byte field), V9 data packet, IPFIX template message
    (template 256), IPFIX data message -/
private def c06cV9T : Bytes := [0,9, 0,1, 0,0,0,1, 0,0,0,2, 0,0,0,3, 0,0,0,4,  0,0, 0,12, 1,0, 0,1, 0,1, 0,3]
private def c06cV9D : Bytes := [0,9, 0,1, 0,0,0,1, 0,0,0,2, 0,0,0,3, 0,0,0,4,  1,0, 0,8, 1,2,3, 0]
private def c06cIpTm : Bytes := [0,10, 0,28, 0,0,0,1, 0,0,0,2, 0,0,0,3,  0,2, 0,12, 1,0, 0,1, 0,1, 0,3]
private def c06cIpD : Bytes := [0,10, 0,24, 0,0,0,1, 0,0,0,2, 0,0,0,3,  1,0, 0,8, 1,2,3, 0]

private def c06cPkts : List Packet :=
  [.v9 [9, 1, 1, 2, 3, 4] [{ id := 0, len := 12, body := .templates [c06cT] [] }],
   .v9 [9, 1, 1, 2, 3, 4] [{ id := 256, len := 8, body := .data [[(0, 1, .num (.u24 66051))]] [0] }],
   .ipfix [10, 28, 1, 2, 3] [{ id := 2, len := 12, body := .template c06cIpT }],
   .ipfix [10, 24, 1, 2, 3] [{ id := 256, len := 8, body := .data [[(0, 1, .num (.u24 66051))]] [0] }]]

/-- `C06_state_is_replay_of_reported`: one buffer with template + data of both protocols; the four
    packets are returned, the side condition holds, and the replay is a non-trivial state -/
example : parseBytes c06cCfg {} (c06cV9T ++ c06cV9D ++ c06cIpTm ++ c06cIpD) =
      ({ v9T := [(256, c06cT)], ipT := [(256, c06cIpT)] }, .done c06cPkts) ∧
    endsInV9Err c06cPkts = false ∧
    replay {} c06cPkts = { v9T := [(256, c06cT)], ipT := [(256, c06cIpT)] } := by decide +kernel

example : ∀ b r, c06cPkts.getLast? ≠ some (.error (.partialParse 9 b) r) := (endsInV9Err_iff _).1 (by decide +kernel)

/-- the replay really overwrites: starting from a state where 256 is a V9 OPTIONS template and an
    IPFIX template with another field list, the reported records move / redefine it -/
example : replay { v9O := [(256, { id := 256, scopeLen := 0, optLen := 0, scope := [], opts := [] })],
                   ipT := [(256, { c06cIpT with fields := [{ typ := 2, len := 9, ent := none }] })] } c06cPkts =
    { v9T := [(256, c06cT)], ipT := [(256, c06cIpT)] } := by decide +kernel

/-- `C06_v9_failed_packet_learns_prefix`: the failing buffer of `C06_v9_failed_packet_teaches` — the
    flowsets of the recorded bytes that parse are the one template flowset -/
example : (outPkts (parseBytes c06cCfg {} c06cFailBuf).2).getLast? =
      some (.error (.partialParse 9 (c06cFailBuf.drop 2)) c06cFailBuf) ∧
    v9Learned c06cCfg {} (c06cFailBuf.drop 2) = [{ id := 0, len := 12, body := .templates [c06cT] [] }] ∧
    replayX c06cCfg {} [.error (.partialParse 9 (c06cFailBuf.drop 2)) c06cFailBuf] = { v9T := [(256, c06cT)] } := by
  decide +kernel

/-- the same failing packet AFTER a returned IPFIX template message in the same buffer: the front
    packet is replayed, then the prefix of the failing packet -/
example : parseBytes c06cCfg {} (c06cIpTm ++ c06cFailBuf) =
    ({ v9T := [(256, c06cT)], ipT := [(256, c06cIpT)] },
     .done [.ipfix [10, 28, 1, 2, 3] [{ id := 2, len := 12, body := .template c06cIpT }],
            .error (.partialParse 9 (c06cFailBuf.drop 2)) c06cFailBuf]) := by decide +kernel

/-- `C06_v9_learned_is_reported`: a V9 packet that is returned -/
example : parseV9 c06cCfg {} (c06cV9T.drop 2) =
    ({ v9T := [(256, c06cT)] }, .ok (.v9 [9, 1, 1, 2, 3, 4] [{ id := 0, len := 12, body := .templates [c06cT] [] }], [])) := by
  decide +kernel

/-- `C06_changes_only_by_templates_v9` / `_ipfix`: id 300 is known beforehand and no reported set
    defines it (the sets define 256) -/
example : (∀ p ∈ c06cPkts, pktDefinesV9 300 p = false) ∧ (∀ p ∈ c06cPkts, pktDefinesIp 300 p = false) ∧
    (∃ p ∈ c06cPkts, pktDefinesV9 256 p = true) ∧ (∃ p ∈ c06cPkts, pktDefinesIp 256 p = true) ∧
    amLookup 300 (replay { v9T := [(300, { c06cT with id := 300 })] } c06cPkts).v9T = some { c06cT with id := 300 } := by
  decide +kernel

/-- `C06_untouched_without_template_sets`: a V5 packet and the two data packets parsed in a state
    that knows template 256 in both protocols — no template set is reported -/
example : (parseBytes c06cCfg { v9T := [(256, c06cT)], ipT := [(256, c06cIpT)] }
      ([0, 5, 0, 0, 0, 0, 0, 1, 0, 0, 0, 2, 0, 0, 0, 3, 0, 0, 0, 4, 5, 6, 0, 7] ++ c06cV9D ++ c06cIpD)).2 =
      .done [.v5 [5, 0, 1, 2, 3, 4, 5, 6, 7] [], c06cPkts[1], c06cPkts[3]] ∧
    pktHasTemplateSet (.v5 [5, 0, 1, 2, 3, 4, 5, 6, 7] []) = false ∧
    pktHasTemplateSet c06cPkts[1] = false ∧ pktHasTemplateSet c06cPkts[3] = false ∧
    pktHasTemplateSet c06cPkts[0] = true := by decide +kernel

/-- `C06_ipfix_error_frame` / `C06_ipfix_state_is_replay`: an IPFIX message announcing 36 bytes that
    carries a complete template set and then ends is an error and teaches nothing -/
example : parseBytes c06cCfg {} [0,10, 0,36, 0,0,0,1, 0,0,0,2, 0,0,0,3,   0,2, 0,12, 1,0, 0,1, 0,1, 0,3] =
    ({}, .done [.error (.partialParse 10 [0,36, 0,0,0,1, 0,0,0,2, 0,0,0,3,   0,2, 0,12, 1,0, 0,1, 0,1, 0,3])
                  [0,10, 0,36, 0,0,0,1, 0,0,0,2, 0,0,0,3,   0,2, 0,12, 1,0, 0,1, 0,1, 0,3]]) := by decide +kernel

/-- `C06_history_changes_only_by_templates_v9` / `P1.hist_replay`: template in the first call, data in the second, IPFIX in the third —
    no failing V9 packet anywhere in the history -/
example : histPkts c06cCfg {} [c06cV9T, c06cV9D, c06cIpTm ++ c06cIpD] = c06cPkts ∧
    (∀ p ∈ histPkts c06cCfg {} [c06cV9T, c06cV9D, c06cIpTm ++ c06cIpD], ∀ b r, p ≠ .error (.partialParse 9 b) r) := by
  have e : histPkts c06cCfg {} [c06cV9T, c06cV9D, c06cIpTm ++ c06cIpD] = c06cPkts := by decide +kernel
  refine ⟨e, ?_⟩
  rw [e]
  intro p hp b r hpe
  subst hpe
  revert hp
  simp [c06cPkts]

end Netflow.Props
