/-
  Props/C07.lean — C07 on the model: a data flowset / set whose template id is in neither cache
  of its protocol is never decoded into records; V9 reports the packet as an error, IPFIX stops
  the message in front of that set; the caches are unchanged by it.
-/
import NetflowModel.Lemmas.State
import NetflowModel.Lemmas.Locality
import NetflowModel.Props.C02
namespace Netflow.Props
open Netflow Preds

/-- a V9 data flowset body for an id in neither V9 map: error, state unchanged
    (the IPFIX maps are not consulted at all). -/
theorem C07_v9_unknown (c : Config) (st : PState) (id : Nat) (body : Bytes)
    (h1 : id ≠ c.t.v9TemplateId) (h2 : id ≠ c.t.v9OptTemplateId)
    (hO : amLookup id st.v9O = none) (hT : amLookup id st.v9T = none) :
    v9ParseBody c st id body = (st, .err) :=
  v9ParseBody_unknown h1 h2 hO hT body

/-- the flowset carrying it: error, state unchanged -/
theorem C07_v9_unknown_set (c : Config) (st : PState) (i : Bytes) (hd : List Nat) (r body r' : Bytes)
    (hh : parseLayout c.t.protoFromU8 c.t.v9SetHdr i = some (hd, r))
    (ht : takeN (c.t.v9SetHdr.get "length" hd - 4) r = some (body, r'))
    (h1 : c.t.v9SetHdr.get "flowset_id" hd ≠ c.t.v9TemplateId)
    (h2 : c.t.v9SetHdr.get "flowset_id" hd ≠ c.t.v9OptTemplateId)
    (hO : amLookup (c.t.v9SetHdr.get "flowset_id" hd) st.v9O = none)
    (hT : amLookup (c.t.v9SetHdr.get "flowset_id" hd) st.v9T = none) :
    v9ParseSet c st i = (st, .err) := by
  simp [v9ParseSet, hh, ht, C07_v9_unknown c st _ body h1 h2 hO hT]

/-- a failing flowset at the head of the remaining input fails the flowset loop with the state
    as it was in front of that flowset -/
theorem C07_v9_unknown_sets (c : Config) (st : PState) (n : Nat) (i : Bytes) (hne : i ≠ [])
    (h : v9ParseSet c st i = (st, .err)) : v9ParseSets c (n + 1) st i = (st, .err) :=
  v9ParseSets_succ_err_here hne h

/-- an error in a later flowset propagates; the state is the one produced by the preceding
    flowsets (templates they defined stay defined, nothing else changes) -/
theorem C07_v9_err_propagates (c : Config) (st st1 st2 : PState) (n : Nat) (i r : Bytes) (s : V9Set) (hne : i ≠ [])
    (h1 : v9ParseSet c st i = (st1, .ok (s, r))) (h2 : v9ParseSets c n st1 r = (st2, .err)) :
    v9ParseSets c (n + 1) st i = (st2, .err) :=
  v9ParseSets_succ_err_intro hne h1 h2

/-- the flowset loop reports an error only with the state produced by the sets before it:
    an error from `k` flowsets deep is the packet's result -/
theorem C07_v9_packet_error (c : Config) (st st' : PState) (i : Bytes) (hd : List Nat) (r : Bytes)
    (hh : parseLayout c.t.protoFromU8 c.t.v9Hdr i = some (hd, r))
    (h : v9ParseSets c (c.t.v9Hdr.get "count" hd) st r = (st', .err)) :
    parseV9 c st i = (st', .err) ∧
    parseVersioned c st 9 i = (st', .fail (.partialParse 9 i)) := by
  have e : parseV9 c st i = (st', .err) := by simp [parseV9, hh, h]
  exact ⟨e, by simp [parseVersioned, e, liftRes]⟩

/-- a failing packet is reported as the final error element carrying the whole remaining buffer;
    nothing is decoded from it or after it -/
theorem C07_failed_packet_reported (c : Config) (st st' : PState) (buf : Bytes) (e : ErrKind)
    (h : parsePacket c st buf = (st', .fail e)) (hne : buf ≠ []) :
    parseBytes c st buf = (st', .done [.error e buf]) :=
  parseBytes_fail c hne h

/-- an IPFIX data set body for an id in neither IPFIX map: error, state unchanged -/
theorem C07_ipfix_unknown (c : Config) (st : PState) (id : Nat) (body : Bytes)
    (h1 : c.t.ipSetMinRange ≤ id) (h2 : id ≠ c.t.ipOptTemplateId)
    (hT : amLookup id st.ipT = none) (hO : amLookup id st.ipO = none) :
    ipParseBody c st id body = (st, .err) :=
  ipParseBody_unknown h1 h2 hT hO body

theorem C07_ipfix_unknown_set (c : Config) (st : PState) (i : Bytes) (hd : List Nat) (r body r' : Bytes)
    (hh : parseLayout c.t.protoFromU8 c.t.ipSetHdr i = some (hd, r))
    (ht : takeN (c.t.ipSetHdr.get "length" hd - 4) r = some (body, r'))
    (h1 : c.t.ipSetMinRange ≤ c.t.ipSetHdr.get "header_id" hd)
    (h2 : c.t.ipSetHdr.get "header_id" hd ≠ c.t.ipOptTemplateId)
    (hT : amLookup (c.t.ipSetHdr.get "header_id" hd) st.ipT = none)
    (hO : amLookup (c.t.ipSetHdr.get "header_id" hd) st.ipO = none) :
    ipParseSet c st i = (st, .err) := by
  simp [ipParseSet, hh, ht, C07_ipfix_unknown c st _ body h1 h2 hT hO]

/-- the set loop STOPS in front of a set that does not parse: nothing from it, nothing after it,
    the sets before it are kept (next theorem), state as in front of it -/
theorem C07_ipfix_sets_stop (c : Config) (st st' : PState) (f : Nat) (i : Bytes)
    (h : ipParseSet c st i = (st', .err)) : ipParseSets c (f + 1) st i = (st', .ok []) :=
  ipParseSets_succ_ok_iff.2 (.inl ⟨h, rfl⟩)

/-- sets decoded before the failing one are kept -/
theorem C07_ipfix_sets_keep_earlier (c : Config) (st st1 st2 : PState) (f : Nat) (i r : Bytes) (s : IpSet) (ss : List IpSet)
    (h1 : ipParseSet c st i = (st1, .ok (s, r))) (hl : r.length ≠ i.length)
    (h2 : ipParseSets c f st1 r = (st2, .ok ss)) : ipParseSets c (f + 1) st i = (st2, .ok (s :: ss)) :=
  ipParseSets_succ_ok_iff.2 (.inr ⟨st1, s, r, ss, h1, hl, h2, rfl⟩)

/-- the message is still a successfully decoded IPFIX packet, consuming its announced length -/
theorem C07_ipfix_message_ok (c : Config) (st st' : PState) (i : Bytes) (hd : List Nat) (r body r' : Bytes) (ss : List IpSet)
    (hh : parseLayout c.t.protoFromU8 c.t.ipHdr i = some (hd, r))
    (ht : takeN (c.t.ipHdr.get "length" hd - 16) r = some (body, r'))
    (h : ipParseSets c (body.length + 1) st body = (st', .ok ss)) :
    parseIpfix c st i = (st', .ok (.ipfix hd ss, r')) :=
  parseIpfix_ok_intro hh ht h

/-- V9: a decoded data body exists only if the id has a cached template; a decoded
    options-data body only if it has a cached options template; and the state is unchanged. -/
theorem C07_no_records_v9 (c : Config) (st st' : PState) (id : Nat) (body : Bytes) :
    (∀ recs pad, v9ParseBody c st id body = (st', .ok (.data recs pad)) →
        (amLookup id st.v9T).isSome ∧ amLookup id st.v9O = none ∧ st' = st) ∧
    (∀ ss os pad, v9ParseBody c st id body = (st', .ok (.optData ss os pad)) →
        (amLookup id st.v9O).isSome ∧ st' = st) := by
  constructor
  · intro recs pad h
    rcases v9ParseBody_ok_inv h with ⟨_, _, _, _, _, e⟩ | ⟨_, _, _, _, _, _, e⟩ | ⟨_, _, _, _, _, _, _, _, _, _, _, e⟩ |
      ⟨_, _, e, hO, t, hT, _, _⟩
    · cases e
    · cases e
    · cases e
    · exact ⟨by rw [hT]; rfl, hO, e⟩
  · intro ss os pad h
    rcases v9ParseBody_ok_inv h with ⟨_, _, _, _, _, e⟩ | ⟨_, _, _, _, _, _, e⟩ | ⟨_, _, e, ot, _, _, _, _, hO, _⟩ |
      ⟨_, _, _, _, _, _, _, e⟩
    · cases e
    · cases e
    · exact ⟨by rw [hO]; rfl, e⟩
    · cases e

/-- IPFIX, same -/
theorem C07_no_records_ipfix (c : Config) (st st' : PState) (id : Nat) (body : Bytes) :
    (∀ recs pad, ipParseBody c st id body = (st', .ok (.data recs pad)) →
        (amLookup id st.ipT).isSome ∧ st' = st) ∧
    (∀ recs pad, ipParseBody c st id body = (st', .ok (.optData recs pad)) →
        (amLookup id st.ipO).isSome ∧ amLookup id st.ipT = none ∧ st' = st) := by
  constructor
  · intro recs pad h
    rcases ipParseBody_ok_inv h with ⟨_, _, _, _, _, _, e⟩ | ⟨_, _, _, _, _, e⟩ |
      ⟨_, _, e, _, _, _, _, _, ⟨t, hT, _, _⟩ | ⟨_, _, _, _, eb⟩⟩
    · cases e
    · cases e
    · exact ⟨by rw [hT]; rfl, e⟩
    · cases eb
  · intro recs pad h
    rcases ipParseBody_ok_inv h with ⟨_, _, _, _, _, _, e⟩ | ⟨_, _, _, _, _, e⟩ |
      ⟨_, _, e, _, _, _, _, _, ⟨_, _, _, eb⟩ | ⟨hT, t, hO, _, _⟩⟩
    · cases e
    · cases e
    · cases eb
    · exact ⟨by rw [hO]; rfl, hT, e⟩

/-- in the contrapositive reading of the property: an id unknown to the protocol never
    yields a decoded body of any kind (so no `V9Set` / `IpSet` for it can appear in a result) -/
theorem C07_unknown_never_ok (c : Config) (st : PState) (id : Nat) (body : Bytes) :
    (id ≠ c.t.v9TemplateId → id ≠ c.t.v9OptTemplateId → amLookup id st.v9O = none → amLookup id st.v9T = none →
      ∀ b, (v9ParseBody c st id body).2 ≠ .ok b) ∧
    (c.t.ipSetMinRange ≤ id → id ≠ c.t.ipOptTemplateId → amLookup id st.ipT = none → amLookup id st.ipO = none →
      ∀ b, (ipParseBody c st id body).2 ≠ .ok b) := by
  constructor
  · intro h1 h2 hO hT b; rw [C07_v9_unknown c st id body h1 h2 hO hT]; simp
  · intro h1 h2 hT hO b; rw [C07_ipfix_unknown c st id body h1 h2 hT hO]; simp

/-- the other protocol's caches are irrelevant: an id defined ONLY for IPFIX is unknown to V9 and
    vice versa (whatever `ipT`/`ipO` contain) -/
theorem C07_other_protocol_irrelevant (c : Config) (st : PState) (id : Nat) (body : Bytes)
    (ipT : List (Nat × IpTemplate)) (ipO : List (Nat × IpOptTemplate))
    (h1 : id ≠ c.t.v9TemplateId) (h2 : id ≠ c.t.v9OptTemplateId)
    (hO : amLookup id st.v9O = none) (hT : amLookup id st.v9T = none) :
    v9ParseBody c { st with ipT := ipT, ipO := ipO } id body = ({ st with ipT := ipT, ipO := ipO }, .err) :=
  C07_v9_unknown c _ id body h1 h2 hO hT

/-- summary: in every unknown-template situation above the caches are returned unchanged. -/
theorem C07_unknown_keeps_state (c : Config) (st : PState) (id : Nat) (body : Bytes) :
    (id ≠ c.t.v9TemplateId → id ≠ c.t.v9OptTemplateId → amLookup id st.v9O = none → amLookup id st.v9T = none →
      (v9ParseBody c st id body).1 = st) ∧
    (c.t.ipSetMinRange ≤ id → id ≠ c.t.ipOptTemplateId → amLookup id st.ipT = none → amLookup id st.ipO = none →
      (ipParseBody c st id body).1 = st) := by
  constructor
  · intro h1 h2 hO hT; rw [C07_v9_unknown c st id body h1 h2 hO hT]
  · intro h1 h2 hT hO; rw [C07_ipfix_unknown c st id body h1 h2 hT hO]

/-- **C07** (whole call, any buffer, any earlier state): every data flowset / set that appears in
    ANY packet returned by `parse_bytes` carries an id that is known to its protocol's caches when
    the call returns.  (`DataKnown`, Lemmas/State.lean; ids are never evicted — C06 — so "known
    at the end" is implied by "known when it was decoded".) -/
theorem C07_records_only_for_known (c : Config) (st st' : PState) (buf : Bytes) (pkts : List Packet)
    (h : parseBytes c st buf = (st', .done pkts)) : ∀ p ∈ pkts, DataKnown c st' p :=
  parseBytesF_dataKnown c _ _ _ _ _ h

/-- **C07** contrapositive, in the shape of the first conjunct of `Preds.noRecordsFor`: if `tid`
    (a data-set id) is STILL unknown to V9 when the call returns, no V9 packet of the result
    contains a flowset with that id; same for IPFIX. -/
theorem C07_no_set_for_unknown (c : Config) (st st' : PState) (buf : Bytes) (pkts : List Packet) (tid : Nat)
    (h : parseBytes c st buf = (st', .done pkts)) :
    (tid ≠ c.t.v9TemplateId → tid ≠ c.t.v9OptTemplateId → ¬ KnownV9 st' tid →
      ∀ hd ss, Packet.v9 hd ss ∈ pkts → ∀ s ∈ ss, s.id ≠ tid) ∧
    (c.t.ipSetMinRange ≤ tid → tid ≠ c.t.ipOptTemplateId → ¬ KnownIp st' tid →
      ∀ hd ss, Packet.ipfix hd ss ∈ pkts → ∀ s ∈ ss, s.id ≠ tid) := by
  have hk := C07_records_only_for_known c st st' buf pkts h
  constructor
  · intro h1 h2 hn hd ss hp s hs e
    have := hk _ hp s hs (by rw [e]; exact h1) (by rw [e]; exact h2)
    rw [e] at this
    exact hn this
  · intro h1 h2 hn hd ss hp s hs e
    have := hk _ hp s hs (by rw [e]; exact h1) (by rw [e]; exact h2)
    rw [e] at this
    exact hn this

private def c07Cfg : Config := { t := Generated.tables, allowed := [5, 7, 9, 10] }
/-- a state that knows id 256 only for IPFIX -/
private def c07St : PState :=
  { ipT := [(256, { id := 256, fieldCount := 1, fields := [{ typ := 1, len := 3, ent := none }], pad := [] })] }
/-- V9 data flowset for id 256 -/
private def c07Set : Bytes := [1,0, 0,8, 1,2,3, 0]

/-- hypotheses of `C07_v9_unknown` / `C07_other_protocol_irrelevant`: 256 is a data id, in neither
    V9 map (although IPFIX knows it) -/
example : (256 ≠ c07Cfg.t.v9TemplateId ∧ 256 ≠ c07Cfg.t.v9OptTemplateId) ∧
    amLookup 256 c07St.v9O = none ∧ amLookup 256 c07St.v9T = none ∧ (amLookup 256 c07St.ipT).isSome := by decide +kernel

/-- hypotheses of `C07_v9_unknown_set`: header and body of the flowset are present -/
example : parseLayout c07Cfg.t.protoFromU8 c07Cfg.t.v9SetHdr c07Set = some ([256, 8], [1, 2, 3, 0]) ∧
    takeN (8 - 4) [1, 2, 3, 0] = some ([1, 2, 3, 0], []) := by decide +kernel

/-- hypotheses of `C07_v9_err_propagates`: flowset 1 defines template 257, flowset 2 is data for the
    unknown 256 — the error carries the state in which 257 is defined -/
example : (v9ParseSet c07Cfg {} ([0,0, 0,12, 1,1, 0,1, 0,1, 0,3] ++ c07Set)).2 =
      .ok ({ id := 0, len := 12, body := .templates [{ id := 257, fieldCount := 1, fields := [{ typ := 1, len := 3 }] }] [] }, c07Set) ∧
    v9ParseSets c07Cfg 2 {} ([0,0, 0,12, 1,1, 0,1, 0,1, 0,3] ++ c07Set) =
      ({ v9T := [(257, { id := 257, fieldCount := 1, fields := [{ typ := 1, len := 3 }] })] }, .err) := by decide +kernel

/-- whole call, V9: the packet is reported as an error, caches unchanged, although IPFIX knows 256 -/
example : parseBytes c07Cfg c07St ([0,9, 0,1, 0,0,0,1, 0,0,0,2, 0,0,0,3, 0,0,0,4] ++ c07Set) =
    (c07St, .done [.error (.partialParse 9 ([0,1, 0,0,0,1, 0,0,0,2, 0,0,0,3, 0,0,0,4] ++ c07Set))
                     ([0,9, 0,1, 0,0,0,1, 0,0,0,2, 0,0,0,3, 0,0,0,4] ++ c07Set)]) := by decide +kernel

/-- whole call, IPFIX from the empty state: the message is reported without the set, caches unchanged
    (hypotheses of `C07_ipfix_unknown*`, `C07_ipfix_sets_stop`, `C07_ipfix_message_ok`) -/
example : parseBytes c07Cfg {} ([0,10, 0,24, 0,0,0,1, 0,0,0,2, 0,0,0,3] ++ c07Set) =
    ({}, .done [.ipfix [10, 24, 1, 2, 3] []]) := by decide +kernel

/-- `C07_ipfix_sets_keep_earlier`: a template set for 257 followed by data for the unknown 256 —
    the first set is kept, the second omitted -/
example : (parseBytes c07Cfg {} ([0,10, 0,36, 0,0,0,1, 0,0,0,2, 0,0,0,3,  0,2, 0,12, 1,1, 0,1, 0,1, 0,3] ++ c07Set)).2 =
    .done [.ipfix [10, 36, 1, 2, 3]
      [{ id := 2, len := 12, body := .template { id := 257, fieldCount := 1, fields := [{ typ := 1, len := 3, ent := none }], pad := [] } }]] := by
  decide +kernel

/-- `C07_no_records_*`: a decoded data body does exist once the template is known (same bytes) -/
example : ipParseBody c07Cfg c07St 256 [1, 2, 3, 0] = (c07St, .ok (.data [[(0, 1, .num (.u24 66051))]] [0])) := by decide +kernel

/-- `C07_failed_packet_reported`: earlier packets of the buffer are still reported — a V5 packet
    followed by the V9 packet with the unknown data flowset -/
example : (parseBytes c07Cfg {} ([0, 5, 0, 0, 0, 0, 0, 1, 0, 0, 0, 2, 0, 0, 0, 3, 0, 0, 0, 4, 5, 6, 0, 7] ++
      [0,9, 0,1, 0,0,0,1, 0,0,0,2, 0,0,0,3, 0,0,0,4] ++ c07Set)).2 =
    .done [.v5 [5, 0, 1, 2, 3, 4, 5, 6, 7] [],
           .error (.partialParse 9 ([0,1, 0,0,0,1, 0,0,0,2, 0,0,0,3, 0,0,0,4] ++ c07Set))
             ([0,9, 0,1, 0,0,0,1, 0,0,0,2, 0,0,0,3, 0,0,0,4] ++ c07Set)] ∧
    noRecordsFor 256 9 [.v5 [5, 0, 1, 2, 3, 4, 5, 6, 7] [],
           .error (.partialParse 9 ([0,1, 0,0,0,1, 0,0,0,2, 0,0,0,3, 0,0,0,4] ++ c07Set))
             ([0,9, 0,1, 0,0,0,1, 0,0,0,2, 0,0,0,3, 0,0,0,4] ++ c07Set)] = true := by decide +kernel

end Netflow.Props
