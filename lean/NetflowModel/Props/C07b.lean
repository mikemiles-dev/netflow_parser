/-
  Props/C07b.lean — the runtime predicate `Preds.noRecordsFor tid proto pkts` holds of the MODEL on the
  buffers of the shape

      pre.flatten ++ p

  where `pre` is a chain of self-delimiting accepted packets (`chainOk`, Lemmas/Locality) and `p` is ONE
  packet of the protocol `proto` (9 / 10) whose flowsets / sets are a chain `front` of sets that each decode
  in turn (e.g. a template set for another id and a data set for it; possibly empty), then
  a set whose header carries the data id `tid` (`C1x.V9UnknownAt` / `C1x.IpUnknownAt`), `tid` not being known
  to that protocol's caches in the state reached in front of that set.

  Two forms of the last hypothesis are given: `tid` unknown in the state `st2` reached after `front`
  (`C07_noRecordsFor_v9` / `_ipfix`), or unknown in the state reached after `pre` AND defined by no set of
  `front` (`…_notDefined` : "not cached after `pre`, not defined earlier inside `p` itself").  The special case "the
  unknown data set is the FIRST set of `p`" is `front := []` (`…_first`).
-/
import NetflowModel.Lemmas.Oracles
import NetflowModel.Props.C07
import NetflowModel.Generated
namespace Netflow.Props
open Netflow Preds Netflow.C1x

/-- **C07, V9, oracle form.**  The packet `p` carrying the unknown data flowset (`C1x.V9UnknownAt`, from the
    state reached after `pre`) becomes the final error element (after the reported packets of `pre`), and
    `noRecordsFor tid 9` holds of the result. -/
theorem C07_noRecordsFor_v9 (c : Config) (hf : c.t.framingOk = true) (st st2 : PState) (pre : List Bytes)
    (p body : Bytes) (ss : List V9Set) (tid : Nat)
    (hpre : chainOk c st pre = true) (hp : V9UnknownAt c (foldCalls c st pre).1 p body tid st2 ss)
    (hunk : ¬ KnownV9 st2 tid) :
    parseBytes c st (pre.flatten ++ p) =
      (st2, .done ((foldCalls c st pre).2 ++ [.error (.partialParse 9 body) p])) ∧
    noRecordsFor tid 9 ((foldCalls c st pre).2 ++ [.error (.partialParse 9 body) p]) = true := by
  have hw : 0 < c.t.v9SetHdr.wireLen := by
    simp only [Tables.framingOk, Bool.and_eq_true, beq_iff_eq] at hf; omega
  have hpk := parsePacket_v9_unknown c hw hp hunk
  obtain ⟨h1, h2⟩ := hp.data_id
  have hcall := parseBytes_fail c hp.ne_nil hpk
  have hwhole := parseBytes_chain_append c pre st hpre p
  rw [hcall] at hwhole
  simp only [Outcome.prepend] at hwhole
  refine ⟨hwhole, ?_⟩
  apply noRecordsFor_concat
  · intro _ hd' ss' hm
    exact (C07_no_set_for_unknown c st st2 _ _ tid hwhole).1 h1 h2 hunk hd' ss' hm
  · intro h; simp at h
  · exact Or.inl ⟨rfl, body, p, rfl⟩
  · exact chainOk_no_error c pre st hpre

/-- **C07, IPFIX, oracle form.**  The message `p` (`C1x.IpUnknownAt`) is reported with exactly the sets of
    `front` (none of id `tid`), after the reported packets of `pre`, and `noRecordsFor tid 10` holds of the result. -/
theorem C07_noRecordsFor_ipfix (c : Config) (hf : c.t.framingOk = true) (st st2 : PState) (pre : List Bytes)
    (p : Bytes) (hd : List Nat) (ss : List IpSet) (tid : Nat)
    (hpre : chainOk c st pre = true) (hp : IpUnknownAt c (foldCalls c st pre).1 p hd tid st2 ss)
    (hunk : ¬ KnownIp st2 tid) :
    parseBytes c st (pre.flatten ++ p) = (st2, .done ((foldCalls c st pre).2 ++ [.ipfix hd ss])) ∧
    noRecordsFor tid 10 ((foldCalls c st pre).2 ++ [.ipfix hd ss]) = true := by
  have hw : 0 < c.t.ipSetHdr.wireLen := by
    simp only [Tables.framingOk, Bool.and_eq_true, beq_iff_eq] at hf; omega
  have hpk := parsePacket_ipfix_unknown c hw hp hunk
  obtain ⟨h1, h2⟩ := hp.data_id
  have hcall := parseBytes_selfDelimiting c hpk
  have hwhole := parseBytes_chain_append c pre st hpre p
  rw [hcall] at hwhole
  simp only [Outcome.prepend] at hwhole
  refine ⟨hwhole, ?_⟩
  apply noRecordsFor_concat
  · intro h; simp at h
  · intro _ hd' ss' hm
    exact (C07_no_set_for_unknown c st st2 _ _ tid hwhole).2 h1 h2 hunk hd' ss' hm
  · exact Or.inr ⟨rfl, hd, ss, rfl⟩
  · exact chainOk_no_error c pre st hpre

/-- **C07, V9**, with the hypothesis on `tid` split as in the property text: unknown to V9 in the state
    reached after `pre`, and defined by no template / options-template flowset of `front`. -/
theorem C07_noRecordsFor_v9_notDefined (c : Config) (hf : c.t.framingOk = true) (st st2 : PState) (pre : List Bytes)
    (p body : Bytes) (ss : List V9Set) (tid : Nat)
    (hpre : chainOk c st pre = true) (hp : V9UnknownAt c (foldCalls c st pre).1 p body tid st2 ss)
    (hunk : ¬ KnownV9 (foldCalls c st pre).1 tid) (hdef : ∀ s ∈ ss, v9Defines tid s = false) :
    parseBytes c st (pre.flatten ++ p) =
      (st2, .done ((foldCalls c st pre).2 ++ [.error (.partialParse 9 body) p])) ∧
    noRecordsFor tid 9 ((foldCalls c st pre).2 ++ [.error (.partialParse 9 body) p]) = true :=
  C07_noRecordsFor_v9 c hf st st2 pre p body ss tid hpre hp fun hk => by
    rcases hp.known hk with h | ⟨s, hs', hd'⟩
    · exact hunk h
    · rw [hdef s hs'] at hd'; cases hd'

/-- **C07, IPFIX**, same split of the hypothesis on `tid`. -/
theorem C07_noRecordsFor_ipfix_notDefined (c : Config) (hf : c.t.framingOk = true) (st st2 : PState) (pre : List Bytes)
    (p : Bytes) (hd : List Nat) (ss : List IpSet) (tid : Nat)
    (hpre : chainOk c st pre = true) (hp : IpUnknownAt c (foldCalls c st pre).1 p hd tid st2 ss)
    (hunk : ¬ KnownIp (foldCalls c st pre).1 tid) (hdef : ∀ s ∈ ss, ipDefines tid s = false) :
    parseBytes c st (pre.flatten ++ p) = (st2, .done ((foldCalls c st pre).2 ++ [.ipfix hd ss])) ∧
    noRecordsFor tid 10 ((foldCalls c st pre).2 ++ [.ipfix hd ss]) = true :=
  C07_noRecordsFor_ipfix c hf st st2 pre p hd ss tid hpre hp fun hk => by
    rcases hp.known hk with h | ⟨s, hs', hd'⟩
    · exact hunk h
    · rw [hdef s hs'] at hd'; cases hd'

/-- the special case `front := []`: the unknown data flowset is the first flowset of `p` (hypotheses spelled out) -/
theorem C07_noRecordsFor_v9_first (c : Config) (hf : c.t.framingOk = true) (st : PState) (pre : List Bytes)
    (p body : Bytes) (v : Nat) (hd : List Nat) (b : Bytes) (sh : List Nat) (r1 : Bytes) (tid : Nat)
    (hpre : chainOk c st pre = true)
    (hv : beU 2 p = some (v, body)) (ha : c.allowed.contains v = true) (hdp : c.t.dispatch.lookup v = some 9)
    (hh : parseLayout c.t.protoFromU8 c.t.v9Hdr body = some (hd, b))
    (hcount : 0 < c.t.v9Hdr.get "count" hd)
    (hs : parseLayout c.t.protoFromU8 c.t.v9SetHdr b = some (sh, r1))
    (hid : c.t.v9SetHdr.get "flowset_id" sh = tid)
    (h1 : tid ≠ c.t.v9TemplateId) (h2 : tid ≠ c.t.v9OptTemplateId)
    (hunk : ¬ KnownV9 (foldCalls c st pre).1 tid) :
    parseBytes c st (pre.flatten ++ p) =
      ((foldCalls c st pre).1, .done ((foldCalls c st pre).2 ++ [.error (.partialParse 9 body) p])) ∧
    noRecordsFor tid 9 ((foldCalls c st pre).2 ++ [.error (.partialParse 9 body) p]) = true :=
  C07_noRecordsFor_v9 c hf st _ pre p body [] tid hpre
    ⟨v, hd, [], b, sh, r1, hv, ha, hdp, by simpa using hh, rfl, by simpa using hcount, hs, hid, h1, h2⟩ hunk

/-- the same for an IPFIX message whose first set carries the unknown data id -/
theorem C07_noRecordsFor_ipfix_first (c : Config) (hf : c.t.framingOk = true) (st : PState) (pre : List Bytes)
    (p body : Bytes) (v : Nat) (hd : List Nat) (r : Bytes) (b : Bytes) (sh : List Nat) (r1 : Bytes) (tid : Nat)
    (hpre : chainOk c st pre = true)
    (hv : beU 2 p = some (v, body)) (ha : c.allowed.contains v = true) (hdp : c.t.dispatch.lookup v = some 10)
    (hh : parseLayout c.t.protoFromU8 c.t.ipHdr body = some (hd, r))
    (ht : takeN (c.t.ipHdr.get "length" hd - 16) r = some (b, []))
    (hs : parseLayout c.t.protoFromU8 c.t.ipSetHdr b = some (sh, r1))
    (hid : c.t.ipSetHdr.get "header_id" sh = tid)
    (h1 : c.t.ipSetMinRange ≤ tid) (h2 : tid ≠ c.t.ipOptTemplateId)
    (hunk : ¬ KnownIp (foldCalls c st pre).1 tid) :
    parseBytes c st (pre.flatten ++ p) =
      ((foldCalls c st pre).1, .done ((foldCalls c st pre).2 ++ [.ipfix hd []])) ∧
    noRecordsFor tid 10 ((foldCalls c st pre).2 ++ [.ipfix hd []]) = true :=
  C07_noRecordsFor_ipfix c hf st _ pre p hd [] tid hpre
    ⟨v, body, r, [], b, sh, r1, hv, ha, hdp, hh, by simpa using ht, rfl, hs, hid, h1, h2⟩ hunk

/-! non-vacuity (generated tables): a V5 packet, then the packet with
    [template 257] [data 257] [data 256 — unknown] -/

private def c07bCfg : Config := { t := Generated.tables, allowed := [5, 7, 9, 10] }
private def c07bV5 : Bytes := [0, 5, 0, 0, 0, 0, 0, 1, 0, 0, 0, 2, 0, 0, 0, 3, 0, 0, 0, 4, 5, 6, 0, 7]
/-- V9 template flowset: 257 = [IN_BYTES / 3] -/
private def c07bT9 : Bytes := [0,0, 0,12, 1,1, 0,1, 0,1, 0,3]
/-- IPFIX template set: 257 = [octetDeltaCount / 3] -/
private def c07bT10 : Bytes := [0,2, 0,12, 1,1, 0,1, 0,1, 0,3]
/-- data set for 257, one record -/
private def c07bD257 : Bytes := [1,1, 0,8, 1,2,3,0]
/-- data set for 256 -/
private def c07bD256 : Bytes := [1,0, 0,8, 1,2,3,0]
private def c07bBody9 : Bytes := [0,3, 0,0,0,1, 0,0,0,2, 0,0,0,3, 0,0,0,4] ++ c07bT9 ++ c07bD257 ++ c07bD256
private def c07bBody10 : Bytes := [0,44, 0,0,0,1, 0,0,0,2, 0,0,0,3] ++ c07bT10 ++ c07bD257 ++ c07bD256
private def c07bSt9 : PState := { v9T := [(257, ⟨257, 1, [⟨1, 3⟩]⟩)] }
private def c07bSt10 : PState := { ipT := [(257, ⟨257, 1, [⟨1, 3, none⟩], []⟩)] }
private def c07bSs9 : List V9Set :=
  [⟨0, 12, .templates [⟨257, 1, [⟨1, 3⟩]⟩] []⟩, ⟨257, 8, .data [[(0, 1, .num (.u24 66051))]] [0]⟩]
private def c07bSs10 : List IpSet :=
  [⟨2, 12, .template ⟨257, 1, [⟨1, 3, none⟩], []⟩⟩, ⟨257, 8, .data [[(0, 1, .num (.u24 66051))]] [0]⟩]

theorem c07bChain : chainOk c07bCfg {} [c07bV5] = true := by decide +kernel

theorem c07bFold : foldCalls c07bCfg {} [c07bV5] = ({}, [.v5 [5, 0, 1, 2, 3, 4, 5, 6, 7] []]) := by decide +kernel

/-- every hypothesis of `C07_noRecordsFor_v9_notDefined` (hence of `C07_noRecordsFor_v9`) is met by a concrete buffer
    whose unknown data flowset is the THIRD flowset of its packet, behind a decoded data record -/
example :
    noRecordsFor 256 9 ((foldCalls c07bCfg {} [c07bV5]).2 ++ [.error (.partialParse 9 c07bBody9) ([0, 9] ++ c07bBody9)]) = true :=
  (C07_noRecordsFor_v9_notDefined c07bCfg C02_generated_framing {} c07bSt9 [c07bV5] ([0, 9] ++ c07bBody9) c07bBody9 c07bSs9 256 c07bChain
    ⟨9, [9, 3, 1, 2, 3, 4], [c07bT9, c07bD257], c07bD256, [256, 8], [1, 2, 3, 0], by rw [c07bFold]; decide +kernel⟩
    (by rw [c07bFold]; decide +kernel) (by decide +kernel)).2

/-- the same for `C07_noRecordsFor_ipfix_notDefined` -/
example :
    noRecordsFor 256 10 ((foldCalls c07bCfg {} [c07bV5]).2 ++ [.ipfix [10, 44, 1, 2, 3] c07bSs10]) = true :=
  (C07_noRecordsFor_ipfix_notDefined c07bCfg C02_generated_framing {} c07bSt10 [c07bV5] ([0, 10] ++ c07bBody10) [10, 44, 1, 2, 3] c07bSs10 256
    c07bChain
    ⟨10, c07bBody10, c07bT10 ++ c07bD257 ++ c07bD256, [c07bT10, c07bD257], c07bD256, [256, 8], [1, 2, 3, 0],
      by rw [c07bFold]; decide +kernel⟩
    (by rw [c07bFold]; decide +kernel) (by decide +kernel)).2

/-- and the whole-call results the theorems speak about really are what `parseBytes` returns, with a decoded
    record reported in front of the unknown set (IPFIX) / nothing of the V9 packet reported -/
example :
    parseBytes c07bCfg {} ([c07bV5].flatten ++ ([0, 9] ++ c07bBody9)) =
      (c07bSt9, .done [.v5 [5, 0, 1, 2, 3, 4, 5, 6, 7] [], .error (.partialParse 9 c07bBody9) ([0, 9] ++ c07bBody9)]) ∧
    parseBytes c07bCfg {} ([c07bV5].flatten ++ ([0, 10] ++ c07bBody10)) =
      (c07bSt10, .done [.v5 [5, 0, 1, 2, 3, 4, 5, 6, 7] [], .ipfix [10, 44, 1, 2, 3] c07bSs10]) := by
  decide +kernel

/-- first-set special cases: hypotheses met by the V5 packet followed by a packet holding only the unknown set -/
example :
    noRecordsFor 256 9 ((foldCalls c07bCfg {} [c07bV5]).2 ++
      [.error (.partialParse 9 ([0,1, 0,0,0,1, 0,0,0,2, 0,0,0,3, 0,0,0,4] ++ c07bD256))
        ([0, 9] ++ ([0,1, 0,0,0,1, 0,0,0,2, 0,0,0,3, 0,0,0,4] ++ c07bD256))]) = true :=
  (C07_noRecordsFor_v9_first c07bCfg C02_generated_framing {} [c07bV5] _ _ 9 [9, 1, 1, 2, 3, 4] c07bD256 [256, 8] [1, 2, 3, 0] 256
    c07bChain (by decide +kernel) (by decide +kernel) (by decide +kernel) (by decide +kernel) (by decide +kernel)
    (by decide +kernel) (by decide +kernel) (by decide +kernel) (by decide +kernel) (by rw [c07bFold]; decide +kernel)).2

example :
    noRecordsFor 256 10 ((foldCalls c07bCfg {} [c07bV5]).2 ++ [.ipfix [10, 24, 1, 2, 3] []]) = true :=
  (C07_noRecordsFor_ipfix_first c07bCfg C02_generated_framing {} [c07bV5] ([0, 10] ++ ([0,24, 0,0,0,1, 0,0,0,2, 0,0,0,3] ++ c07bD256))
    ([0,24, 0,0,0,1, 0,0,0,2, 0,0,0,3] ++ c07bD256) 10 [10, 24, 1, 2, 3] c07bD256 c07bD256 [256, 8] [1, 2, 3, 0] 256
    c07bChain (by decide +kernel) (by decide +kernel) (by decide +kernel) (by decide +kernel) (by decide +kernel)
    (by decide +kernel) (by decide +kernel) (by decide +kernel) (by decide +kernel) (by rw [c07bFold]; decide +kernel)).2

/-- the generated tables meet the side condition `framingOk` of all theorems of this file -/
theorem C07_generated_framing : Generated.tables.framingOk = true := C02_generated_framing

end Netflow.Props

