/-
  Props/C07c.lean — C07, last clause: "once the template is later received the same data bytes
  decode normally": for a V9 data flowset body, flowset and one-flowset packet, for three calls of
  `parse_packet_by_version` / `parse_bytes` on the same parser (data → error, template → cached, the
  SAME data → decoded), and the IPFIX analogue with `ipRecLoop` at set level.
-/
import NetflowModel.Props.C07
import NetflowModel.Lemmas.CostIp
import NetflowModel.Generated
namespace Netflow.Props
open Netflow Preds

/-- **C07, last clause, V9 body**: the id is a data id, it has no options template, it has a cached
    template `t` whose record size is not zero.  Then the body is reported as data records (never an
    error, never a panic), the caches are unchanged, and there are at most `|body| / size` records. -/
theorem C07_then_known_decodes_v9 (c : Config) (st : PState) (id : Nat) (body : Bytes) (t : V9Template)
    (h1 : id ≠ c.t.v9TemplateId) (h2 : id ≠ c.t.v9OptTemplateId)
    (hO : amLookup id st.v9O = none) (hT : amLookup id st.v9T = some t) (hz : v9TotalSize t.fields ≠ 0) :
    ∃ recs pad, v9ParseBody c st id body = (st, .ok (.data recs pad)) ∧
      (recs, pad) = v9RecLoop c t.fields (body.length / v9TotalSize t.fields) body [] ∧
      recs.length ≤ body.length / v9TotalSize t.fields ∧ pad.length ≤ body.length := by
  refine ⟨(v9RecLoop c t.fields (body.length / v9TotalSize t.fields) body []).1,
    (v9RecLoop c t.fields (body.length / v9TotalSize t.fields) body []).2, ?_, rfl, ?_⟩
  · simp [v9ParseBody, h1, h2, hO, hT, hz]
  · have := B3.v9RecLoop_count c t.fields (body.length / v9TotalSize t.fields) body [] _ _ rfl
    simpa using this

/-- … and the list of records is not empty as soon as the body is at least one record long and its
    first record decodes -/
theorem C07_then_known_nonempty_v9 (c : Config) (st : PState) (id : Nat) (body : Bytes) (t : V9Template)
    (h1 : id ≠ c.t.v9TemplateId) (h2 : id ≠ c.t.v9OptTemplateId)
    (hO : amLookup id st.v9O = none) (hT : amLookup id st.v9T = some t) (hz : v9TotalSize t.fields ≠ 0)
    (hlen : v9TotalSize t.fields ≤ body.length) (r : Rec) (rest : Bytes)
    (hrec : v9ParseRec c t.fields 0 body = some (r, rest)) :
    ∃ recs pad, v9ParseBody c st id body = (st, .ok (.data (r :: recs) pad)) := by
  obtain ⟨recs, pad, hb, hloop, _, _⟩ := C07_then_known_decodes_v9 c st id body t h1 h2 hO hT hz
  have hpos : 0 < body.length / v9TotalSize t.fields := Nat.div_pos hlen (by omega)
  obtain ⟨n, hn⟩ : ∃ n, body.length / v9TotalSize t.fields = n + 1 := ⟨_, (Nat.succ_pred_eq_of_pos hpos).symm⟩
  rw [hn, v9RecLoop_succ_some hrec, v9RecLoop_acc] at hloop
  rw [(Prod.mk.inj hloop).1] at hb
  exact ⟨_, pad, hb⟩

/-- the flowset carrying such a body: decoded, state unchanged, the bytes after it remain -/
theorem C07_then_known_set_v9 (c : Config) (st : PState) (i : Bytes) (hd : List Nat) (r body r' : Bytes) (t : V9Template)
    (hh : parseLayout c.t.protoFromU8 c.t.v9SetHdr i = some (hd, r))
    (ht : takeN (c.t.v9SetHdr.get "length" hd - 4) r = some (body, r'))
    (h1 : c.t.v9SetHdr.get "flowset_id" hd ≠ c.t.v9TemplateId)
    (h2 : c.t.v9SetHdr.get "flowset_id" hd ≠ c.t.v9OptTemplateId)
    (hO : amLookup (c.t.v9SetHdr.get "flowset_id" hd) st.v9O = none)
    (hT : amLookup (c.t.v9SetHdr.get "flowset_id" hd) st.v9T = some t) (hz : v9TotalSize t.fields ≠ 0) :
    ∃ recs pad, v9ParseSet c st i =
        (st, .ok ({ id := c.t.v9SetHdr.get "flowset_id" hd, len := c.t.v9SetHdr.get "length" hd,
                    body := .data recs pad }, r')) ∧
      recs.length ≤ body.length / v9TotalSize t.fields := by
  obtain ⟨recs, pad, hb, _, hl, _⟩ := C07_then_known_decodes_v9 c st _ body t h1 h2 hO hT hz
  exact ⟨recs, pad, by simp [v9ParseSet, hh, ht, hb], hl⟩

/-- `p` is (the remaining input starting with) a V9 packet whose header announces ONE flowset:
    version word `v` allowed and dispatched to the V9 parser, header `hd`, then a flowset with header
    `sh` and body `sbody`; `rest` is what follows the flowset. -/
def V9OneSet (c : Config) (p : Bytes) (hd sh : List Nat) (sbody rest : Bytes) : Prop :=
  ∃ (v : Nat) (r r1 : Bytes),
    beU 2 p = some (v, p.drop 2) ∧ c.allowed.contains v = true ∧ c.t.dispatch.lookup v = some 9 ∧
    parseLayout c.t.protoFromU8 c.t.v9Hdr (p.drop 2) = some (hd, r) ∧ c.t.v9Hdr.get "count" hd = 1 ∧ r ≠ [] ∧
    parseLayout c.t.protoFromU8 c.t.v9SetHdr r = some (sh, r1) ∧
    takeN (c.t.v9SetHdr.get "length" sh - 4) r1 = some (sbody, rest)

/-- what `parse_packet_by_version` does with a one-flowset V9 packet, in terms of the flowset body -/
theorem parsePacket_v9OneSet (c : Config) (st : PState) (p : Bytes) (hd sh : List Nat) (sbody rest : Bytes)
    (hp : V9OneSet c p hd sh sbody rest) :
    parsePacket c st p =
      match v9ParseBody c st (c.t.v9SetHdr.get "flowset_id" sh) sbody with
      | (st', .ok b) =>
        (st', .ok (.v9 hd [{ id := c.t.v9SetHdr.get "flowset_id" sh, len := c.t.v9SetHdr.get "length" sh, body := b }]) rest)
      | (st', .err) => (st', .fail (.partialParse 9 (p.drop 2)))
      | (st', .panic) => (st', .panic)
      | (st', .overflow) => (st', .overflow) := by
  obtain ⟨v, r, r1, hv, ha, hdp, hh, hc, hne, hs, ht⟩ := hp
  have hemp : r.isEmpty = false := by cases r <;> simp_all
  have ha' : v ∈ c.allowed := by simpa using ha
  cases hb : v9ParseBody c st (c.t.v9SetHdr.get "flowset_id" sh) sbody with
  | mk st' res =>
    cases res <;>
      simp [parsePacket, hv, ha', hdp, parseVersioned, parseV9, hh, hc, v9ParseSets, hemp, v9ParseSet, hs, ht, hb, liftRes]

/-- **C07, the whole scenario, V9, three calls on one parser.**
    `d` is a V9 packet with one data flowset for `id`, `tp` a V9 packet with one template flowset
    announcing exactly the template `t` with `t.id = id` (non-zero record size).  From ANY state `st`
    in which `id` is unknown to V9:
      1. `parse_packet_by_version(d)` fails (`Partial`), caches unchanged;
      2. `parse_packet_by_version(tp)` returns the template flowset and caches `t`;
      3. `parse_packet_by_version(d)` — the SAME bytes — now returns a V9 packet whose flowset for `id`
         is `.data` (at most `|body| / size` records), caches unchanged. -/
theorem C07_unknown_then_template_then_data_v9 (c : Config) (st : PState)
    (d : Bytes) (hd sh : List Nat) (dbody drest : Bytes) (tp : Bytes) (thd tsh : List Nat) (tbody trest : Bytes)
    (t : V9Template) (tpad : Bytes)
    (hdp : V9OneSet c d hd sh dbody drest) (htp : V9OneSet c tp thd tsh tbody trest)
    (h1 : c.t.v9SetHdr.get "flowset_id" sh ≠ c.t.v9TemplateId)
    (h2 : c.t.v9SetHdr.get "flowset_id" sh ≠ c.t.v9OptTemplateId)
    (htid : c.t.v9SetHdr.get "flowset_id" tsh = c.t.v9TemplateId)
    (hmany : many0 parseV9Template tbody = .ok ([t], tpad))
    (hid : t.id = c.t.v9SetHdr.get "flowset_id" sh) (hz : v9TotalSize t.fields ≠ 0)
    (hO : amLookup (c.t.v9SetHdr.get "flowset_id" sh) st.v9O = none)
    (hT : amLookup (c.t.v9SetHdr.get "flowset_id" sh) st.v9T = none) :
    ∃ st1 : PState,
      parsePacket c st d = (st, .fail (.partialParse 9 (d.drop 2))) ∧
      parsePacket c st tp =
        (st1, .ok (.v9 thd [{ id := c.t.v9TemplateId, len := c.t.v9SetHdr.get "length" tsh,
                               body := .templates [t] tpad }]) trest) ∧
      amLookup (c.t.v9SetHdr.get "flowset_id" sh) st1.v9T = some t ∧
      ∃ recs pad,
        parsePacket c st1 d =
          (st1, .ok (.v9 hd [{ id := c.t.v9SetHdr.get "flowset_id" sh, len := c.t.v9SetHdr.get "length" sh,
                                body := .data recs pad }]) drest) ∧
        recs.length ≤ dbody.length / v9TotalSize t.fields := by
  refine ⟨{ st with v9T := amInsert t.id t st.v9T, v9O := amErase t.id st.v9O }, ?_, ?_, ?_, ?_⟩
  · rw [parsePacket_v9OneSet c st d hd sh dbody drest hdp, C07_v9_unknown c st _ dbody h1 h2 hO hT]
  · rw [parsePacket_v9OneSet c st tp thd tsh tbody trest htp, htid]
    simp [v9ParseBody, hmany, insertV9Templates]
  · simp [hid, amLookup_amInsert]
  · have hO1 : amLookup (c.t.v9SetHdr.get "flowset_id" sh) (amErase t.id st.v9O) = none := by
      rw [hid, amErase_of_lookup_none hO]; exact hO
    have hT1 : amLookup (c.t.v9SetHdr.get "flowset_id" sh) (amInsert t.id t st.v9T) = some t := by
      simp [hid, amLookup_amInsert]
    obtain ⟨recs, pad, hb, _, hl, _⟩ :=
      C07_then_known_decodes_v9 c { st with v9T := amInsert t.id t st.v9T, v9O := amErase t.id st.v9O }
        _ dbody t h1 h2 hO1 hT1 hz
    refine ⟨recs, pad, ?_, hl⟩
    rw [parsePacket_v9OneSet c _ d hd sh dbody drest hdp, hb]

/-- the same scenario as three calls of `parse_bytes`, the data packet being the whole buffer:
    first an error element carrying the buffer, finally exactly one V9 packet with the data -/
theorem C07_unknown_then_template_then_data_v9_bytes (c : Config) (st : PState)
    (d : Bytes) (hd sh : List Nat) (dbody : Bytes) (tp : Bytes) (thd tsh : List Nat) (tbody : Bytes)
    (t : V9Template) (tpad : Bytes)
    (hdp : V9OneSet c d hd sh dbody []) (htp : V9OneSet c tp thd tsh tbody [])
    (h1 : c.t.v9SetHdr.get "flowset_id" sh ≠ c.t.v9TemplateId)
    (h2 : c.t.v9SetHdr.get "flowset_id" sh ≠ c.t.v9OptTemplateId)
    (htid : c.t.v9SetHdr.get "flowset_id" tsh = c.t.v9TemplateId)
    (hmany : many0 parseV9Template tbody = .ok ([t], tpad))
    (hid : t.id = c.t.v9SetHdr.get "flowset_id" sh) (hz : v9TotalSize t.fields ≠ 0)
    (hO : amLookup (c.t.v9SetHdr.get "flowset_id" sh) st.v9O = none)
    (hT : amLookup (c.t.v9SetHdr.get "flowset_id" sh) st.v9T = none) :
    ∃ st1 : PState,
      parseBytes c st d = (st, .done [.error (.partialParse 9 (d.drop 2)) d]) ∧
      (parseBytes c st tp).1 = st1 ∧
      ∃ recs pad,
        parseBytes c st1 d =
          (st1, .done [.v9 hd [{ id := c.t.v9SetHdr.get "flowset_id" sh, len := c.t.v9SetHdr.get "length" sh,
                                  body := .data recs pad }]]) := by
  obtain ⟨st1, a1, a2, _, recs, pad, a3, _⟩ :=
    C07_unknown_then_template_then_data_v9 c st d hd sh dbody [] tp thd tsh tbody [] t tpad hdp htp h1 h2 htid hmany
      hid hz hO hT
  have hne : ∀ (p : Bytes) (a b : List Nat) (x : Bytes), V9OneSet c p a b x [] → p ≠ [] := by
    intro p a b x ⟨v, _, _, hv, _⟩ e
    subst e
    simp [beU] at hv
  exact ⟨st1, parseBytes_fail c (hne d _ _ _ hdp) a1, by rw [parseBytes_done_iff.2 (.ok a2 (.nil _))],
    recs, pad, parseBytes_done_iff.2 (.ok a3 (.nil _))⟩

/-- a body made of complete records: each record decodes, every record but the last is followed by
    at least as many bytes as it took, the last one by fewer (or it took none) -/
inductive IpRecords (c : Config) (fs : List IpTField) : Bytes → List Rec → Bytes → Prop where
  | last (i : Bytes) (es : List Rec) (r : Bytes) (h : ipParseRec c fs 0 i = some (es, r))
      (hpad : r.length < i.length - r.length ∨ i.length - r.length = 0) : IpRecords c fs i es r
  | more (i : Bytes) (es : List Rec) (r : Bytes) (rest : List Rec) (pad : Bytes)
      (h : ipParseRec c fs 0 i = some (es, r)) (h0 : i.length - r.length ≠ 0) (hge : i.length - r.length ≤ r.length)
      (hrest : IpRecords c fs r rest pad) : IpRecords c fs i (es ++ rest) pad

theorem ipRecLoop_of_records (c : Config) (fs : List IpTField) (i : Bytes) (recs : List Rec) (pad : Bytes)
    (h : IpRecords c fs i recs pad) : ∀ fuel, i.length < fuel → ipRecLoop c fs fuel i = .ok (recs, pad) := by
  induction h with
  | last i es r h hpad =>
    intro fuel hf
    cases fuel with
    | zero => exact absurd hf (Nat.not_lt_zero _)
    | succ f => exact ipRecLoop_succ_stop h hpad.symm f
  | more i es r rest pad h h0 hge _ ih =>
    intro fuel hf
    cases fuel with
    | zero => exact absurd hf (Nat.not_lt_zero _)
    | succ f =>
      have hrl := (B3.ipParseRec_length c fs 0 i es r h).2
      rw [ipRecLoop_succ_more h h0 hge, ih f (by omega)]

/-- **C07, last clause, IPFIX, any number (≥ 1) of complete records**: a data set for an id with a
    cached template (non-empty field list) whose body consists of complete records (`IpRecords`) is
    reported as `.data` with exactly those records and the trailing bytes as padding; caches
    unchanged. -/
theorem C07_then_known_decodes_ipfix (c : Config) (st : PState) (id : Nat) (body : Bytes) (t : IpTemplate)
    (h1 : c.t.ipSetMinRange ≤ id) (h2 : id ≠ c.t.ipOptTemplateId)
    (hT : amLookup id st.ipT = some t) (hne : t.fields.isEmpty = false)
    (recs : List Rec) (pad : Bytes) (hrecs : IpRecords c t.fields body recs pad) :
    ipParseBody c st id body = (st, .ok (.data recs pad)) ∧ t.fields.length ≤ recs.length := by
  have hn : ¬ (id < c.t.ipSetMinRange) := by omega
  have hloop := ipRecLoop_of_records c t.fields body recs pad hrecs (body.length + 1) (by omega)
  refine ⟨by simp [ipParseBody, hn, h2, hT, hne, hloop], ?_⟩
  cases hrecs with
  | last i es r h _ => rw [(B3.ipParseRec_length c _ _ _ _ _ h).1]; exact Nat.le_refl _
  | more i es r rest pad h _ _ _ =>
    rw [List.length_append, (B3.ipParseRec_length c _ _ _ _ _ h).1]; omega

/-- **C07, last clause, IPFIX, exactly one record**: a data set for an id with a cached template
    (non-empty field list) whose body is one complete record followed by padding shorter than that
    record is reported as `.data` with exactly that record; caches unchanged. -/
theorem C07_then_known_decodes_ipfix_one (c : Config) (st : PState) (id : Nat) (body : Bytes) (t : IpTemplate)
    (h1 : c.t.ipSetMinRange ≤ id) (h2 : id ≠ c.t.ipOptTemplateId)
    (hT : amLookup id st.ipT = some t) (hne : t.fields.isEmpty = false)
    (es : List Rec) (pad : Bytes) (hrec : ipParseRec c t.fields 0 body = some (es, pad))
    (hpad : pad.length < body.length - pad.length ∨ body.length - pad.length = 0) :
    ipParseBody c st id body = (st, .ok (.data es pad)) :=
  (C07_then_known_decodes_ipfix c st id body t h1 h2 hT hne es pad (.last body es pad hrec hpad)).1

/-- without any assumption on the body: a data set for a cached non-empty template is `.data` or an
    error — never a panic, never an overflow — and the caches are unchanged either way -/
theorem C07_then_known_ipfix_total (c : Config) (st : PState) (id : Nat) (body : Bytes) (t : IpTemplate)
    (h1 : c.t.ipSetMinRange ≤ id) (h2 : id ≠ c.t.ipOptTemplateId)
    (hT : amLookup id st.ipT = some t) (hne : t.fields.isEmpty = false) :
    (∃ recs pad, ipParseBody c st id body = (st, .ok (.data recs pad))) ∨
    (ipParseBody c st id body = (st, .err) ∧ ipRecLoop c t.fields (body.length + 1) body = .err) := by
  have hn : ¬ (id < c.t.ipSetMinRange) := by omega
  have hp := ipRecLoop_no_panic c t.fields (body.length + 1) body
  have ho := ipRecLoop_no_overflow c t.fields (body.length + 1) body (by omega)
  cases hl : ipRecLoop c t.fields (body.length + 1) body with
  | ok x => obtain ⟨recs, pad⟩ := x; exact Or.inl ⟨recs, pad, by simp [ipParseBody, hn, h2, hT, hne, hl]⟩
  | err => exact Or.inr ⟨by simp [ipParseBody, hn, h2, hT, hne, hl], rfl⟩
  | panic => exact absurd hl hp
  | overflow => exact absurd hl ho

/-- **C07, the whole scenario, IPFIX, set bodies**: `id` unknown to IPFIX ⇒ the data set body is an
    error (the message stops in front of it, `C07_ipfix_sets_stop`); a template set body announcing a
    valid template `t` with `t.id = id` caches it; the SAME data bytes are then `.data`. -/
theorem C07_unknown_then_template_then_data_ipfix (c : Config) (st : PState) (id tsid : Nat) (body tbody : Bytes)
    (t : IpTemplate)
    (h1 : c.t.ipSetMinRange ≤ id) (h2 : id ≠ c.t.ipOptTemplateId)
    (ht1 : tsid < c.t.ipSetMinRange) (ht2 : tsid ≠ c.t.ipOptTemplateId)
    (hparse : parseIpTemplate tbody = .ok t) (hvalid : ipValid t.fields = true) (hid : t.id = id)
    (hT : amLookup id st.ipT = none) (hO : amLookup id st.ipO = none)
    (recs : List Rec) (pad : Bytes) (hrecs : IpRecords c t.fields body recs pad) :
    ∃ st1 : PState,
      ipParseBody c st id body = (st, .err) ∧
      ipParseBody c st tsid tbody = (st1, .ok (.template t)) ∧
      ipParseBody c st1 id body = (st1, .ok (.data recs pad)) := by
  refine ⟨{ st with ipT := amInsert t.id t st.ipT, ipO := amErase t.id st.ipO },
    C07_ipfix_unknown c st id body h1 h2 hT hO, ?_, ?_⟩
  · simp [ipParseBody, ht1, ht2, hparse, hvalid]
  · have hne : t.fields.isEmpty = false := by
      cases hf : t.fields with
      | nil => simp [ipValid, hf] at hvalid
      | cons _ _ => rfl
    have hT1 : amLookup id (amInsert t.id t st.ipT) = some t := by simp [hid, amLookup_amInsert]
    exact (C07_then_known_decodes_ipfix c { st with ipT := amInsert t.id t st.ipT, ipO := amErase t.id st.ipO }
      id body t h1 h2 hT1 hne recs pad hrecs).1

private def c07cCfg : Config := { t := Generated.tables, allowed := [5, 7, 9, 10] }

/-- template 256 = (IN_BYTES, 3 bytes), as announced by `c07cTpl` -/
private def c07cT : V9Template := { id := 256, fieldCount := 1, fields := [{ typ := 1, len := 3 }] }
/-- V9 packet, one data flowset for id 256: two 3-byte records and two bytes of padding -/
private def c07cData : Bytes := [0,9, 0,1, 0,0,0,1, 0,0,0,2, 0,0,0,3, 0,0,0,4,  1,0, 0,12, 1,2,3, 4,5,6, 0,0]
/-- V9 packet, one template flowset announcing template 256 -/
private def c07cTpl : Bytes := [0,9, 0,1, 0,0,0,1, 0,0,0,2, 0,0,0,3, 0,0,0,4,  0,0, 0,12, 1,0, 0,1, 0,1, 0,3]

/-- hypotheses of `C07_then_known_decodes_v9` / `_nonempty_v9` hold for a concrete state and body … -/
example :
    let st : PState := { v9T := [(256, c07cT)] }
    (256 ≠ c07cCfg.t.v9TemplateId ∧ 256 ≠ c07cCfg.t.v9OptTemplateId) ∧ amLookup 256 st.v9O = none ∧
    amLookup 256 st.v9T = some c07cT ∧ v9TotalSize c07cT.fields ≠ 0 ∧
    v9TotalSize c07cT.fields ≤ [1, 2, 3, 4, 5, 6, 0, 0].length ∧
    v9ParseRec c07cCfg c07cT.fields 0 [1, 2, 3, 4, 5, 6, 0, 0] =
      some ([(0, 1, .num (.u24 66051))], [4, 5, 6, 0, 0]) := by decide +kernel

/-- … and the body decodes to two records, padding `[0, 0]`, state unchanged (evaluated) -/
example :
    v9ParseBody c07cCfg { v9T := [(256, c07cT)] } 256 [1, 2, 3, 4, 5, 6, 0, 0] =
      ({ v9T := [(256, c07cT)] },
       .ok (.data [[(0, 1, .num (.u24 66051))], [(0, 1, .num (.u24 263430))]] [0, 0])) := by decide +kernel

/-- the two packets are one-flowset V9 packets in the sense of `V9OneSet` -/
example : V9OneSet c07cCfg c07cData [9, 1, 1, 2, 3, 4] [256, 12] [1, 2, 3, 4, 5, 6, 0, 0] [] :=
  ⟨9, [1,0, 0,12, 1,2,3, 4,5,6, 0,0], [1,2,3, 4,5,6, 0,0], by decide +kernel, by decide +kernel, by decide +kernel, by decide +kernel, by decide +kernel,
    by decide +kernel, by decide +kernel, by decide +kernel⟩

example : V9OneSet c07cCfg c07cTpl [9, 1, 1, 2, 3, 4] [0, 12] [1,0, 0,1, 0,1, 0,3] [] :=
  ⟨9, [0,0, 0,12, 1,0, 0,1, 0,1, 0,3], [1,0, 0,1, 0,1, 0,3], by decide +kernel, by decide +kernel, by decide +kernel, by decide +kernel, by decide +kernel,
    by decide +kernel, by decide +kernel, by decide +kernel⟩

/-- the remaining hypotheses of `C07_unknown_then_template_then_data_v9` for them, from the empty state -/
example :
    many0 parseV9Template [1,0, 0,1, 0,1, 0,3] = .ok ([c07cT], []) ∧ c07cT.id = 256 ∧
    c07cCfg.t.v9SetHdr.get "flowset_id" [0, 12] = c07cCfg.t.v9TemplateId ∧
    c07cCfg.t.v9SetHdr.get "flowset_id" [256, 12] = 256 := by decide +kernel

/-- **the scenario evaluated, three calls of `parse_bytes`** on one parser starting with empty caches:
    data → error element; template → cached; the same data bytes → a V9 packet with two records -/
example :
    parseBytes c07cCfg {} c07cData =
      ({}, .done [.error (.partialParse 9 (c07cData.drop 2)) c07cData]) ∧
    parseBytes c07cCfg {} c07cTpl =
      ({ v9T := [(256, c07cT)] }, .done [.v9 [9, 1, 1, 2, 3, 4] [{ id := 0, len := 12, body := .templates [c07cT] [] }]]) ∧
    parseBytes c07cCfg { v9T := [(256, c07cT)] } c07cData =
      ({ v9T := [(256, c07cT)] },
       .done [.v9 [9, 1, 1, 2, 3, 4]
         [{ id := 256, len := 12,
            body := .data [[(0, 1, .num (.u24 66051))], [(0, 1, .num (.u24 263430))]] [0, 0] }]]) := by
  decide +kernel

/-- the same in ONE buffer `data ++ template ++ data`: the first data packet fails the whole call
    (V9 cannot skip a packet it could not delimit), so the "later" in the property means a later call -/
example :
    parseBytes c07cCfg {} (c07cData ++ c07cTpl ++ c07cData) =
      ({}, .done [.error (.partialParse 9 ((c07cData ++ c07cTpl ++ c07cData).drop 2)) (c07cData ++ c07cTpl ++ c07cData)]) ∧
    (parseBytes c07cCfg {} (c07cTpl ++ c07cData)).2 =
      .done [.v9 [9, 1, 1, 2, 3, 4] [{ id := 0, len := 12, body := .templates [c07cT] [] }],
             .v9 [9, 1, 1, 2, 3, 4]
               [{ id := 256, len := 12,
                  body := .data [[(0, 1, .num (.u24 66051))], [(0, 1, .num (.u24 263430))]] [0, 0] }]] := by
  decide +kernel

/-- IPFIX template 256 = (octetDeltaCount, 3 bytes) -/
private def c07cIpT : IpTemplate := { id := 256, fieldCount := 1, fields := [{ typ := 1, len := 3, ent := none }], pad := [] }

/-- `IpRecords` for a body with two records and two bytes of padding (hypothesis of
    `C07_then_known_decodes_ipfix`) -/
example : IpRecords c07cCfg c07cIpT.fields [1, 2, 3, 4, 5, 6, 0, 0]
    ([[(0, 1, .num (.u24 66051))]] ++ [[(0, 1, .num (.u24 263430))]]) [0, 0] :=
  .more _ _ [4, 5, 6, 0, 0] _ _ (by decide +kernel) (by decide +kernel) (by decide +kernel) (.last _ _ _ (by decide +kernel) (by decide +kernel))

/-- the IPFIX scenario evaluated on set bodies: unknown → error; template set → cached; same bytes → data -/
example :
    ipParseBody c07cCfg {} 256 [1, 2, 3, 4, 5, 6, 0, 0] = ({}, .err) ∧
    ipParseBody c07cCfg {} 2 [1,0, 0,1, 0,1, 0,3] = ({ ipT := [(256, c07cIpT)] }, .ok (.template c07cIpT)) ∧
    ipParseBody c07cCfg { ipT := [(256, c07cIpT)] } 256 [1, 2, 3, 4, 5, 6, 0, 0] =
      ({ ipT := [(256, c07cIpT)] }, .ok (.data [[(0, 1, .num (.u24 66051))], [(0, 1, .num (.u24 263430))]] [0, 0])) := by
  decide +kernel

/-- the IPFIX scenario evaluated on whole messages, three calls of `parse_bytes`: the first message is
    reported WITHOUT the data set (not as an error), the third with it -/
example :
    let dataMsg : Bytes := [0,10, 0,28, 0,0,0,1, 0,0,0,2, 0,0,0,3,  1,0, 0,12, 1,2,3, 4,5,6, 0,0]
    let tplMsg : Bytes := [0,10, 0,28, 0,0,0,1, 0,0,0,2, 0,0,0,3,  0,2, 0,12, 1,0, 0,1, 0,1, 0,3]
    parseBytes c07cCfg {} dataMsg = ({}, .done [.ipfix [10, 28, 1, 2, 3] []]) ∧
    (parseBytes c07cCfg {} tplMsg).1 = { ipT := [(256, c07cIpT)] } ∧
    parseBytes c07cCfg { ipT := [(256, c07cIpT)] } dataMsg =
      ({ ipT := [(256, c07cIpT)] },
       .done [.ipfix [10, 28, 1, 2, 3]
         [{ id := 256, len := 12,
            body := .data [[(0, 1, .num (.u24 66051))], [(0, 1, .num (.u24 263430))]] [0, 0] }]]) := by
  decide +kernel

end Netflow.Props
