/-
  Props/C07d.lean — C07 for a template the CALLER removed from the public cache maps (`parser.v9_parser.templates.remove(&id)` …:
  template expiry).  The theorems of `Props/C07.lean` hold for EVERY state,
  so they apply to a state the caller edited; this file shows that erasing an id from both maps of a protocol really makes the id
  unknown on canonical maps (`StateWf`, an invariant of every history: `C06_state_wf`), keeps the maps canonical, touches no other id
  and not the other protocol — and hence that data for the forgotten id is not decoded, whatever was decoded with it before.
  Second part: `adopt` (the caller copies the public maps of another parser): the parser then decodes exactly as the donor does.
-/
import NetflowModel.Props.C07
import NetflowModel.Props.C06
namespace Netflow.Props
open Netflow

/-- the caller's `templates.remove(&id); options_templates.remove(&id)` on the V9 parser -/
def forgetV9 (id : Nat) (st : PState) : PState := { st with v9T := amErase id st.v9T, v9O := amErase id st.v9O }
/-- the same on the IPFIX parser -/
def forgetIp (id : Nat) (st : PState) : PState := { st with ipT := amErase id st.ipT, ipO := amErase id st.ipO }

/-- the edited state is canonical again, so every invariant-carrying theorem applies to the history that follows -/
theorem C07_forget_wf (id : Nat) (st : PState) (h : StateWf st) : StateWf (forgetV9 id st) ∧ StateWf (forgetIp id st) := by
  obtain ⟨h1, h2, h3, h4⟩ := h
  exact ⟨⟨AmSorted.erase id _ h1, AmSorted.erase id _ h2, h3, h4⟩, ⟨h1, h2, AmSorted.erase id _ h3, AmSorted.erase id _ h4⟩⟩

/-- **C07 after `forget` (V9)**: whatever the history before (any canonical state), once the caller has removed `id`, a data flowset
    for `id` is a parse error and changes nothing -/
theorem C07_forget_v9 (c : Config) (st : PState) (id : Nat) (body : Bytes) (h : StateWf st)
    (h1 : id ≠ c.t.v9TemplateId) (h2 : id ≠ c.t.v9OptTemplateId) :
    v9ParseBody c (forgetV9 id st) id body = (forgetV9 id st, .err) :=
  C07_v9_unknown c (forgetV9 id st) id body h1 h2
    (amLookup_amErase_self id h.2.1) (amLookup_amErase_self id h.1)

/-- **C07 after `forget` (IPFIX)**: the set is not decoded, state unchanged -/
theorem C07_forget_ipfix (c : Config) (st : PState) (id : Nat) (body : Bytes) (h : StateWf st)
    (h1 : c.t.ipSetMinRange ≤ id) (h2 : id ≠ c.t.ipOptTemplateId) :
    ipParseBody c (forgetIp id st) id body = (forgetIp id st, .err) :=
  C07_ipfix_unknown c (forgetIp id st) id body h1 h2
    (amLookup_amErase_self id h.2.2.1) (amLookup_amErase_self id h.2.2.2)

/-- `forget` touches no other id and not the other protocol -/
theorem C07_forget_scoped (id j : Nat) (st : PState) (h : StateWf st) (hne : j ≠ id) :
    amLookup j (forgetV9 id st).v9T = amLookup j st.v9T ∧ amLookup j (forgetV9 id st).v9O = amLookup j st.v9O ∧
    (forgetV9 id st).ipT = st.ipT ∧ (forgetV9 id st).ipO = st.ipO ∧
    amLookup j (forgetIp id st).ipT = amLookup j st.ipT ∧ amLookup j (forgetIp id st).ipO = amLookup j st.ipO ∧
    (forgetIp id st).v9T = st.v9T ∧ (forgetIp id st).v9O = st.v9O :=
  ⟨(amLookup_amErase id j _ h.1).trans (if_neg hne), (amLookup_amErase id j _ h.2.1).trans (if_neg hne), rfl, rfl,
    (amLookup_amErase id j _ h.2.2.1).trans (if_neg hne), (amLookup_amErase id j _ h.2.2.2).trans (if_neg hne), rfl, rfl⟩

/-- after ANY history of buffers from the fresh parser the state is canonical, so the two theorems above apply there -/
theorem C07_forget_after_history (c : Config) (bufs : List Bytes) (id : Nat) (body : Bytes)
    (h1 : id ≠ c.t.v9TemplateId) (h2 : id ≠ c.t.v9OptTemplateId) :
    let st := bufs.foldl (fun s b => (parseBytes c s b).1) ({} : PState)
    v9ParseBody c (forgetV9 id st) id body = (forgetV9 id st, .err) := by
  intro st
  have hwf : StateWf st := foldl_inv bufs {} (fun s b _ hs => C06_state_wf c s b hs) C06_state_wf_empty
  exact C07_forget_v9 c st id body hwf h1 h2

/-- non-vacuity: a canonical state that holds id 256 as a V9 template; after `forget` the lookup is empty -/
example : StateWf ({ v9T := [(256, { id := 256, fieldCount := 1, fields := [{ typ := 1, len := 4 }] })] } : PState) ∧
    amLookup 256 (forgetV9 256 ({ v9T := [(256, { id := 256, fieldCount := 1, fields := [{ typ := 1, len := 4 }] })] } : PState)).v9T = none := by
  constructor
  · simp [StateWf, amSorted]
  · rfl

/-- the caller's `a.v9_parser.templates = b.v9_parser.templates.clone(); a.v9_parser.options_templates = …` -/
def adoptV9 (dst src : PState) : PState := { dst with v9T := src.v9T, v9O := src.v9O }
/-- the same for the IPFIX maps -/
def adoptIp (dst src : PState) : PState := { dst with ipT := src.ipT, ipO := src.ipO }

/-- **after `adopt` (V9)** the parser decodes every V9 packet exactly as the donor does — whatever it had decoded, cached or derived
    before — and its V9 caches evolve as the donor's do (C06: the decoder reads only the two public maps; there is no other state) -/
theorem C06_adopt_v9 (c : Config) (dst src : PState) (i : Bytes) :
    (parseV9 c (adoptV9 dst src) i).2 = (parseV9 c src i).2 ∧
    AgreeV9 (parseV9 c (adoptV9 dst src) i).1 (parseV9 c src i).1 :=
  C06_v9_reads_only_v9 c (adoptV9 dst src) src i ⟨rfl, rfl⟩

/-- **after `adopt` (IPFIX)** -/
theorem C06_adopt_ipfix (c : Config) (dst src : PState) (i : Bytes) :
    (parseIpfix c (adoptIp dst src) i).2 = (parseIpfix c src i).2 ∧
    AgreeIp (parseIpfix c (adoptIp dst src) i).1 (parseIpfix c src i).1 :=
  C06_ipfix_reads_only_ipfix c (adoptIp dst src) src i ⟨rfl, rfl⟩

/-- `adopt` leaves the other protocol's maps alone and keeps canonical maps canonical -/
theorem C06_adopt_scoped (dst src : PState) (hd : StateWf dst) (hs : StateWf src) :
    (adoptV9 dst src).ipT = dst.ipT ∧ (adoptV9 dst src).ipO = dst.ipO ∧ (adoptIp dst src).v9T = dst.v9T ∧ (adoptIp dst src).v9O = dst.v9O ∧
    StateWf (adoptV9 dst src) ∧ StateWf (adoptIp dst src) :=
  ⟨rfl, rfl, rfl, rfl, ⟨hs.1, hs.2.1, hd.2.2.1, hd.2.2.2⟩, ⟨hd.1, hd.2.1, hs.2.2.1, hs.2.2.2⟩⟩

end Netflow.Props
