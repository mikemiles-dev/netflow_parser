/-
  Props/C08.lean — C08: re-exporting a decoded V5/V7 packet reproduces the bytes it occupied, and
  parsing the exported bytes of a well-formed structure (`fixedValsWf`) gives the structure back.
  The emission order of the hand-written `to_be_bytes` is "the byte-carrying fields in wire order".
-/
import NetflowModel.Props.C03
import NetflowModel.Lemmas.ExportRun
namespace Netflow.Props
open Netflow Preds

/-- all decidable side conditions of the round-trip theorems (layout well-formedness, emission
    orders, dispatch arms) hold for the tables generated from the current Rust source -/
theorem C08_generated_exportOk : Generated.tables.exportOk = true := by decide +kernel

/-- the names a faithful exporter emits, in order: fields that have a size and are not computed
    from another field (`Layout.exportNames`, restated here for the four layouts) -/
theorem C08_orders :
    Generated.v5HdrOrder = Generated.v5Hdr.exportNames ∧ Generated.v5RecOrder = Generated.v5Rec.exportNames ∧
    Generated.v7HdrOrder = Generated.v7Hdr.exportNames ∧ Generated.v7RecOrder = Generated.v7Rec.exportNames :=
  have h5 := Tables.exportOk_fixed C08_generated_exportOk .v5
  have h7 := Tables.exportOk_fixed C08_generated_exportOk .v7
  ⟨h5.2.2.1, h5.2.2.2, h7.2.2.1, h7.2.2.2⟩

/-- `exportNames` spelled out: names of the fields whose `tw ≠ 0` and whose kind is
    not `protoOf`, in layout order -/
theorem C08_exportNames_def (lay : Layout) :
    lay.exportNames =
      (lay.filter fun f => f.tw != 0 && (match f.kind with | .protoOf _ => false | _ => true)).map (·.name) := rfl

/-- **C08, first half**: a V5/V7 packet returned for `buf` re-exports to exactly the bytes it
    occupied — `buf` minus the remaining input (any configuration whose tables satisfy `exportOk`). -/
theorem C08_reexport (c : Config) (hok : c.t.exportOk = true) (v : FixedV) (st st' : PState) (buf : Bytes)
    (h : List Nat) (rs : List (List Nat)) (rest : Bytes)
    (hp : parsePacket c st buf = (st', .ok (v.mk h rs) rest)) :
    exportFixed (v.hdrLay c.t) (v.recLay c.t) (v.hdrOrder c.t) (v.recOrder c.t) h rs =
      buf.take (buf.length - rest.length) := by
  obtain ⟨hhw, hrw, oh, or⟩ := Tables.exportOk_fixed hok v
  obtain ⟨hl2, hver⟩ := parsePacket_ok_fixed_ver (Tables.exportOk_dispatch hok) v hp
  rw [oh, or]
  exact fixed_reexport c v.ver _ _ hhw hrw buf hl2 hver h rs rest (parsePacket_ok_fixed_inv v hp).2.1

/-- **C08, second half**: for every well-formed structure (`fixedValsWf`: header and records fit
    the layouts — wire values `< 256^w`, `version` the constant, `protocol_type = ProtocolTypes::from
    (protocol_number)` — and `count` = number of records) parsing its `to_be_bytes` output followed by
    `tail`, after the dispatcher consumed the two version bytes, yields exactly that structure and `tail`. -/
theorem C08_parse_export (c : Config) (hok : c.t.exportOk = true) (v : FixedV) (h : List Nat) (rs : List (List Nat))
    (hwf : fixedValsWf c.t.protoFromU8 (v.hdrLay c.t) (v.recLay c.t) h rs = true) (tail : Bytes) :
    parseFixed c (v.hdrLay c.t) (v.recLay c.t)
        ((exportFixed (v.hdrLay c.t) (v.recLay c.t) (v.hdrOrder c.t) (v.recOrder c.t) h rs ++ tail).drop 2) =
      some ((h, rs), tail) := by
  obtain ⟨hhw, hrw, oh, or⟩ := Tables.exportOk_fixed hok v
  rw [oh, or]
  exact fixed_parse_export c v.ver _ _ hhw hrw h rs hwf tail

theorem C08_parse_export_v5 (c : Config) (hok : c.t.exportOk = true) (h : List Nat) (rs : List (List Nat))
    (hwf : fixedValsWf c.t.protoFromU8 c.t.v5Hdr c.t.v5Rec h rs = true) :
    parseFixed c c.t.v5Hdr c.t.v5Rec ((exportFixed c.t.v5Hdr c.t.v5Rec c.t.v5HdrOrder c.t.v5RecOrder h rs).drop 2) =
      some ((h, rs), []) := by
  have := C08_parse_export c hok .v5 h rs hwf []
  rw [List.append_nil] at this
  exact this

theorem C08_parse_export_v7 (c : Config) (hok : c.t.exportOk = true) (h : List Nat) (rs : List (List Nat))
    (hwf : fixedValsWf c.t.protoFromU8 c.t.v7Hdr c.t.v7Rec h rs = true) :
    parseFixed c c.t.v7Hdr c.t.v7Rec ((exportFixed c.t.v7Hdr c.t.v7Rec c.t.v7HdrOrder c.t.v7RecOrder h rs).drop 2) =
      some ((h, rs), []) := by
  have := C08_parse_export c hok .v7 h rs hwf []
  rw [List.append_nil] at this
  exact this

/-- **C08, second half, through the dispatcher**: `parse_packet_by_version` applied to the exported
    bytes of a well-formed structure returns that structure, nothing remaining, caches untouched
    (its version allowed and dispatched to its parser). -/
theorem C08_parse_export_packet (c : Config) (hok : c.t.exportOk = true) (v : FixedV) (st : PState)
    (ha : c.allowed.contains v.ver = true) (hd : c.t.dispatch.lookup v.ver = some v.ver)
    (h : List Nat) (rs : List (List Nat))
    (hwf : fixedValsWf c.t.protoFromU8 (v.hdrLay c.t) (v.recLay c.t) h rs = true) :
    parsePacket c st (exportFixed (v.hdrLay c.t) (v.recLay c.t) (v.hdrOrder c.t) (v.recOrder c.t) h rs) =
      (st, .ok (v.mk h rs) []) := by
  have hpe := C08_parse_export c hok v h rs hwf []
  obtain ⟨hhw, hrw, oh, or⟩ := Tables.exportOk_fixed hok v
  have hh : wfFields c.t.protoFromU8 (v.hdrLay c.t) [] h = true := by
    simp only [fixedValsWf, Bool.and_eq_true] at hwf; exact hwf.1.1
  have hbe := beU_exportFixed v.ver _ (v.recLay c.t) hhw h rs (wfFields_hdr_head _ _ _ hhw h hh)
    (by cases v <;> decide)
  rw [List.append_nil] at hpe
  rw [oh, or] at hpe ⊢
  rw [parsePacket_fixed st v hbe ha hd, hpe]

/-- the two halves compose: every V5/V7 structure the parser returns is well-formed in the sense of
    `fixedValsWf`, so parsing its re-export gives it back (no side condition on the tables needed) -/
theorem C08_parsed_wf (c : Config) (st st' : PState) (buf : Bytes) (h : List Nat) (rs : List (List Nat)) (rest : Bytes) :
    (parsePacket c st buf = (st', .ok (.v5 h rs) rest) → fixedValsWf c.t.protoFromU8 c.t.v5Hdr c.t.v5Rec h rs = true) ∧
    (parsePacket c st buf = (st', .ok (.v7 h rs) rest) → fixedValsWf c.t.protoFromU8 c.t.v7Hdr c.t.v7Rec h rs = true) :=
  ⟨fun hp => fixedValsWf_of_parseFixed c _ _ _ _ _ _ (parsePacket_ok_fixed_inv .v5 hp).2.1,
   fun hp => fixedValsWf_of_parseFixed c _ _ _ _ _ _ (parsePacket_ok_fixed_inv .v7 hp).2.1⟩

/-- the configuration the crate builds from the generated tables -/
abbrev genCfg' (allowed : List Nat) (uf : Bool := true) : Config :=
  { t := Generated.tables, allowed := allowed, unknownFields := uf }

/-- **C08 for the generated tables, first half**: every allowed set, cache state and buffer; every
    V5 or V7 packet returned re-exports to the bytes it occupied. -/
theorem C08_generated_reexport (allowed : List Nat) (uf : Bool) (st st' : PState) (buf : Bytes)
    (h : List Nat) (rs : List (List Nat)) (rest : Bytes) :
    (parsePacket (genCfg' allowed uf) st buf = (st', .ok (.v5 h rs) rest) →
      exportFixed Generated.v5Hdr Generated.v5Rec Generated.v5HdrOrder Generated.v5RecOrder h rs =
        buf.take (buf.length - rest.length)) ∧
    (parsePacket (genCfg' allowed uf) st buf = (st', .ok (.v7 h rs) rest) →
      exportFixed Generated.v7Hdr Generated.v7Rec Generated.v7HdrOrder Generated.v7RecOrder h rs =
        buf.take (buf.length - rest.length)) :=
  ⟨C08_reexport (genCfg' allowed uf) C08_generated_exportOk .v5 st st' buf h rs rest,
   C08_reexport (genCfg' allowed uf) C08_generated_exportOk .v7 st st' buf h rs rest⟩

/-- **C08 for the generated tables, second half** (through the dispatcher): every well-formed V5 (V7)
    structure is what `parse_packet_by_version` returns for its `to_be_bytes` output. -/
theorem C08_generated_parse_export (allowed : List Nat) (uf : Bool) (st : PState) (h : List Nat) (rs : List (List Nat)) :
    (5 ∈ allowed → fixedValsWf Generated.tables.protoFromU8 Generated.v5Hdr Generated.v5Rec h rs = true →
      parsePacket (genCfg' allowed uf) st
        (exportFixed Generated.v5Hdr Generated.v5Rec Generated.v5HdrOrder Generated.v5RecOrder h rs) =
        (st, .ok (.v5 h rs) [])) ∧
    (7 ∈ allowed → fixedValsWf Generated.tables.protoFromU8 Generated.v7Hdr Generated.v7Rec h rs = true →
      parsePacket (genCfg' allowed uf) st
        (exportFixed Generated.v7Hdr Generated.v7Rec Generated.v7HdrOrder Generated.v7RecOrder h rs) =
        (st, .ok (.v7 h rs) [])) :=
  ⟨fun h5 => C08_parse_export_packet (genCfg' allowed uf) C08_generated_exportOk .v5 st (List.contains_iff_mem.mpr h5)
      (generated_dispatch_fixed .v5) h rs,
   fun h7 => C08_parse_export_packet (genCfg' allowed uf) C08_generated_exportOk .v7 st (List.contains_iff_mem.mpr h7)
      (generated_dispatch_fixed .v7) h rs⟩

/-- a one-record V5 packet with distinct values in every field (equal-width neighbours differ, so a
    transposition in the exporter would show) -/
def v5One : Bytes :=
  [0, 5, 0, 1, 0, 0, 0, 1, 0, 0, 0, 2, 0, 0, 0, 3, 0, 0, 0, 4, 5, 6, 0, 7,
   10, 0, 0, 1, 10, 0, 0, 2, 10, 0, 0, 254, 0, 11, 0, 12, 0, 0, 0, 13, 0, 0, 0, 14, 0, 0, 0, 15, 0, 0, 0, 16,
   0x12, 0x34, 0xfe, 0xdc, 17, 18, 6, 19, 0, 20, 0, 21, 22, 23, 0, 24]

def v5OneHdr : List Nat := [5, 1, 1, 2, 3, 4, 5, 6, 7]
def v5OneRec : List Nat :=
  [0x0a000001, 0x0a000002, 0x0a0000fe, 11, 12, 13, 14, 15, 16, 0x1234, 0xfedc, 17, 18, 6, 6, 19, 20, 21, 22, 23, 24]

/-- non-vacuity of `C08_reexport`: the model parses `v5One ++ [9, 9]` to the expected structure,
    leaving `[9, 9]` … -/
example : parsePacket (genCfg' [5, 7, 9, 10]) {} (v5One ++ [9, 9]) = ({}, .ok (.v5 v5OneHdr [v5OneRec]) [9, 9]) := by
  decide +kernel

/-- … and the re-export is the 72 bytes the packet occupied (evaluated, not via the theorem) -/
example : exportFixed Generated.v5Hdr Generated.v5Rec Generated.v5HdrOrder Generated.v5RecOrder v5OneHdr [v5OneRec] =
    (v5One ++ [9, 9]).take ((v5One ++ [9, 9]).length - [9, 9].length) := by
  decide +kernel

/-- non-vacuity of `C08_parse_export_v5`: the structure is well-formed … -/
example : fixedValsWf Generated.tables.protoFromU8 Generated.v5Hdr Generated.v5Rec v5OneHdr [v5OneRec] = true := by
  decide +kernel

/-- … a structure whose `count` differs from its number of records is not (the property's premise) -/
example : fixedValsWf Generated.tables.protoFromU8 Generated.v5Hdr Generated.v5Rec v5OneHdr [] = false := by
  decide +kernel

/-- … and parsing its export returns it (evaluated) -/
example : parsePacket (genCfg' [5]) {}
    (exportFixed Generated.v5Hdr Generated.v5Rec Generated.v5HdrOrder Generated.v5RecOrder v5OneHdr [v5OneRec]) =
    ({}, .ok (.v5 v5OneHdr [v5OneRec]) []) := by
  decide +kernel

/-- a V7 packet with two records -/
def v7Two : Bytes :=
  [0, 7, 0, 2, 0, 0, 0, 1, 0, 0, 0, 2, 0, 0, 0, 3, 0, 0, 0, 4, 0, 0, 0, 0] ++
  [10, 0, 0, 1, 10, 0, 0, 2, 10, 0, 0, 254, 0, 11, 0, 12, 0, 0, 0, 13, 0, 0, 0, 14, 0, 0, 0, 15, 0, 0, 0, 16,
   0x12, 0x34, 0xfe, 0xdc, 17, 18, 17, 19, 0, 20, 0, 21, 22, 23, 0, 24, 192, 168, 0, 1] ++
  [10, 0, 0, 3, 10, 0, 0, 4, 10, 0, 0, 253, 0, 31, 0, 32, 0, 0, 0, 33, 0, 0, 0, 34, 0, 0, 0, 35, 0, 0, 0, 36,
   0xab, 0xcd, 0x00, 0x35, 37, 38, 47, 39, 0, 40, 0, 41, 42, 43, 0, 44, 192, 168, 0, 2]

/-- parse, re-export and well-formedness evaluated on `v7Two` -/
example :
    (match parsePacket (genCfg' [7]) {} v7Two with
     | (_, .ok (.v7 h rs) rest) =>
       rs.length == 2 && rest.isEmpty &&
       (exportFixed Generated.v7Hdr Generated.v7Rec Generated.v7HdrOrder Generated.v7RecOrder h rs == v7Two) &&
       fixedValsWf Generated.tables.protoFromU8 Generated.v7Hdr Generated.v7Rec h rs
     | _ => false) = true := by
  decide +kernel

/-- a V5/V7 packet is `v.mk hd rs` for one of the two fixed versions -/
theorem isFixedPkt_inv {pkt : Packet} (h : isFixedPkt pkt = true) : ∃ (v : FixedV) (hd : List Nat) (rs : List (List Nat)),
    pkt = v.mk hd rs := by
  cases pkt with
  | v5 hd rs => exact ⟨.v5, hd, rs, rfl⟩
  | v7 hd rs => exact ⟨.v7, hd, rs, rfl⟩
  | _ => simp [isFixedPkt] at h

/-- `exportPacket` on a V5/V7 packet is `exportFixed` with that version's layouts and orders -/
theorem exportPacket_fixed (c : Config) (v : FixedV) (h : List Nat) (rs : List (List Nat)) :
    exportPacket c (v.mk h rs) =
      some (.ok (exportFixed (v.hdrLay c.t) (v.recLay c.t) (v.hdrOrder c.t) (v.recOrder c.t) h rs)) := by
  cases v <;> rfl

/-- one step of the loop: a returned packet has a header-implied length `n`, the rest is `buf.drop n`,
    and if it is V5/V7 its export is the first `n` bytes -/
theorem C08_step (c : Config) (hok : c.t.exportOk = true) (hf : c.t.framingOk = true) (st st' : PState) (buf : Bytes)
    (pkt : Packet) (rest : Bytes) (hp : parsePacket c st buf = (st', .ok pkt rest)) :
    ∃ n, wireLen c pkt = some n ∧ rest = buf.drop n ∧
      (isFixedPkt pkt = true → exportPacket c pkt = some (.ok (buf.take n))) := by
  obtain ⟨n, hw, -, hn, rfl⟩ := parsePacket_ok_wireLen c hf hp
  refine ⟨n, hw, rfl, fun hfix => ?_⟩
  obtain ⟨v, hd, rs, rfl⟩ := isFixedPkt_inv hfix
  rw [exportPacket_fixed, C08_reexport c hok v st st' buf hd rs _ hp, List.length_drop, Nat.sub_sub_self hn]

/-- **C08 along a whole run, in the oracle's vocabulary** (every fuel): the re-export of every V5/V7
    packet in the result of `parse_bytes` is the slice of the buffer that packet occupied. -/
theorem C08_stream_fuel (c : Config) (hok : c.t.exportOk = true) (hf : c.t.framingOk = true)
    (fuel : Nat) (st st' : PState) (buf : Bytes) (pkts : List Packet)
    (h : parseBytesF c fuel st buf = (st', .done pkts)) :
    reexportOk c isFixedPkt buf pkts (pkts.map (exportPacket c)) = true :=
  reexportOk_of_run (L := fun _ _ => True)
    (fun hp _ => by
      obtain ⟨n, hw, hr, hex⟩ := C08_step c hok hf _ _ _ _ _ hp
      exact ⟨n, hw, hr, hex, trivial⟩)
    (parseBytesF_run c fuel st st' buf pkts h) trivial

/-- **C08 for `parse_bytes` as modelled** (fuel `|buf| + 1`). -/
theorem C08_stream (c : Config) (hok : c.t.exportOk = true) (hf : c.t.framingOk = true) (st st' : PState)
    (buf : Bytes) (pkts : List Packet) (h : parseBytes c st buf = (st', .done pkts)) :
    reexportOk c isFixedPkt buf pkts (pkts.map (exportPacket c)) = true :=
  C08_stream_fuel c hok hf _ _ _ _ _ h

/-- **C08 along a run for the generated tables**: every allowed set, cache state and buffer. -/
theorem C08_generated_stream (allowed : List Nat) (uf : Bool) (st st' : PState) (buf : Bytes) (pkts : List Packet)
    (h : parseBytes (genCfg' allowed uf) st buf = (st', .done pkts)) :
    reexportOk (genCfg' allowed uf) isFixedPkt buf pkts (pkts.map (exportPacket (genCfg' allowed uf))) = true :=
  C08_stream (genCfg' allowed uf) C08_generated_exportOk C02_generated_framing st st' buf pkts h

/-- non-vacuity: a V7 packet with two records, a V5 packet with one, and a stray byte -/
example :
    let buf := v7Two ++ v5One ++ [9]
    let pkts := match (parseBytes (genCfg' [5, 7, 9, 10]) {} buf).2 with | .done ps => ps | _ => []
    (pkts.length == 3 && reexportOk (genCfg' [5, 7, 9, 10]) isFixedPkt buf pkts
      (pkts.map (exportPacket (genCfg' [5, 7, 9, 10])))) = true := by
  decide +kernel

end Netflow.Props
