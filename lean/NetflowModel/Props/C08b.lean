/-
  Props/C08b.lean — C08, second half, stated with the property's OWN hypothesis.

  The property text says: "for every V5/V7 structure whose count equals its number of records,
  parsing its to_be_bytes output yields an equal structure".  `fixedValsWf` (Lemmas/FixedLayout.lean) splits
  into what the Rust TYPES give (`typedVals`), the property's own premise (`count` = number of
  records) and what NEITHER gives (`derivedAt`: the fields the parser fills with `#[nom(Value(..))]`,
  i.e. `version` and `protocol_type`).  `fixedValsWf` is necessary as well as sufficient for the
  round trip, so the property as worded is false of the model; concrete witnesses are given.
-/
import NetflowModel.Props.C08
namespace Netflow.Props
open Netflow Preds

/-- what the Rust TYPES of the struct guarantee about a value list: one value per field, and every
    field read from the wire (`u8`/`u16`/`u32`/`Ipv4Addr`) is below `256 ^ width`.  Nothing is said
    about `const`/`protoOf` fields: `version : u16` and `protocol_type : ProtocolTypes` are ordinary
    public fields that a caller may set to anything. -/
def typedVals : Layout → List Nat → Bool
  | [], [] => true
  | f :: fs, v :: vs =>
    (match f.kind with
     | .wire w => decide (v < 256 ^ w)
     | _ => true) && typedVals fs vs
  | _, _ => false

/-- the DERIVED fields carry what the parser would put there: field number `j + k` of `vals` is the
    constant (for `Value = "c"`) resp. `proto` of the source field (for
    `Value(ProtocolTypes::from(x))`), `k` running over the layout `lay` -/
def derivedAt (proto : Nat → Nat) : Layout → Nat → List Nat → Bool
  | [], _, _ => true
  | f :: fs, j, vals =>
    (match f.kind with
     | .const c => vals.getD j 0 == c
     | .protoOf s => vals.getD j 0 == proto ((vals.take j).getD s 0)
     | .wire _ => true) && derivedAt proto fs (j + 1) vals

theorem typedVals_length : ∀ (lay : Layout) (vs : List Nat), typedVals lay vs = true → vs.length = lay.length
  | [], [], _ => rfl
  | [], _ :: _, h => by simp [typedVals] at h
  | _ :: _, [], h => by simp [typedVals] at h
  | f :: fs, v :: vs, h => by
    simp only [typedVals, Bool.and_eq_true] at h
    simp [typedVals_length fs vs h.2]

/-- **`wfFields` splits**: well-formed = typed ∧ derived fields correct (any layout, any
    accumulator) -/
theorem wfFields_split (proto : Nat → Nat) :
    ∀ (lay : Layout) (acc vs : List Nat),
      wfFields proto lay acc vs = (typedVals lay vs && derivedAt proto lay acc.length (acc ++ vs)) := by
  intro lay
  induction lay with
  | nil =>
    intro acc vs
    cases vs with
    | nil => rfl
    | cons v vs => simp [wfFields, typedVals]
  | cons f fs ih =>
    intro acc vs
    cases vs with
    | nil => simp [wfFields, typedVals]
    | cons v vs =>
      have h1 : (acc ++ v :: vs).getD acc.length 0 = v := getD_append_length acc v vs 0
      have h2 : (acc ++ v :: vs).take acc.length = acc := List.take_left' rfl
      have h3 : acc ++ [v] ++ vs = acc ++ v :: vs := by simp
      have ih' := ih (acc ++ [v]) vs
      rw [List.length_append, List.length_singleton, h3] at ih'
      rw [wfFields_cons, ih', typedVals, derivedAt, h1, h2, fieldFits]
      generalize typedVals fs vs = T
      generalize derivedAt proto fs (acc.length + 1) (acc ++ v :: vs) = D
      cases f.kind <;> cases T <;> cases D <;> simp

/-- the header/record instance (`acc = []`) -/
theorem wfFields_split0 (proto : Nat → Nat) (lay : Layout) (vs : List Nat) :
    wfFields proto lay [] vs = (typedVals lay vs && derivedAt proto lay 0 vs) := by
  simpa using wfFields_split proto lay [] vs

/-- the three ingredients of `fixedValsWf`, separately -/
def typedStruct (hdr rec : Layout) (h : List Nat) (rs : List (List Nat)) : Bool :=
  typedVals hdr h && rs.all (typedVals rec)

def derivedStruct (proto : Nat → Nat) (hdr rec : Layout) (h : List Nat) (rs : List (List Nat)) : Bool :=
  derivedAt proto hdr 0 h && rs.all (derivedAt proto rec 0)

/-- **C08: what `fixedValsWf` asks beyond the property's premise.**  `fixedValsWf` is the
    conjunction of (1) `typedStruct` — given by the Rust types, (2) `count = #records` — the
    property's own hypothesis, (3) `derivedStruct` — given by NEITHER. -/
theorem C08_wf_split (proto : Nat → Nat) (hdr rec : Layout) (h : List Nat) (rs : List (List Nat)) :
    fixedValsWf proto hdr rec h rs =
      (typedStruct hdr rec h rs && (hdr.get "count" h == rs.length) && derivedStruct proto hdr rec h rs) := by
  have hall : rs.all (wfFields proto rec []) = (rs.all (typedVals rec) && rs.all (derivedAt proto rec 0)) := by
    induction rs with
    | nil => rfl
    | cons r rs ih =>
      simp only [List.all_cons, ih, wfFields_split0]
      cases typedVals rec r <;> cases derivedAt proto rec 0 r <;> simp
  simp only [fixedValsWf, typedStruct, derivedStruct, wfFields_split0, hall]
  cases typedVals hdr h <;> cases derivedAt proto hdr 0 h <;> cases rs.all (typedVals rec) <;>
    cases rs.all (derivedAt proto rec 0) <;> simp

theorem getD_take_of_lt {α : Type} (l : List α) (n i : Nat) (d : α) (h : i < n) :
    (l.take n).getD i d = l.getD i d := by
  simp [List.getD_eq_getElem?_getD, h]

/-- for the generated V5 header the derived part is exactly "`version` is 5" … -/
theorem C08_generated_derived_v5Hdr (proto : Nat → Nat) (h : List Nat) :
    derivedAt proto Generated.v5Hdr 0 h = (Generated.v5Hdr.get "version" h == 5) := by
  have : Generated.v5Hdr.indexOf "version" = 0 := by decide
  rw [Layout.get, this]
  simp [derivedAt, Generated.v5Hdr]

/-- … for the generated V5 record exactly "`protocol_type` is `ProtocolTypes::from(protocol_number)`" -/
theorem C08_generated_derived_v5Rec (proto : Nat → Nat) (r : List Nat) :
    derivedAt proto Generated.v5Rec 0 r =
      (Generated.v5Rec.get "protocol_type" r == proto (Generated.v5Rec.get "protocol_number" r)) := by
  have h1 : Generated.v5Rec.indexOf "protocol_type" = 14 := by decide
  have h2 : Generated.v5Rec.indexOf "protocol_number" = 13 := by decide
  rw [Layout.get, Layout.get, h1, h2]
  simp [derivedAt, Generated.v5Rec]

/-- the same for the generated V7 header: the derived part is "`version` is 7" -/
theorem C08_generated_derived_v7Hdr (proto : Nat → Nat) (h : List Nat) :
    derivedAt proto Generated.v7Hdr 0 h = (Generated.v7Hdr.get "version" h == 7) := by
  have : Generated.v7Hdr.indexOf "version" = 0 := by decide
  rw [Layout.get, this]
  simp [derivedAt, Generated.v7Hdr]

/-- … and for the generated V7 record "`protocol_type` is `ProtocolTypes::from(protocol_number)`" -/
theorem C08_generated_derived_v7Rec (proto : Nat → Nat) (r : List Nat) :
    derivedAt proto Generated.v7Rec 0 r =
      (Generated.v7Rec.get "protocol_type" r == proto (Generated.v7Rec.get "protocol_number" r)) := by
  have h1 : Generated.v7Rec.indexOf "protocol_type" = 14 := by decide
  have h2 : Generated.v7Rec.indexOf "protocol_number" = 13 := by decide
  rw [Layout.get, Layout.get, h1, h2]
  simp [derivedAt, Generated.v7Rec]

/-- **C08, second half, exact form**: parsing the exported bytes gives the structure back
    IF AND ONLY IF the structure is `fixedValsWf` (any tables satisfying `exportOk`).
    "⇐" is `C08_parse_export`; "⇒" because everything the parser returns is well-formed. -/
theorem C08_struct_roundtrip_iff (c : Config) (hok : c.t.exportOk = true) (v : FixedV) (h : List Nat)
    (rs : List (List Nat)) :
    parseFixed c (v.hdrLay c.t) (v.recLay c.t)
        ((exportFixed (v.hdrLay c.t) (v.recLay c.t) (v.hdrOrder c.t) (v.recOrder c.t) h rs).drop 2) =
      some ((h, rs), []) ↔ fixedValsWf c.t.protoFromU8 (v.hdrLay c.t) (v.recLay c.t) h rs = true :=
  ⟨fun hp => fixedValsWf_of_parseFixed c _ _ _ _ _ _ hp,
   fun hwf => by have := C08_parse_export c hok v h rs hwf []; rwa [List.append_nil] at this⟩

/-- the exact form for V5, in the tables' own field names -/
theorem C08_struct_roundtrip_iff_v5 (c : Config) (hok : c.t.exportOk = true) (h : List Nat) (rs : List (List Nat)) :
    parseFixed c c.t.v5Hdr c.t.v5Rec ((exportFixed c.t.v5Hdr c.t.v5Rec c.t.v5HdrOrder c.t.v5RecOrder h rs).drop 2) =
      some ((h, rs), []) ↔ fixedValsWf c.t.protoFromU8 c.t.v5Hdr c.t.v5Rec h rs = true :=
  C08_struct_roundtrip_iff c hok .v5 h rs

/-- the exact form for V7 -/
theorem C08_struct_roundtrip_iff_v7 (c : Config) (hok : c.t.exportOk = true) (h : List Nat) (rs : List (List Nat)) :
    parseFixed c c.t.v7Hdr c.t.v7Rec ((exportFixed c.t.v7Hdr c.t.v7Rec c.t.v7HdrOrder c.t.v7RecOrder h rs).drop 2) =
      some ((h, rs), []) ↔ fixedValsWf c.t.protoFromU8 c.t.v7Hdr c.t.v7Rec h rs = true :=
  C08_struct_roundtrip_iff c hok .v7 h rs

/-- whatever bytes are parsed (not only exported ones, any remaining input): a structure that comes
    out of the fixed-format parser has its derived fields set — so a structure with other values in
    them is not the parse of ANY byte string -/
theorem C08_parsed_derived (c : Config) (hdr rec : Layout) (i : Bytes) (h : List Nat) (rs : List (List Nat))
    (rest : Bytes) (hp : parseFixed c hdr rec i = some ((h, rs), rest)) :
    derivedStruct c.t.protoFromU8 hdr rec h rs = true := by
  have := fixedValsWf_of_parseFixed c _ _ _ _ _ _ hp
  rw [C08_wf_split, Bool.and_eq_true] at this
  exact this.2

theorem C08_parsed_derived_v7 (c : Config) (i : Bytes) (h : List Nat) (rs : List (List Nat)) (rest : Bytes)
    (hp : parseFixed c c.t.v7Hdr c.t.v7Rec i = some ((h, rs), rest)) :
    derivedStruct c.t.protoFromU8 c.t.v7Hdr c.t.v7Rec h rs = true :=
  C08_parsed_derived c _ _ i h rs rest hp

/-- **necessity of `version = 5`, universally (generated tables)**: no V5 structure whose `version`
    field is not 5 is the parse of any bytes — in particular not of its own export -/
theorem C08_roundtrip_needs_version (allowed : List Nat) (uf : Bool) (i : Bytes) (h : List Nat)
    (rs : List (List Nat)) (rest : Bytes)
    (hp : parseFixed (genCfg' allowed uf) Generated.v5Hdr Generated.v5Rec i = some ((h, rs), rest)) :
    Generated.v5Hdr.get "version" h = 5 := by
  have := C08_parsed_derived (genCfg' allowed uf) _ _ i h rs rest hp
  simp only [derivedStruct, Bool.and_eq_true] at this
  have h1 := this.1
  rw [C08_generated_derived_v5Hdr] at h1
  simpa using h1

/-- **necessity of `protocol_type = ProtocolTypes::from(protocol_number)`, universally** -/
theorem C08_roundtrip_needs_protocol_type (allowed : List Nat) (uf : Bool) (i : Bytes) (h : List Nat)
    (rs : List (List Nat)) (rest : Bytes)
    (hp : parseFixed (genCfg' allowed uf) Generated.v5Hdr Generated.v5Rec i = some ((h, rs), rest)) :
    ∀ r ∈ rs, Generated.v5Rec.get "protocol_type" r =
      Generated.tables.protoFromU8 (Generated.v5Rec.get "protocol_number" r) := by
  have := C08_parsed_derived (genCfg' allowed uf) _ _ i h rs rest hp
  simp only [derivedStruct, Bool.and_eq_true, List.all_eq_true] at this
  intro r hr
  have h1 := this.2 r hr
  rw [C08_generated_derived_v5Rec] at h1
  simpa using h1

/-- **C08 second half exactly as the property words it** (V5, generated tables): the only premise
    is that the value lists have the Rust types (`typedStruct`) and that `count` equals the number of
    records. -/
def C08_struct_full : Prop :=
  ∀ (h : List Nat) (rs : List (List Nat)),
    typedStruct Generated.v5Hdr Generated.v5Rec h rs = true →
    Generated.v5Hdr.get "count" h = rs.length →
    parseFixed (genCfg' [5, 7, 9, 10]) Generated.v5Hdr Generated.v5Rec
      ((exportFixed Generated.v5Hdr Generated.v5Rec Generated.v5HdrOrder Generated.v5RecOrder h rs).drop 2) =
      some ((h, rs), [])

/-- the V5 header of `v5One` with `version` set to 6 (a `u16`, so a legal Rust value) -/
def v5HdrVer6 : List Nat := [6, 1, 1, 2, 3, 4, 5, 6, 7]

/-- the record of `v5One` (`protocol_number = 6`, Tcp) with `protocol_type` set to discriminant 17
    (`ProtocolTypes::Udp`) -/
def v5RecUdpName : List Nat :=
  [0x0a000001, 0x0a000002, 0x0a0000fe, 11, 12, 13, 14, 15, 16, 0x1234, 0xfedc, 17, 18, 6, 17, 19, 20, 21, 22, 23, 24]

/-- the record of `v5One` with `tos = 300`: representable in the model (`List Nat`), NOT in Rust
    (`tos : u8`) -/
def v5RecTos300 : List Nat :=
  [0x0a000001, 0x0a000002, 0x0a0000fe, 11, 12, 13, 14, 15, 16, 0x1234, 0xfedc, 17, 18, 6, 6, 300, 20, 21, 22, 23, 24]

/-- what `to_be_bytes` writes for the `version = 6` witness: the bytes of `v5One` behind the version word 6 -/
theorem export_v5HdrVer6 :
    exportFixed Generated.v5Hdr Generated.v5Rec Generated.v5HdrOrder Generated.v5RecOrder v5HdrVer6 [v5OneRec] =
      [0, 6] ++ v5One.drop 2 := by
  decide +kernel

/-- **necessity witness 1 (`version`)**: a typed V5 structure with `count` = 1 = number of records
    and `version = 6`.  `V5::parse` applied to its exported bytes (after the version word) returns a
    structure that differs exactly in the version field — the parser injects `Value = "5"` — and
    `parse_packet_by_version` applied to the whole export does not even reach the V5 parser: the
    exported version word is 6 (`UnknownVersion`; 6 is put in the allowed list to get that far). -/
theorem C08_parse_export_fails_version :
    typedStruct Generated.v5Hdr Generated.v5Rec v5HdrVer6 [v5OneRec] = true ∧
    Generated.v5Hdr.get "count" v5HdrVer6 = [v5OneRec].length ∧
    parseFixed (genCfg' [5, 7, 9, 10]) Generated.v5Hdr Generated.v5Rec
      ((exportFixed Generated.v5Hdr Generated.v5Rec Generated.v5HdrOrder Generated.v5RecOrder
        v5HdrVer6 [v5OneRec]).drop 2) = some ((v5OneHdr, [v5OneRec]), []) ∧
    v5OneHdr ≠ v5HdrVer6 ∧ v5OneHdr.drop 1 = v5HdrVer6.drop 1 ∧
    parsePacket (genCfg' [5, 6, 7, 9, 10]) {}
      (exportFixed Generated.v5Hdr Generated.v5Rec Generated.v5HdrOrder Generated.v5RecOrder
        v5HdrVer6 [v5OneRec]) = ({}, .fail (.unknownVersion
          ((exportFixed Generated.v5Hdr Generated.v5Rec Generated.v5HdrOrder Generated.v5RecOrder
            v5HdrVer6 [v5OneRec]).drop 2))) ∧
    parsePacket (genCfg' [5, 7, 9, 10]) {}
      (exportFixed Generated.v5Hdr Generated.v5Rec Generated.v5HdrOrder Generated.v5RecOrder
        v5HdrVer6 [v5OneRec]) = ({}, .unallowed) := by
  rw [export_v5HdrVer6]
  refine ⟨by decide +kernel, by decide +kernel, by decide +kernel, by decide, by decide, by decide +kernel,
    by decide +kernel⟩

/-- **necessity witness 2 (`protocol_type`)**: `protocol_number = 6` with `protocol_type = Udp`.
    `to_be_bytes` does not emit `protocol_type` at all; the parser recomputes it from the number, so
    the structure that comes back says `Tcp` (discriminant 6). -/
theorem C08_parse_export_fails_protocol_type :
    typedStruct Generated.v5Hdr Generated.v5Rec v5OneHdr [v5RecUdpName] = true ∧
    Generated.v5Hdr.get "count" v5OneHdr = [v5RecUdpName].length ∧
    Generated.v5Rec.get "protocol_type" v5RecUdpName ≠
      Generated.tables.protoFromU8 (Generated.v5Rec.get "protocol_number" v5RecUdpName) ∧
    parsePacket (genCfg' [5, 7, 9, 10]) {}
      (exportFixed Generated.v5Hdr Generated.v5Rec Generated.v5HdrOrder Generated.v5RecOrder
        v5OneHdr [v5RecUdpName]) = ({}, .ok (.v5 v5OneHdr [v5OneRec]) []) ∧
    v5OneRec ≠ v5RecUdpName ∧
    Generated.v5Rec.get "protocol_type" v5OneRec = 6 ∧ Generated.v5Rec.get "protocol_type" v5RecUdpName = 17 := by
  refine ⟨by decide +kernel, by decide +kernel, by decide +kernel, by decide +kernel, by decide, by decide +kernel,
    by decide +kernel⟩

/-- **necessity witness 3 (range)**: a value that does not fit its field (`tos = 300` in a one-byte
    field).  Only representable in the model — in Rust the field is a `u8` — so this part of
    `fixedValsWf` is NOT an extra hypothesis on the real crate; the exporter keeps the low byte
    (`300 % 256 = 44`). -/
theorem C08_parse_export_fails_range :
    typedStruct Generated.v5Hdr Generated.v5Rec v5OneHdr [v5RecTos300] = false ∧
    derivedStruct Generated.tables.protoFromU8 Generated.v5Hdr Generated.v5Rec v5OneHdr [v5RecTos300] = true ∧
    Generated.v5Hdr.get "count" v5OneHdr = [v5RecTos300].length ∧
    (∃ r', parsePacket (genCfg' [5, 7, 9, 10]) {}
      (exportFixed Generated.v5Hdr Generated.v5Rec Generated.v5HdrOrder Generated.v5RecOrder
        v5OneHdr [v5RecTos300]) = ({}, .ok (.v5 v5OneHdr [r']) []) ∧ r' ≠ v5RecTos300 ∧
      Generated.v5Rec.get "tos" r' = 44) := by
  refine ⟨by decide +kernel, by decide +kernel, by decide +kernel, ?_⟩
  refine ⟨[0x0a000001, 0x0a000002, 0x0a0000fe, 11, 12, 13, 14, 15, 16, 0x1234, 0xfedc, 17, 18, 6, 6, 44, 20, 21, 22,
    23, 24], by decide +kernel, by decide, by decide +kernel⟩

/-- **the property as worded is false of the model** (and of the crate: the two witnesses above are
    ordinary Rust values): `count` = number of records does not make a V5 structure round-trip. -/
theorem C08_struct_full_fails : ¬ C08_struct_full := by
  intro hfull
  have h := hfull v5HdrVer6 [v5OneRec] C08_parse_export_fails_version.1 C08_parse_export_fails_version.2.1
  rw [C08_parse_export_fails_version.2.2.1] at h
  exact absurd h (by decide)

/-- the same with a correct `version`: the `protocol_type` witness alone refutes it -/
theorem C08_struct_full_fails_protocol_type :
    ¬ (parseFixed (genCfg' [5, 7, 9, 10]) Generated.v5Hdr Generated.v5Rec
        ((exportFixed Generated.v5Hdr Generated.v5Rec Generated.v5HdrOrder Generated.v5RecOrder
          v5OneHdr [v5RecUdpName]).drop 2) = some ((v5OneHdr, [v5RecUdpName]), [])) := by
  intro h
  exact C08_parse_export_fails_protocol_type.2.2.1
    (C08_roundtrip_needs_protocol_type [5, 7, 9, 10] true _ _ _ _ h v5RecUdpName List.mem_cons_self)

/-- **C08, second half, weakest hypothesis (any tables with `exportOk`)**.
    PARTIAL w.r.t. the property text: besides the property's own premise (`count` = number of
    records) and what the Rust types give (`typedStruct`), it needs `derivedStruct`.  The fields it
    constrains — `version` in the header, `protocol_type` in every record — are DERIVED fields: the
    Rust parser never reads them from the wire, it sets them with `#[nom(Value = "5")]` resp.
    `#[nom(Value(ProtocolTypes::from(protocol_number)))]`; `to_be_bytes` emits `version` verbatim and
    does not emit `protocol_type` at all.  A structure with other values in them therefore cannot
    round-trip (`C08_parse_export_fails_version`, `C08_parse_export_fails_protocol_type`), and by
    `C08_struct_roundtrip_iff` this hypothesis is exactly necessary and sufficient. -/
theorem C08_struct_roundtrip_partial_fixed (c : Config) (hok : c.t.exportOk = true) (v : FixedV) (h : List Nat)
    (rs : List (List Nat)) (htyped : typedStruct (v.hdrLay c.t) (v.recLay c.t) h rs = true)
    (hcount : (v.hdrLay c.t).get "count" h = rs.length)
    (hder : derivedStruct c.t.protoFromU8 (v.hdrLay c.t) (v.recLay c.t) h rs = true) :
    parseFixed c (v.hdrLay c.t) (v.recLay c.t)
        ((exportFixed (v.hdrLay c.t) (v.recLay c.t) (v.hdrOrder c.t) (v.recOrder c.t) h rs).drop 2) =
      some ((h, rs), []) := by
  refine (C08_struct_roundtrip_iff c hok v h rs).mpr ?_
  rw [C08_wf_split, htyped, hder, hcount]
  simp

theorem C08_struct_roundtrip_partial_v5 (c : Config) (hok : c.t.exportOk = true) (h : List Nat) (rs : List (List Nat))
    (htyped : typedStruct c.t.v5Hdr c.t.v5Rec h rs = true)
    (hcount : c.t.v5Hdr.get "count" h = rs.length)
    (hder : derivedStruct c.t.protoFromU8 c.t.v5Hdr c.t.v5Rec h rs = true) :
    parseFixed c c.t.v5Hdr c.t.v5Rec ((exportFixed c.t.v5Hdr c.t.v5Rec c.t.v5HdrOrder c.t.v5RecOrder h rs).drop 2) =
      some ((h, rs), []) :=
  C08_struct_roundtrip_partial_fixed c hok .v5 h rs htyped hcount hder

/-- V7 (derived fields: `version = 7`, `protocol_type`). -/
theorem C08_struct_roundtrip_partial_v7 (c : Config) (hok : c.t.exportOk = true) (h : List Nat) (rs : List (List Nat))
    (htyped : typedStruct c.t.v7Hdr c.t.v7Rec h rs = true)
    (hcount : c.t.v7Hdr.get "count" h = rs.length)
    (hder : derivedStruct c.t.protoFromU8 c.t.v7Hdr c.t.v7Rec h rs = true) :
    parseFixed c c.t.v7Hdr c.t.v7Rec ((exportFixed c.t.v7Hdr c.t.v7Rec c.t.v7HdrOrder c.t.v7RecOrder h rs).drop 2) =
      some ((h, rs), []) :=
  C08_struct_roundtrip_partial_fixed c hok .v7 h rs htyped hcount hder

/-- **C08, second half, weakest hypothesis, generated tables, in field names and through the
    dispatcher**: a typed V5 (V7) structure with `count` = number of records, `version = 5` (`7`) and
    `protocol_type = ProtocolTypes::from(protocol_number)` in every record is what
    `parse_packet_by_version` returns for its `to_be_bytes` output, nothing remaining, caches
    untouched.  PARTIAL: the last two premises are not in the property text; they concern DERIVED
    fields (set by the parser with `Value`, see `C08_struct_roundtrip_partial_fixed`), and they are
    necessary (`C08_roundtrip_needs_version`, `C08_roundtrip_needs_protocol_type`). -/
theorem C08_struct_roundtrip_partial (allowed : List Nat) (uf : Bool) (st : PState) (h : List Nat) (rs : List (List Nat)) :
    (5 ∈ allowed → typedStruct Generated.v5Hdr Generated.v5Rec h rs = true →
      Generated.v5Hdr.get "count" h = rs.length → Generated.v5Hdr.get "version" h = 5 →
      (∀ r ∈ rs, Generated.v5Rec.get "protocol_type" r =
        Generated.tables.protoFromU8 (Generated.v5Rec.get "protocol_number" r)) →
      parsePacket (genCfg' allowed uf) st
        (exportFixed Generated.v5Hdr Generated.v5Rec Generated.v5HdrOrder Generated.v5RecOrder h rs) =
        (st, .ok (.v5 h rs) [])) ∧
    (7 ∈ allowed → typedStruct Generated.v7Hdr Generated.v7Rec h rs = true →
      Generated.v7Hdr.get "count" h = rs.length → Generated.v7Hdr.get "version" h = 7 →
      (∀ r ∈ rs, Generated.v7Rec.get "protocol_type" r =
        Generated.tables.protoFromU8 (Generated.v7Rec.get "protocol_number" r)) →
      parsePacket (genCfg' allowed uf) st
        (exportFixed Generated.v7Hdr Generated.v7Rec Generated.v7HdrOrder Generated.v7RecOrder h rs) =
        (st, .ok (.v7 h rs) [])) := by
  constructor
  · intro ha ht hc hv hp
    refine (C08_generated_parse_export allowed uf st h rs).1 ha ?_
    rw [C08_wf_split, ht, hc]
    simp only [derivedStruct, C08_generated_derived_v5Hdr, hv, BEq.rfl, Bool.true_and, List.all_eq_true]
    intro r hr
    rw [C08_generated_derived_v5Rec, hp r hr]
    simp
  · intro ha ht hc hv hp
    refine (C08_generated_parse_export allowed uf st h rs).2 ha ?_
    rw [C08_wf_split, ht, hc]
    simp only [derivedStruct, C08_generated_derived_v7Hdr, hv, BEq.rfl, Bool.true_and, List.all_eq_true]
    intro r hr
    rw [C08_generated_derived_v7Rec, hp r hr]
    simp

/-- non-vacuity of `C08_struct_roundtrip_partial`: the structure of `v5One` meets all five premises … -/
example :
    typedStruct Generated.v5Hdr Generated.v5Rec v5OneHdr [v5OneRec] = true ∧
    Generated.v5Hdr.get "count" v5OneHdr = [v5OneRec].length ∧ Generated.v5Hdr.get "version" v5OneHdr = 5 ∧
    (∀ r ∈ [v5OneRec], Generated.v5Rec.get "protocol_type" r =
      Generated.tables.protoFromU8 (Generated.v5Rec.get "protocol_number" r)) := by
  refine ⟨by decide +kernel, by decide +kernel, by decide +kernel, ?_⟩
  intro r hr
  simp only [List.mem_singleton] at hr
  subst hr
  decide +kernel

/-- … and a structure with no records and `count = 0` does too (the premise on records is vacuous,
    the one on `version` is not) -/
example :
    typedStruct Generated.v7Hdr Generated.v7Rec [7, 0, 1, 2, 3, 4, 0] [] = true ∧
    Generated.v7Hdr.get "count" [7, 0, 1, 2, 3, 4, 0] = ([] : List (List Nat)).length ∧
    Generated.v7Hdr.get "version" [7, 0, 1, 2, 3, 4, 0] = 7 := by
  refine ⟨by decide +kernel, by decide +kernel, by decide +kernel⟩

/-- the split evaluated on the witnesses: typed yes, count yes, derived no -/
example :
    derivedStruct Generated.tables.protoFromU8 Generated.v5Hdr Generated.v5Rec v5HdrVer6 [v5OneRec] = false ∧
    derivedStruct Generated.tables.protoFromU8 Generated.v5Hdr Generated.v5Rec v5OneHdr [v5RecUdpName] = false ∧
    derivedStruct Generated.tables.protoFromU8 Generated.v5Hdr Generated.v5Rec v5OneHdr [v5OneRec] = true := by
  refine ⟨by decide +kernel, by decide +kernel, by decide +kernel⟩

end Netflow.Props
