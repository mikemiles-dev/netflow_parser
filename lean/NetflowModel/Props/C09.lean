/-
  Props/C09.lean — C09: re-exporting a decoded V9 packet reproduces the bytes it came from.

  The full-strength statement `C09_full` is FALSE of the model (the model mirrors the crate's lossy
  re-export); each lossy cause has a concrete witness below (`C09_fails_*`).  `C09_partial` proves
  the round trip on the class `V9Lossless` (Lemmas/ExportV9.lean): all templates governing the
  packet's data flowsets are statically lossless and all decoded values are `ValueOk`.
  Helper lemmas live in Lemmas/Export*.lean.
-/
import NetflowModel.Lemmas.ExportStream
import NetflowModel.Generated
import NetflowModel.Lemmas.G1Arms
namespace Netflow.Props
open Netflow Netflow.A7 Preds

/-- C09, full strength (`i` is the input after the 2-byte version word, which the exporter also
    writes): FALSE of the model, see `C09_full_fails`. -/
def C09_full : Prop :=
  ∀ (c : Config) (st : PState) (i : Bytes) (st' : PState) (h : List Nat) (ss : List V9Set) (rest : Bytes),
    parseV9 c st i = (st', .ok (.v9 h ss, rest)) →
    exportV9 c h ss = .ok (toBE 2 9 ++ i.take (i.length - rest.length))

/-- C09 on the lossless class, for any configuration whose generated header layouts have the
    expected shape.  PARTIAL: needs `V9Lossless c st ss` — every template (cached in `st` or
    announced in the packet) whose id is the id of one of the packet's data flowsets has only
    `LosslessField` fields (unsigned/signed numbers whose `DataNumber` arm writes the declared
    width, 4-byte `durS`, `ip4`/`ip6`/`f64` at ANY declared length, `vec`/unknown, `str`, `proto`),
    and every decoded data value is `ValueOk` (no U+FFFD in strings, protocol maps back).
    Missing from the full statement: Duration (ms/µs/ns, or s ≠ 4 bytes), MAC, non-UTF-8 strings,
    narrowed/widened signed numbers, protocol 145 — all of them genuinely fail (`C09_fails_*`). -/
theorem C09_partial (c : Config) (hs : v9SetHdrOk c.t = true) (hk : v9HdrOk c.t = true)
    (st st' : PState) (i : Bytes) (h : List Nat) (ss : List V9Set) (rest : Bytes)
    (hp : parseV9 c st i = (st', .ok (.v9 h ss, rest)))
    (hl : V9Lossless c st ss = true) :
    exportV9 c h ss = .ok (toBE 2 9 ++ i.take (i.length - rest.length)) := by
  simp only [V9Lossless, Bool.and_eq_true] at hl
  obtain ⟨x, hx, hc⟩ := parseV9_coh c hs hk (v9DataIds ss) st st' i h ss rest hp hl.1 (v9SetsOk_of_lossless c ss hl.2)
  rw [hx, prefix_eq_take hc]

/-- C09 on the lossless class for the generated tables (any allowed-version list, either setting
    of the `parse_unknown_fields` feature). -/
theorem C09_partial_generated (c : Config) (ht : c.t = Generated.tables)
    (st st' : PState) (i : Bytes) (h : List Nat) (ss : List V9Set) (rest : Bytes)
    (hp : parseV9 c st i = (st', .ok (.v9 h ss, rest)))
    (hl : V9Lossless c st ss = true) :
    exportV9 c h ss = .ok (toBE 2 9 ++ i.take (i.length - rest.length)) := by
  have hok := exportTablesOk_generated ht
  simp only [exportTablesOk, Bool.and_eq_true] at hok
  exact C09_partial c hok.1.1.1.2 hok.1.1.2 st st' i h ss rest hp hl

/-- the same through `parse_packet_by_version` and the packet exporter: the re-export is the prefix
    of the buffer the packet occupied, version word included.  PARTIAL as `C09_partial`. -/
theorem C09_packet_partial (c : Config) (ht : c.t = Generated.tables)
    (st st' : PState) (buf : Bytes) (h : List Nat) (ss : List V9Set) (rest : Bytes)
    (hp : parsePacket c st buf = (st', .ok (.v9 h ss) rest)) (hl : V9Lossless c st ss = true) :
    exportPacket c (.v9 h ss) = some (.ok (buf.take (buf.length - rest.length))) :=
  parsePacket_v9_coh c (exportTablesOk_generated ht) st st' buf h ss rest hp hl

/-- C09 in terms of the oracle predicate `reexportOk` over a whole `parse_bytes` run: every V9
    packet of the result re-exports to the slice of the buffer it occupied.  PARTIAL: needs
    `streamLossless c isV9Pkt …` — each V9 packet is `V9Lossless` w.r.t. the cache state in which
    it was parsed (templates learnt from earlier packets of the same buffer included). -/
theorem C09_stream_partial (c : Config) (ht : c.t = Generated.tables)
    (st st' : PState) (buf : Bytes) (pkts : List Packet)
    (h : parseBytes c st buf = (st', .done pkts))
    (hl : streamLossless c isV9Pkt (buf.length + 1) st buf = true) :
    reexportOk c isV9Pkt buf pkts (pkts.map (exportPacket c)) = true :=
  reexport_stream c (exportTablesOk_generated ht) isV9Pkt (fun _ hp => Or.inl hp) st st' buf pkts h hl

/-- template flowsets, options-template flowsets and options-data flowsets are byte-exact without
    any condition (only data flowsets can be lossy): a packet without data flowsets round-trips
    whatever the cache holds.  In particular options templates whose `scopeLen`/`optLen` are not
    multiples of 4 ARE byte-exact. -/
theorem C09_no_data (c : Config) (hs : v9SetHdrOk c.t = true) (hk : v9HdrOk c.t = true)
    (st st' : PState) (i : Bytes) (h : List Nat) (ss : List V9Set) (rest : Bytes)
    (hp : parseV9 c st i = (st', .ok (.v9 h ss, rest)))
    (hnd : v9DataIds ss = []) :
    exportV9 c h ss = .ok (toBE 2 9 ++ i.take (i.length - rest.length)) := by
  apply C09_partial c hs hk st st' i h ss rest hp
  simp only [V9Lossless, hnd, Bool.and_eq_true]
  constructor
  · simp [v9StOk]
  · simp only [List.all_eq_true]
    intro s hs'
    unfold v9SetOk
    cases hb : s.body with
    | templates ts pad => simp [v9TmplOk]
    | optTemplates ts pad => rfl
    | optData a b p => rfl
    | data recs pad =>
      have := mem_v9DataIds ss s recs pad hs' hb
      rw [hnd] at this
      cases this

/-- the configuration generated from the Rust source, default allowed versions -/
def cfg09 : Config := { t := Generated.tables, allowed := Generated.defaultAllowed }

/-- a parser state that has learnt one template (id 256) with the given fields -/
def stT09 (fs : List TField) : PState :=
  { v9T := [(256, { id := 256, fieldCount := fs.length, fields := fs })] }

/-- V9 header after the version word: count = 1, sys_up_time = 1, unix_secs = 2, sequence = 3,
    source_id = 4 -/
def hdr09a : Bytes := [0,1, 0,0,0,1, 0,0,0,2, 0,0,0,3, 0,0,0,4]
/-- same with count = 2 -/
def hdr09b : Bytes := [0,2, 0,0,0,1, 0,0,0,2, 0,0,0,3, 0,0,0,4]

/-- a template flowset (id 256: IN_BYTES/4, IPV4_SRC_ADDR/4, L4_SRC_PORT/2, IPV6_SRC_ADDR/16,
    field 95 `vec`/3, field 94 `str`/2) followed by a data flowset of one record with 1 byte of
    padding, parsed from an EMPTY cache -/
def pktOk09 : Bytes :=
  hdr09b ++ [0,0, 0,32, 1,0, 0,6, 0,1,0,4, 0,8,0,4, 0,7,0,2, 0,27,0,16, 0,95,0,3, 0,94,0,2] ++
  [1,0, 0,36, 0,0,1,0, 10,0,0,1, 0,80, 1,2,3,4,5,6,7,8,9,10,11,12,13,14,15,16, 9,9,9, 104,105, 0]

/-- `C09_partial` as a statement about the observable: a lossless packet that fills the input
    re-exports to the version word followed by the input -/
theorem v9Reexport_lossless (c : Config) (ht : c.t = Generated.tables) (st : PState) (i : Bytes) (q : List V9Set → Bool)
    (h : (match parseV9 c st i with
     | (_, .ok (.v9 _ ss, rest)) => V9Lossless c st ss && q ss && rest.isEmpty
     | _ => false) = true) :
    v9Reexport c st i = some (.ok (toBE 2 9 ++ i), toBE 2 9 ++ i) := by
  unfold v9Reexport
  split at h
  · next st' hd ss rest hp =>
    simp only [Bool.and_eq_true, List.isEmpty_iff] at h
    simp only [hp, C09_partial_generated c ht st st' i hd ss rest hp h.1.1, h.2, List.length_nil, Nat.sub_zero,
      List.take_length]
  · cases h

/-- the hypotheses of `C09_partial` are met by a non-trivial packet (and, consistently, its
    re-export is the input) -/
example :
    (match parseV9 cfg09 {} pktOk09 with
     | (_, .ok (.v9 _ ss, rest)) => V9Lossless cfg09 {} ss && ss.length == 2 && rest.isEmpty
     | _ => false) = true ∧
    v9Reexport cfg09 {} pktOk09 = some (.ok ([0, 9] ++ pktOk09), [0, 9] ++ pktOk09) := by
  refine ⟨?h, v9Reexport_lossless cfg09 rfl {} pktOk09 (fun ss => ss.length == 2) ?h⟩
  decide +kernel

/-- non-vacuity of `C09_stream_partial`: the packet above followed by a second packet whose data
    flowset (with 3 bytes of padding) is decoded with the template learnt from the first -/
def bufOk09 : Bytes :=
  [0, 9] ++ pktOk09 ++ [0, 9] ++ hdr09a ++
  [1,0, 0,38, 0,0,2,0, 10,0,0,2, 1,187, 1,2,3,4,5,6,7,8,9,10,11,12,13,14,15,16, 8,8,8, 0x6F,0x6B, 0,0,0]

example :
    streamLossless cfg09 isV9Pkt (bufOk09.length + 1) {} bufOk09 = true ∧
    (match parseBytes cfg09 {} bufOk09 with
     | (_, .done pkts) => pkts.length == 2 && pkts.all isV9Pkt
     | _ => false) = true := by
  constructor <;> decide +kernel

/-- non-vacuity of `C09_packet_partial` -/
example :
    (match parsePacket cfg09 {} ([0, 9] ++ pktOk09) with
     | (_, .ok (.v9 _ ss) rest) => V9Lossless cfg09 {} ss && ss.length == 2 && rest.isEmpty
     | _ => false) = true := by
  decide +kernel

/-- with the generated `DataNumber::parse` arm table, unsigned fields (the bulk of both field
    tables) are in the static class at every declared length -/
theorem C09_unsigned_lossless (c : Config) (ht : c.t = Generated.tables) (len : Nat) :
    LosslessField c.vc .unsigned len = true :=
  unsigned_lossless_of_arms c.vc (by simp only [Config.vc, ht]; decide) len

/-- the generated `ProtocolTypes::parse` maps a byte to the discriminant of the same number, so only
    the discriminant's own number has to map back -/
theorem ValueOk_proto_generated (p : Nat) (hp : p < 256) :
    ValueOk cfg09.vc (.proto p) = decide (cfg09.vc.protoParse p = some p → cfg09.vc.protoToU8 p = p) := by
  have key : ∀ n, cfg09.vc.protoParse n = some p → n = p := by
    intro n h
    change (if Generated.protoDiscs.contains n then some n else none) = some p at h
    split at h <;> cases h
    rfl
  rw [Bool.eq_iff_iff]
  simp only [ValueOk, List.all_eq_true, List.mem_range, decide_eq_true_eq]
  exact ⟨fun h => h p hp, fun h n _ hn => by cases key n hn; exact h hn⟩

/-- the dynamic class for protocols under the generated tables: TCP, UDP, … map back; 145
    (`Unknown`, re-exported as 255) does not -/
example : ValueOk cfg09.vc (.proto 6) = true ∧ ValueOk cfg09.vc (.proto 17) = true ∧
    ValueOk cfg09.vc (.proto 145) = false := by
  rw [ValueOk_proto_generated 6 (by decide), ValueOk_proto_generated 17 (by decide),
    ValueOk_proto_generated 145 (by decide)]
  decide

/-- fixed-size decoders under a different declared length are byte-exact: template 256 declares
    IPV4_SRC_ADDR with length 8; the record count is computed from 8 but each record consumes 4
    bytes, so a 16-byte body gives 2 records + 8 bytes of "padding", and records ++ padding is
    still the body.  (Covered by `C09_partial`: `LosslessField` accepts `ip4` at any length.) -/
example :
    V9Lossless cfg09 (stT09 [⟨8, 8⟩]) [] = true ∧
    v9Reexport cfg09 (stT09 [⟨8, 8⟩]) (hdr09a ++ [1,0, 0,20, 1,2,3,4, 5,6,7,8, 9,10,11,12, 13,14,15,16]) =
      some (.ok ([0, 9] ++ hdr09a ++ [1,0, 0,20, 1,2,3,4, 5,6,7,8, 9,10,11,12, 13,14,15,16]),
        [0, 9] ++ hdr09a ++ [1,0, 0,20, 1,2,3,4, 5,6,7,8, 9,10,11,12, 13,14,15,16]) := by
  constructor <;> decide +kernel

/-- an options template with `scopeLen = 6`, `optLen = 5` (not multiples of 4): one scope field
    and one option field are parsed, the remaining bytes become padding — byte-exact
    (instance of `C09_no_data`) -/
example :
    v9Reexport cfg09 {} (hdr09a ++ [0,1, 0,20, 1,1, 0,6, 0,5, 0,1,0,4, 0,2,0,2, 0xAA,0xBB]) =
      some (.ok ([0, 9] ++ hdr09a ++ [0,1, 0,20, 1,1, 0,6, 0,5, 0,1,0,4, 0,2,0,2, 0xAA,0xBB]),
        [0, 9] ++ hdr09a ++ [0,1, 0,20, 1,1, 0,6, 0,5, 0,1,0,4, 0,2,0,2, 0xAA,0xBB]) := by
  decide +kernel

/-- C09_full implies that the two components of `v9Reexport` agree -/
theorem C09_full_reexport (H : C09_full) (c : Config) (st : PState) (i : Bytes) (o : Out Bytes) (e : Bytes)
    (h : v9Reexport c st i = some (o, e)) : o = .ok e := by
  unfold v9Reexport at h
  split at h
  · rename_i st' hd ss rest hp
    simp only [Option.some.injEq, Prod.mk.injEq] at h
    obtain ⟨e1, e2⟩ := h
    subst e1 e2
    exact H c st i st' hd ss rest hp
  · cases h

/-- Duration: LAST_SWITCHED (field 21, milliseconds) with value 1000 ms is re-exported as the
    4-byte number of SECONDS: `00 00 03 E8` comes back as `00 00 00 01` -/
theorem C09_fails_duration :
    v9Reexport cfg09 (stT09 [⟨21, 4⟩]) (hdr09a ++ [1,0, 0,8, 0,0,3,232]) =
      some (.ok ([0, 9] ++ hdr09a ++ [1,0, 0,8, 0,0,0,1]), [0, 9] ++ hdr09a ++ [1,0, 0,8, 0,0,3,232]) := by
  decide +kernel

/-- MAC: IN_SRC_MAC (field 56, 6 bytes) is re-exported as the 17 ASCII bytes `01:02:03:04:05:06`
    (while the flowset header still says length 10) -/
theorem C09_fails_mac :
    v9Reexport cfg09 (stT09 [⟨56, 6⟩]) (hdr09a ++ [1,0, 0,10, 1,2,3,4,5,6]) =
      some (.ok ([0, 9] ++ hdr09a ++
          [1,0, 0,10, 48,49,58, 48,50,58, 48,51,58, 48,52,58, 48,53,58, 48,54]),
        [0, 9] ++ hdr09a ++ [1,0, 0,10, 1,2,3,4,5,6]) := by
  decide +kernel

/-- strings: a byte that is not valid UTF-8 (`FF`) comes back as U+FFFD (`EF BF BD`) -/
theorem C09_fails_utf8 :
    v9Reexport cfg09 (stT09 [⟨94, 2⟩]) (hdr09a ++ [1,0, 0,6, 0xFF,0x41]) =
      some (.ok ([0, 9] ++ hdr09a ++ [1,0, 0,6, 0xEF,0xBF,0xBD,0x41]),
        [0, 9] ++ hdr09a ++ [1,0, 0,6, 0xFF,0x41]) := by
  decide +kernel

/-- protocol: PROTOCOL (field 4) byte 145 decodes to `ProtocolTypes::Unknown`, exported as 255 -/
theorem C09_fails_protocol :
    v9Reexport cfg09 (stT09 [⟨4, 1⟩]) (hdr09a ++ [1,0, 0,5, 145]) =
      some (.ok ([0, 9] ++ hdr09a ++ [1,0, 0,5, 255]), [0, 9] ++ hdr09a ++ [1,0, 0,5, 145]) := by
  decide +kernel

/-- signed numbers (value level; no V9 field has a signed type, IPFIX field 434 has): a 2-byte
    signed field is stored as `I32` and re-exported sign-extended to 4 bytes -/
theorem C09_fails_signed_width :
    parseValue cfg09.vc .signed 2 [0xFF, 0xFE] = some (.num (.i32 (-2)), []) ∧
    (FieldValue.num (.i32 (-2))).toBE cfg09.vc = .ok [0xFF, 0xFF, 0xFF, 0xFE] := by
  constructor <;> decide +kernel

/-- Duration in seconds with 8 bytes (value level): 8 bytes in, 4 bytes out; and with seconds
    ≥ 2^32 the exporter returns an error -/
theorem C09_fails_duration_u64 :
    (∃ v, parseValue cfg09.vc .durS 8 [0,0,0,0,0,0,0,5] = some (v, []) ∧ v.toBE cfg09.vc = .ok [0,0,0,5]) ∧
    (∃ v, parseValue cfg09.vc .durS 8 [0,0,0,1,0,0,0,0] = some (v, []) ∧ v.toBE cfg09.vc = .err) := by
  constructor
  · exact ⟨.dur 5 0, by decide +kernel, by decide +kernel⟩
  · exact ⟨.dur 4294967296 0, by decide +kernel, by decide +kernel⟩

/-- C09 at full strength is false of the model: the witness `C09_fails_duration` uses the generated
    tables (`cfg09`) -/
theorem C09_full_fails : ¬ C09_full := by
  intro H
  have := C09_full_reexport H _ _ _ _ _ C09_fails_duration
  revert this
  decide +kernel

/-- the value encoders of the model are the interpretation of the arms of `FieldValue::to_be_bytes` and
    `DataNumber::to_be_bytes` that `tools/translate.py` reads from data_number.rs (`Generated.exportArms`) -/
theorem C09_export_arms_generated (c : ValueCfg) (v : FieldValue) :
    v.toBE c = toBEBy Generated.exportArms c v := G1.toBE_eq_generated c v

theorem C09_number_export_arms_generated (d : DataNumber) :
    d.toBE = dnToBEBy Generated.dnExportArms d := G1.dnToBE_eq_generated d

end Netflow.Props
