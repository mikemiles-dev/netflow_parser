/-
  Props/C10.lean — C10: re-exporting a decoded IPFIX message reproduces the bytes it came from.

  The full-strength statement `C10_full` is FALSE of the model (the model mirrors the crate's lossy
  re-export); each lossy cause has a concrete witness below (`C10_fails_*`).  `C10_partial` proves
  the round trip on the class `IpLossless` (Lemmas/ExportIpfix.lean).
-/
import NetflowModel.Lemmas.ExportStream
import NetflowModel.Generated
import NetflowModel.Lemmas.G1Arms
namespace Netflow.Props
open Netflow Netflow.A7 Preds

/-- C10, full strength (`i` is the input after the 2-byte version word, which the exporter also
    writes): FALSE of the model, see `C10_full_fails`. -/
def C10_full : Prop :=
  ∀ (c : Config) (st : PState) (i : Bytes) (st' : PState) (h : List Nat) (ss : List IpSet) (rest : Bytes),
    parseIpfix c st i = (st', .ok (.ipfix h ss, rest)) →
    exportIpfix c h ss = .ok (toBE 2 10 ++ i.take (i.length - rest.length))

/-- C10 on the lossless class.  PARTIAL: needs `IpLossless c st h ss` —
    (1) all sets decoded: the decoded sets' lengths add up to `length - 16` (otherwise the export
        is SHORTER than the message: the parser silently drops everything from the first
        undecodable set on);
    (2) no field specifier of a template / options-template set in the message has the enterprise
        bit (it is stripped on re-export);
    (3) every template / options template (cached or announced) whose id is the id of a data set of
        the message has only fixed-length fields (`len ≠ 65535`: the variable-length prefix is not
        re-emitted) that are enterprise-specific or `LosslessField`;
    (4) every decoded data value is `ValueOk`.
    All four are genuinely needed (`C10_fails_*`). -/
theorem C10_partial (c : Config) (hs : ipSetHdrOk c.t = true) (hk : ipHdrOk c.t = true)
    (st st' : PState) (i : Bytes) (h : List Nat) (ss : List IpSet) (rest : Bytes)
    (hp : parseIpfix c st i = (st', .ok (.ipfix h ss, rest)))
    (hl : IpLossless c st h ss = true) :
    exportIpfix c h ss = .ok (toBE 2 10 ++ i.take (i.length - rest.length)) := by
  simp only [IpLossless, Bool.and_eq_true, beq_iff_eq] at hl
  obtain ⟨x, hx, hc⟩ := parseIpfix_coh c hs hk (ipDataIds ss) st st' i h ss rest hp hl.1.1
    (ipSetsOk_of_lossless c ss hl.1.2) hl.2
  rw [hx, prefix_eq_take hc]

/-- `C10_partial` for any configuration over the generated tables -/
theorem C10_partial_generated (c : Config) (ht : c.t = Generated.tables)
    (st st' : PState) (i : Bytes) (h : List Nat) (ss : List IpSet) (rest : Bytes)
    (hp : parseIpfix c st i = (st', .ok (.ipfix h ss, rest)))
    (hl : IpLossless c st h ss = true) :
    exportIpfix c h ss = .ok (toBE 2 10 ++ i.take (i.length - rest.length)) := by
  have hok := exportTablesOk_generated ht
  simp only [exportTablesOk, Bool.and_eq_true] at hok
  exact C10_partial c hok.1.2 hok.2 st st' i h ss rest hp hl

/-- the same through `parse_packet_by_version` and the packet exporter: the re-export is the prefix
    of the buffer the message occupied, version word included.  PARTIAL as `C10_partial`. -/
theorem C10_packet_partial (c : Config) (ht : c.t = Generated.tables)
    (st st' : PState) (buf : Bytes) (h : List Nat) (ss : List IpSet) (rest : Bytes)
    (hp : parsePacket c st buf = (st', .ok (.ipfix h ss) rest)) (hl : IpLossless c st h ss = true) :
    exportPacket c (.ipfix h ss) = some (.ok (buf.take (buf.length - rest.length))) :=
  parsePacket_ipfix_coh c (exportTablesOk_generated ht) st st' buf h ss rest hp hl

/-- C10 in terms of the oracle predicate `reexportOk` over a whole `parse_bytes` run: every IPFIX
    message of the result re-exports to the slice of the buffer it occupied.  PARTIAL: needs
    `streamLossless c isIpfixPkt …` — each IPFIX message is `IpLossless` w.r.t. the cache state in
    which it was parsed. -/
theorem C10_stream_partial (c : Config) (ht : c.t = Generated.tables)
    (st st' : PState) (buf : Bytes) (pkts : List Packet)
    (h : parseBytes c st buf = (st', .done pkts))
    (hl : streamLossless c isIpfixPkt (buf.length + 1) st buf = true) :
    reexportOk c isIpfixPkt buf pkts (pkts.map (exportPacket c)) = true :=
  reexport_stream c (exportTablesOk_generated ht) isIpfixPkt (fun _ hp => Or.inr hp) st st' buf pkts h hl

/-- the configuration generated from the Rust source, default allowed versions -/
def cfg10 : Config := { t := Generated.tables, allowed := Generated.defaultAllowed }

/-- a parser state that has learnt one IPFIX template (id 256) with the given fields -/
def stI10 (fs : List IpTField) : PState :=
  { ipT := [(256, { id := 256, fieldCount := fs.length, fields := fs, pad := [] })] }

/-- IPFIX header after the version word with the given total length: export_time = 1,
    sequence_number = 2, observation_domain_id = 3 -/
def ihdr10 (len : Nat) : Bytes := [0, UInt8.ofNat len, 0,0,0,1, 0,0,0,2, 0,0,0,3]

/-- template set (id 256: octetDeltaCount/4, sourceIPv4Address/4, sourceTransportPort/2) and a data
    set with one record and two bytes of padding, parsed from an EMPTY cache -/
def msgOk10 : Bytes :=
  ihdr10 52 ++ [0,2, 0,20, 1,0, 0,3, 0,1,0,4, 0,8,0,4, 0,7,0,2] ++
  [1,0, 0,16, 0,0,1,0, 10,0,0,1, 0,80, 0,0]

/-- `C10_partial` as a statement about the observable: a lossless message that fills the input
    re-exports to the version word followed by the input -/
theorem ipReexport_lossless (c : Config) (ht : c.t = Generated.tables) (st : PState) (i : Bytes) (q : List IpSet → Bool)
    (h : (match parseIpfix c st i with
     | (_, .ok (.ipfix h ss, rest)) => IpLossless c st h ss && q ss && rest.isEmpty
     | _ => false) = true) :
    ipReexport c st i = some (.ok (toBE 2 10 ++ i), toBE 2 10 ++ i) := by
  unfold ipReexport
  split at h
  · next st' hd ss rest hp =>
    simp only [Bool.and_eq_true, List.isEmpty_iff] at h
    simp only [hp, C10_partial_generated c ht st st' i hd ss rest hp h.1.1, h.2, List.length_nil, Nat.sub_zero,
      List.take_length]
  · cases h

/-- non-vacuity of `C10_partial`: `msgOk10` decodes to two sets, is `IpLossless`, and fills the input -/
example :
    (match parseIpfix cfg10 {} msgOk10 with
     | (_, .ok (.ipfix h ss, rest)) => IpLossless cfg10 {} h ss && ss.length == 2 && rest.isEmpty
     | _ => false) = true ∧
    ipReexport cfg10 {} msgOk10 = some (.ok ([0, 10] ++ msgOk10), [0, 10] ++ msgOk10) := by
  refine ⟨?h, ipReexport_lossless cfg10 rfl {} msgOk10 (fun ss => ss.length == 2) ?h⟩
  decide +kernel

/-- non-vacuity of `C10_stream_partial`: the message above followed by a second message whose
    data set holds two records decoded with the template learnt from the first -/
def bufOk10 : Bytes :=
  [0, 10] ++ msgOk10 ++ [0, 10] ++ ihdr10 40 ++
  [1,0, 0,24, 0,0,2,0, 10,0,0,2, 1,187, 0,0,3,0, 10,0,0,3, 0,53]

example :
    streamLossless cfg10 isIpfixPkt (bufOk10.length + 1) {} bufOk10 = true ∧
    (match parseBytes cfg10 {} bufOk10 with
     | (_, .done pkts) => pkts.length == 2 && pkts.all isIpfixPkt
     | _ => false) = true := by
  constructor <;> decide +kernel

/-- non-vacuity of `C10_packet_partial` -/
example :
    (match parsePacket cfg10 {} ([0, 10] ++ msgOk10) with
     | (_, .ok (.ipfix h ss) rest) => IpLossless cfg10 {} h ss && ss.length == 2 && rest.isEmpty
     | _ => false) = true := by
  decide +kernel

/-- a CACHED template may contain enterprise-specific fields (their data are kept as raw bytes):
    enterprise field 5 / PEN 9 of length 3, then an unknown field 600 of length 2 -/
example :
    (match parseIpfix cfg10 (stI10 [⟨5, 3, some 9⟩, ⟨600, 2, none⟩]) (ihdr10 25 ++ [1,0, 0,9, 7,8,9, 1,2]) with
     | (_, .ok (.ipfix h ss, rest)) =>
        IpLossless cfg10 (stI10 [⟨5, 3, some 9⟩, ⟨600, 2, none⟩]) h ss && ss.length == 1 && rest.isEmpty
     | _ => false) = true := by
  decide +kernel

/-- a template set is always parsed as ONE template — the second record's id and field
    count become a bogus field specifier `(257, 1)` — and yet the re-export is byte-exact, because
    id, count, all specifiers and the trailing bytes are re-emitted in order.  (Instance of
    `C10_partial`: no enterprise bit, no data set.) -/
example :
    ipReexport cfg10 {} (ihdr10 36 ++ [0,2, 0,20, 1,0, 0,1, 0,1,0,4, 1,1, 0,1, 0,2,0,4]) =
      some (.ok ([0, 10] ++ ihdr10 36 ++ [0,2, 0,20, 1,0, 0,1, 0,1,0,4, 1,1, 0,1, 0,2,0,4]),
        [0, 10] ++ ihdr10 36 ++ [0,2, 0,20, 1,0, 0,1, 0,1,0,4, 1,1, 0,1, 0,2,0,4]) ∧
    (match parseIpfix cfg10 {} (ihdr10 36 ++ [0,2, 0,20, 1,0, 0,1, 0,1,0,4, 1,1, 0,1, 0,2,0,4]) with
     | (_, .ok (.ipfix h ss, _)) => IpLossless cfg10 {} h ss &&
         ss.map (·.body) == [.template ⟨256, 1, [⟨1, 4, none⟩, ⟨257, 1, none⟩, ⟨2, 4, none⟩], []⟩]
     | _ => false) = true := by
  constructor <;> decide +kernel

/-- … unless the second record's template id is ≥ 32768: it is then read as an enterprise
    specifier (the following 4 bytes as its PEN) and comes back with the top bit cleared -/
theorem C10_fails_multi_template :
    ipReexport cfg10 {} (ihdr10 36 ++ [0,2, 0,20, 1,0, 0,1, 0,1,0,4, 0x80,1, 0,1, 0,2,0,4]) =
      some (.ok ([0, 10] ++ ihdr10 36 ++ [0,2, 0,20, 1,0, 0,1, 0,1,0,4, 0,1, 0,1, 0,2,0,4]),
        [0, 10] ++ ihdr10 36 ++ [0,2, 0,20, 1,0, 0,1, 0,1,0,4, 0x80,1, 0,1, 0,2,0,4]) := by
  decide +kernel

/-- `C10_full` implies that the two components of `ipReexport` agree -/
theorem C10_full_reexport (H : C10_full) (c : Config) (st : PState) (i : Bytes) (o : Out Bytes) (e : Bytes)
    (h : ipReexport c st i = some (o, e)) : o = .ok e := by
  unfold ipReexport at h
  split at h
  · rename_i st' hd ss rest hp
    simp only [Option.some.injEq, Prod.mk.injEq] at h
    obtain ⟨e1, e2⟩ := h
    subst e1 e2
    exact H c st i st' hd ss rest hp
  · cases h

/-- enterprise bit: specifier `80 01 00 04` + PEN 9 comes back as `00 01 00 04` + PEN 9 -/
theorem C10_fails_enterprise :
    ipReexport cfg10 {} (ihdr10 32 ++ [0,2, 0,16, 1,0, 0,1, 0x80,1, 0,4, 0,0,0,9]) =
      some (.ok ([0, 10] ++ ihdr10 32 ++ [0,2, 0,16, 1,0, 0,1, 0,1, 0,4, 0,0,0,9]),
        [0, 10] ++ ihdr10 32 ++ [0,2, 0,16, 1,0, 0,1, 0x80,1, 0,4, 0,0,0,9]) := by
  decide +kernel

/-- variable length: interfaceName (field 82) declared with length 65535; the one-byte length
    prefix `03` is consumed and not re-emitted (while the set header still says length 8) -/
theorem C10_fails_varlen :
    ipReexport cfg10 (stI10 [⟨82, 65535, none⟩]) (ihdr10 24 ++ [1,0, 0,8, 3, 97,98,99]) =
      some (.ok ([0, 10] ++ ihdr10 24 ++ [1,0, 0,8, 97,98,99]),
        [0, 10] ++ ihdr10 24 ++ [1,0, 0,8, 3, 97,98,99]) := by
  decide +kernel

/-- 8-byte millisecond timestamps (flowStartMilliseconds, field 152) come back as 4-byte seconds -/
theorem C10_fails_duration :
    ipReexport cfg10 (stI10 [⟨152, 8, none⟩]) (ihdr10 28 ++ [1,0, 0,12, 0,0,0,0,0,0,7,208]) =
      some (.ok ([0, 10] ++ ihdr10 28 ++ [1,0, 0,12, 0,0,0,2]),
        [0, 10] ++ ihdr10 28 ++ [1,0, 0,12, 0,0,0,0,0,0,7,208]) := by
  decide +kernel

/-- … and when the seconds do not fit 32 bits, `to_be_bytes` FAILS (here 2^32 * 1000 ms) -/
theorem C10_fails_duration_err :
    ipReexport cfg10 (stI10 [⟨152, 8, none⟩]) (ihdr10 28 ++ [1,0, 0,12, 0,0,3,232,0,0,0,0]) =
      some (.err, [0, 10] ++ ihdr10 28 ++ [1,0, 0,12, 0,0,3,232,0,0,0,0]) := by
  decide +kernel

/-- sets after an undecodable set vanish: a data set for an unknown template (id 300) followed by a
    perfectly good template set; the message is accepted with ZERO sets, the header still says
    length 44, and the export is the 16 header bytes only -/
theorem C10_fails_dropped_sets :
    ipReexport cfg10 {} (ihdr10 44 ++ [1,44, 0,8, 1,2,3,4] ++ [0,2, 0,20, 1,0, 0,3, 0,1,0,4, 0,8,0,4, 0,7,0,2]) =
      some (.ok ([0, 10] ++ ihdr10 44),
        [0, 10] ++ ihdr10 44 ++ [1,44, 0,8, 1,2,3,4] ++ [0,2, 0,20, 1,0, 0,3, 0,1,0,4, 0,8,0,4, 0,7,0,2]) := by
  decide +kernel

/-- signed numbers: field 434 (the only signed IPFIX type in the table) with 2 bytes is stored as
    `I32` and comes back sign-extended to 4 bytes -/
theorem C10_fails_signed_width :
    ipReexport cfg10 (stI10 [⟨434, 2, none⟩]) (ihdr10 22 ++ [1,0, 0,6, 0xFF,0xFE]) =
      some (.ok ([0, 10] ++ ihdr10 22 ++ [1,0, 0,6, 0xFF,0xFF,0xFF,0xFE]),
        [0, 10] ++ ihdr10 22 ++ [1,0, 0,6, 0xFF,0xFE]) := by
  decide +kernel

/-- MAC addresses (sourceMacAddress, field 56) come back as 17 ASCII bytes -/
theorem C10_fails_mac :
    ipReexport cfg10 (stI10 [⟨56, 6, none⟩]) (ihdr10 26 ++ [1,0, 0,10, 1,2,3,4,5,6]) =
      some (.ok ([0, 10] ++ ihdr10 26 ++ [1,0, 0,10, 48,49,58, 48,50,58, 48,51,58, 48,52,58, 48,53,58, 48,54]),
        [0, 10] ++ ihdr10 26 ++ [1,0, 0,10, 1,2,3,4,5,6]) := by
  decide +kernel

/-- strings that are not valid UTF-8 (interfaceName, field 82, fixed length 2) -/
theorem C10_fails_utf8 :
    ipReexport cfg10 (stI10 [⟨82, 2, none⟩]) (ihdr10 22 ++ [1,0, 0,6, 0xFF,0x41]) =
      some (.ok ([0, 10] ++ ihdr10 22 ++ [1,0, 0,6, 0xEF,0xBF,0xBD,0x41]),
        [0, 10] ++ ihdr10 22 ++ [1,0, 0,6, 0xFF,0x41]) := by
  decide +kernel

/-- C10 at full strength is false of the model: the witness `C10_fails_enterprise` uses the generated
    tables (`cfg10`) -/
theorem C10_full_fails : ¬ C10_full := by
  intro H
  have := C10_full_reexport H _ _ _ _ _ C10_fails_enterprise
  revert this
  decide +kernel

/-- the value encoders of the model are the interpretation of the arms of `FieldValue::to_be_bytes` and
    `DataNumber::to_be_bytes` that `tools/translate.py` reads from data_number.rs (`Generated.exportArms`) -/
theorem C10_export_arms_generated (c : ValueCfg) (v : FieldValue) :
    v.toBE c = toBEBy Generated.exportArms c v := G1.toBE_eq_generated c v

theorem C10_number_export_arms_generated (d : DataNumber) :
    d.toBE = dnToBEBy Generated.dnExportArms d := G1.dnToBE_eq_generated d

end Netflow.Props
