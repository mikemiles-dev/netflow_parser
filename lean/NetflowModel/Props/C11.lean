/-
  Props/C11.lean — C11: packets chained in one buffer decode exactly as if delivered one per call.

  `selfDelimiting c st a` (Lemmas/Locality.lean, decidable): `parse_packet_by_version` accepts `a` in
  state `st` with nothing left over and — for a V9 packet — the header count equals the number of
  decoded flowsets.  `chainOk c st ps`: every buffer of `ps` is self-delimiting in the state reached
  after the previous ones.  `foldCalls c st ps`: one `parse_bytes` call per buffer on the same parser
  (final state, concatenated results).
-/
import NetflowModel.Lemmas.Locality
import NetflowModel.Props.C02
import NetflowModel.Generated
import NetflowModel.Lemmas.GenTables
namespace Netflow.Props
open Netflow Preds

/-- **C11, one packet** (general form): an accepted packet (V9: count = number of flowsets) is
    decoded identically, with the same state change, whatever bytes follow it; the appended bytes are
    handed through to `remaining`.  No hypothesis on the tables is needed. -/
theorem C11_step_ext (c : Config) (st st' : PState) (a : Bytes) (pkt : Packet) (rest : Bytes)
    (h : parsePacket c st a = (st', .ok pkt rest)) (hc : pktCountOk c pkt = true) (b : Bytes) :
    parsePacket c st (a ++ b) = (st', .ok pkt (rest ++ b)) :=
  parsePacket_ext h hc b

/-- **C11, one packet**: a self-delimiting packet followed by `b` yields the same packet, the same
    state, and `remaining = b`. -/
theorem C11_step (c : Config) (st st' : PState) (a : Bytes) (pkt : Packet)
    (h : parsePacket c st a = (st', .ok pkt [])) (hc : pktCountOk c pkt = true) (b : Bytes) :
    parsePacket c st (a ++ b) = (st', .ok pkt b) := by
  simpa using parsePacket_ext h hc b

/-- the same, from the decidable predicate -/
theorem C11_step_selfDelimiting (c : Config) (st : PState) (a : Bytes) (h : selfDelimiting c st a = true) :
    ∃ st' pkt, parsePacket c st a = (st', .ok pkt []) ∧ ∀ b, parsePacket c st (a ++ b) = (st', .ok pkt b) := by
  obtain ⟨st', pkt, hp, hc⟩ := selfDelimiting_inv h
  exact ⟨st', pkt, hp, C11_step c st st' a pkt hp hc⟩

/-- **C11, chain**: parsing the concatenation of a chain of self-delimiting packets in one call
    returns, in order, the concatenation of what one call per packet returns, and ends in the same
    parser state. -/
theorem C11_chain (c : Config) (hf : c.t.framingOk = true) (st : PState) (ps : List Bytes)
    (h : chainOk c st ps = true) :
    parseBytes c st ps.flatten = ((foldCalls c st ps).1, .done (foldCalls c st ps).2) := by
  have := parseBytes_chain_append c ps st h []
  rw [List.append_nil, parseBytes_nil] at this
  rw [this]
  simp [Outcome.prepend]

/-- **C11, chain followed by anything**: after a chain of self-delimiting packets `parse_bytes`
    continues with the tail `t` exactly as a fresh call on `t` would in the state after the chain
    (used by C14). -/
theorem C11_chain_append (c : Config) (hf : c.t.framingOk = true) (st : PState) (ps : List Bytes)
    (h : chainOk c st ps = true) (t : Bytes) :
    parseBytes c st (ps.flatten ++ t) =
      ((parseBytes c (foldCalls c st ps).1 t).1, (parseBytes c (foldCalls c st ps).1 t).2.prepend (foldCalls c st ps).2) :=
  parseBytes_chain_append c ps st h t

/-- **C11, every partition**: for every way `gs` of cutting the chain into consecutive calls at
    packet boundaries, delivering one group per call gives the same results and final state as one
    packet per call … -/
theorem C11_partition (c : Config) (hf : c.t.framingOk = true) :
    ∀ (gs : List (List Bytes)) (st : PState), chainOk c st gs.flatten = true →
      foldCalls c st (gs.map List.flatten) = foldCalls c st gs.flatten := by
  intro gs
  induction gs with
  | nil => intro st _; rfl
  | cons g gs ih =>
    intro st h
    rw [List.flatten_cons] at h
    obtain ⟨h1, h2⟩ := chainOk_append c _ _ _ h
    rw [List.map_cons, List.flatten_cons, foldCalls_append]
    simp only [foldCalls]
    rw [C11_chain c hf st g h1]
    simp only [Outcome.pkts]
    rw [ih _ h2]

/-- … and hence the same as delivering everything in a single call. -/
theorem C11_partition_joined (c : Config) (hf : c.t.framingOk = true) (gs : List (List Bytes)) (st : PState)
    (h : chainOk c st gs.flatten = true) :
    parseBytes c st gs.flatten.flatten =
      ((foldCalls c st (gs.map List.flatten)).1, .done (foldCalls c st (gs.map List.flatten)).2) := by
  rw [C11_partition c hf gs st h]
  exact C11_chain c hf st _ h

/-- **C11** for the tables generated from the Rust source: every allowed set, every cache state. -/
theorem C11_generated (allowed : List Nat) (uf : Bool) (st : PState) (gs : List (List Bytes))
    (h : chainOk { t := Generated.tables, allowed := allowed, unknownFields := uf } st gs.flatten = true) :
    let c : Config := { t := Generated.tables, allowed := allowed, unknownFields := uf }
    parseBytes c st gs.flatten.flatten = ((foldCalls c st gs.flatten).1, .done (foldCalls c st gs.flatten).2) ∧
    foldCalls c st (gs.map List.flatten) = foldCalls c st gs.flatten :=
  ⟨C11_chain { t := Generated.tables, allowed := allowed, unknownFields := uf } C02_generated_framing st _ h,
   C11_partition { t := Generated.tables, allowed := allowed, unknownFields := uf } C02_generated_framing gs st h⟩

/-- C11's one-packet statement WITHOUT the "count = number of flowsets" restriction that the property
    itself makes for V9 packets (this is stronger than the property, and false) -/
def C11_noCountHyp : Prop :=
  ∀ (c : Config) (st st' : PState) (a : Bytes) (pkt : Packet), c.t.framingOk = true →
    parsePacket c st a = (st', .ok pkt []) → ∀ b, parsePacket c st (a ++ b) = (st', .ok pkt b)

/-- a V9 header announcing one flowset followed by nothing is accepted as an empty packet; with more
    bytes behind it the loop continues into them (here: it fails on them).  So the restriction the
    property makes for V9 cannot be dropped. -/
theorem C11_noCountHyp_fails : ¬ C11_noCountHyp := by
  intro h
  have := h { t := Generated.tables, allowed := [9] } {} {}
    [0, 9, 0, 1, 0, 0, 0, 1, 0, 0, 0, 2, 0, 0, 0, 3, 0, 0, 0, 4] (.v9 [9, 1, 1, 2, 3, 4] [])
    (by decide +kernel) (by decide +kernel) [0, 5]
  revert this
  decide +kernel

namespace C11ex
def cfg : Config := { t := Generated.tables, allowed := [5, 7, 9, 10] }
/-- a V5 packet with one record -/
def v5p : Bytes := [0,5, 0,1, 0,0,0,1, 0,0,0,2, 0,0,0,3, 0,0,0,4, 5,6, 0,7] ++ List.replicate 48 1
/-- an IPFIX message defining template 256 (sourceIPv4Address/4, destinationIPv4Address/4) -/
def ipT : Bytes := [0,10, 0,32, 0,0,0,1, 0,0,0,1, 0,0,0,1,  0,2, 0,16, 1,0, 0,2, 0,8,0,4, 0,12,0,4]
/-- an IPFIX message with one data set for template 256 -/
def ipD : Bytes := [0,10, 0,28, 0,0,0,2, 0,0,0,2, 0,0,0,1,  1,0, 0,12, 10,0,0,1, 10,0,0,2]
/-- a V9 packet: template flowset 256 and a data flowset using it (count = 2 = number of flowsets) -/
def v9p : Bytes := [0,9, 0,2, 0,0,0,1, 0,0,0,2, 0,0,0,3, 0,0,0,4,  0,0, 0,16, 1,0, 0,2, 0,8,0,4, 0,12,0,4,
  1,0, 0,12, 10,0,0,1, 10,0,0,2]
end C11ex
open C11ex

theorem C11_example_chain4 : chainOk cfg {} [v5p, ipT, ipD, v9p] = true := by decide +kernel

/-- the first two and the first packet of that chain -/
theorem C11_example_chain2 : chainOk cfg {} [v5p, ipT] = true := by decide +kernel
theorem C11_example_chain1 : chainOk cfg {} [v5p] = true := by decide +kernel

/-- a mixed chain (V5, IPFIX template, IPFIX data, V9) satisfies the hypothesis of `C11_chain` … -/
example : chainOk cfg {} [v5p, ipT, ipD, v9p] = true := C11_example_chain4

/-- … the data message really depends on the template message before it (alone it decodes no set) … -/
example : (foldCalls cfg {} [ipD]).2 = [.ipfix [10, 28, 2, 2, 1] []] := by decide +kernel

/-- … and in the chain it is decoded with the template learned from the previous call. -/
example : ((foldCalls cfg {} [v5p, ipT, ipD, v9p]).2.drop 2).head? =
    some (.ipfix [10, 28, 2, 2, 1]
      [{ id := 256, len := 12,
         body := .data [[(0, 8, .ip4 167772161)], [(1, 12, .ip4 167772162)]] [] }]) := by decide +kernel

/-- the theorem instantiated on the example: joined delivery and the partition `[[v5, T], [D, v9]]` -/
example : parseBytes cfg {} (v5p ++ ipT ++ ipD ++ v9p) =
    ((foldCalls cfg {} [v5p ++ ipT, ipD ++ v9p]).1, .done (foldCalls cfg {} [v5p ++ ipT, ipD ++ v9p]).2) := by
  have h : chainOk cfg {} [[v5p, ipT], [ipD, v9p]].flatten = true := C11_example_chain4
  have := C11_partition_joined cfg C02_generated_framing [[v5p, ipT], [ipD, v9p]] {} h
  simpa using this

/-- no global state (`generated_noGlobals`): a call can hand nothing to the next call except through the parser value -/
theorem C11_no_global_state : Generated.noGlobals = true := generated_noGlobals


end Netflow.Props
