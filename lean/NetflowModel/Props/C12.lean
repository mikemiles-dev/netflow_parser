/-
  Props/C12.lean — C12: `allowed_versions` filters by the version word and by nothing else.
  With allowed set `S`, `parse_bytes` returns exactly the leading elements of the all-allowed run
  up to (excluding) the first packet whose version word is not in `S`; that packet and everything
  after it are neither reported nor allowed to change the caches.  An allowed version without a
  dispatch arm is reported as `UnknownVersion` carrying the unparsed bytes.
-/
import NetflowModel.Lemmas.AllowedFilter
import NetflowModel.Props.C06
namespace Netflow.Props
open Netflow Preds

/-- **C12, one packet, version allowed** (or fewer than two bytes): the call is the all-allowed call -/
theorem C12_step (c : Config) (S A : List Nat) (hA : AllowsAll A) (st : PState) (buf : Bytes)
    (h : ∀ v, versionOf buf = some v → S.contains v = true) :
    parsePacket (c.withAllowed S) st buf = parsePacket (c.withAllowed A) st buf :=
  parsePacket_allowed_in c S A (hA.more S) st buf h

/-- **C12, one packet, version not allowed**: `UnallowedVersion`, the caches are untouched -/
theorem C12_step_unallowed (c : Config) (S : List Nat) (st : PState) (buf : Bytes) (v : Nat)
    (hv : versionOf buf = some v) (hS : S.contains v = false) :
    parsePacket (c.withAllowed S) st buf = (st, .unallowed) :=
  parsePacket_allowed_out c S st buf v hv hS

/-- **C12** (every fuel, any two allowed sets of which the second allows more): if the run under `A`
    returns `pktsA`, the run under `S` returns `takeAllowed … pktsA` and ends in the cache state the
    `A`-run had after exactly that many packet steps. -/
theorem C12_filter_fuel (c : Config) (hf : c.t.framingOk = true) (S A : List Nat) (hA : AllowsMore S A) :
    ∀ (fuel : Nat) (st stA : PState) (buf : Bytes) (pktsA : List Packet),
      parseBytesF (c.withAllowed A) fuel st buf = (stA, .done pktsA) →
      parseBytesF (c.withAllowed S) fuel st buf =
        (stateAfter (c.withAllowed A) fuel (takeAllowed (c.withAllowed A) S fuel buf pktsA).length st buf,
         .done (takeAllowed (c.withAllowed A) S fuel buf pktsA)) := by
  intro fuel
  induction fuel with
  | zero => intro st stA buf pktsA h; cases h
  | succ fuel ih =>
    intro st stA buf pktsA h
    by_cases hne : buf = []
    · subst hne
      simp only [parseBytesF, List.isEmpty_nil, ↓reduceIte, Prod.mk.injEq, Outcome.done.injEq] at h
      rw [← h.2]
      simp [parseBytesF, takeAllowed, stateAfter]
    have he : buf.isEmpty = false := List.isEmpty_eq_false_iff.2 hne
    cases hv : versionOf buf with
    | none =>
      -- fewer than two bytes: `Incomplete` under every allowed set
      have hp : ∀ a, parsePacket (c.withAllowed a) st buf = (st, .fail .incomplete) := fun _ =>
        parsePacket_incomplete (beU_short (versionOf_eq_none.1 hv))
      simp only [parseBytesF, he, Bool.false_eq_true, ↓reduceIte, hp, Prod.mk.injEq, Outcome.done.injEq] at h ⊢
      rw [← h.2]
      simp [takeAllowed, hv, stateAfter, he, hp]
    | some v =>
      cases hS : S.contains v with
      | false =>
        have hS' : v ∉ S := by simpa using hS
        simp only [parseBytesF, he, Bool.false_eq_true, ↓reduceIte, parsePacket_allowed_out c S st buf v hv hS]
        cases pktsA <;> simp [takeAllowed, hv, hS', stateAfter_zero]
      | true =>
        have hS' : v ∈ S := by simpa using hS
        have hpS : parsePacket (c.withAllowed S) st buf = parsePacket (c.withAllowed A) st buf :=
          parsePacket_allowed_in c S A hA st buf fun v' hv' => by rw [hv] at hv'; cases hv'; exact hS
        rcases parseBytesF_succ_done h with ⟨e, _⟩ | ⟨pkt, _, hp, rfl⟩ |
          ⟨st1, pkt, rest, ps', _, hr, hp, hrec, rfl⟩ | ⟨e, _, hp, rfl⟩ | ⟨_, hp, _⟩
        · exact absurd e hne
        · obtain ⟨n, hw, _, _, hrest⟩ := parsePacket_ok_wireLen (c.withAllowed A) hf hp
          simp [parseBytesF, he, hpS, hp, takeAllowed, hv, hS', hw, takeAllowed_nil, stateAfter]
        · obtain ⟨n, hw, _, _, hrest⟩ := parsePacket_ok_wireLen (c.withAllowed A) hf hp
          have hre : rest.isEmpty = false := List.isEmpty_eq_false_iff.2 hr
          simp [parseBytesF, he, hpS, hp, hre, ih _ _ _ _ hrec, takeAllowed, hv, hS', hw, ← hrest, stateAfter,
            Outcome.cons]
        · simp [parseBytesF, he, hpS, hp, takeAllowed, hv, hS', wireLen, stateAfter]
        · obtain ⟨_, v', hb, ha⟩ := parsePacket_unallowed_inv hp
          have e : v' = v := by simpa [versionOf, hb] using hv
          have := hA v (versionOf_lt hv) hS
          rw [e] at ha
          simp only at ha
          rw [this] at ha
          cases ha

/-- **C12** for `parse_bytes` as modelled: under allowed set `S` the result is the all-allowed
    result cut before the first packet whose version word is not in `S`, and the final cache state
    is the state of the all-allowed run after exactly the reported packets. -/
theorem C12_filter (c : Config) (hf : c.t.framingOk = true) (S A : List Nat) (hA : AllowsAll A)
    (st stA : PState) (buf : Bytes) (pktsA : List Packet)
    (h : parseBytes (c.withAllowed A) st buf = (stA, .done pktsA)) :
    parseBytes (c.withAllowed S) st buf =
      (stateAfter (c.withAllowed A) (buf.length + 1) (takeAllowed (c.withAllowed A) S (buf.length + 1) buf pktsA).length st buf,
       .done (takeAllowed (c.withAllowed A) S (buf.length + 1) buf pktsA)) :=
  C12_filter_fuel c hf S A (hA.more S) _ _ _ _ _ h

/-- the same between any two allowed sets `S ⊆ A`: restricting the allowed set only cuts the result,
    before the first packet whose version word is in `A` but not in `S` -/
theorem C12_filter_more (c : Config) (hf : c.t.framingOk = true) (S A : List Nat) (hA : AllowsMore S A)
    (st stA : PState) (buf : Bytes) (pktsA : List Packet)
    (h : parseBytes (c.withAllowed A) st buf = (stA, .done pktsA)) :
    parseBytes (c.withAllowed S) st buf =
      (stateAfter (c.withAllowed A) (buf.length + 1) (takeAllowed (c.withAllowed A) S (buf.length + 1) buf pktsA).length st buf,
       .done (takeAllowed (c.withAllowed A) S (buf.length + 1) buf pktsA)) :=
  C12_filter_fuel c hf S A hA _ _ _ _ _ h

/-- the reported list is a prefix of the all-allowed list -/
theorem C12_prefix (c : Config) (hf : c.t.framingOk = true) (S A : List Nat) (hA : AllowsAll A)
    (st stA : PState) (buf : Bytes) (pktsA : List Packet)
    (h : parseBytes (c.withAllowed A) st buf = (stA, .done pktsA)) :
    ∃ stS pktsS, parseBytes (c.withAllowed S) st buf = (stS, .done pktsS) ∧ pktsS <+: pktsA :=
  ⟨_, _, C12_filter c hf S A hA st stA buf pktsA h, takeAllowed_prefix _ _ _ _ _⟩

/-- meaning of `stateAfter`: after as many steps as there are reported elements, the all-allowed
    run is in its final state; after none, in its initial state -/
theorem C12_stateAfter_all (c : Config) (st stA : PState) (buf : Bytes) (pkts : List Packet)
    (h : parseBytes c st buf = (stA, .done pkts)) :
    stateAfter c (buf.length + 1) pkts.length st buf = stA ∧ stateAfter c (buf.length + 1) 0 st buf = st :=
  ⟨stateAfter_length c _ _ _ _ _ h, stateAfter_zero c _ _ _⟩

/-- nothing was cut (every packet's version word is in `S`): same list, same final caches -/
theorem C12_nothing_cut (c : Config) (hf : c.t.framingOk = true) (S A : List Nat) (hA : AllowsAll A)
    (st stA : PState) (buf : Bytes) (pktsA : List Packet)
    (h : parseBytes (c.withAllowed A) st buf = (stA, .done pktsA))
    (hk : takeAllowed (c.withAllowed A) S (buf.length + 1) buf pktsA = pktsA) :
    parseBytes (c.withAllowed S) st buf = (stA, .done pktsA) := by
  rw [C12_filter c hf S A hA st stA buf pktsA h, hk, stateAfter_length _ _ _ _ _ _ h]

/-- the very first version word is not allowed: nothing is reported and the caches are untouched,
    whatever the all-allowed run would have done (including a template packet, a panic, an overflow) -/
theorem C12_first_unallowed (c : Config) (S : List Nat) (st : PState) (buf : Bytes) (v : Nat)
    (hv : versionOf buf = some v) (hS : S.contains v = false) :
    parseBytes (c.withAllowed S) st buf = (st, .done []) :=
  C06_disallowed_frame (c.withAllowed S) st buf v hv hS

/-- **C12, second sentence**: a version that is allowed but has no dispatch arm is reported as an
    `UnknownVersion` error carrying the bytes after the version word; remaining = the whole buffer;
    the caches are untouched -/
theorem C12_unknown_allowed (c : Config) (S : List Nat) (st : PState) (buf : Bytes) (v : Nat)
    (hv : versionOf buf = some v) (hS : S.contains v = true) (hd : c.t.dispatch.lookup v = none) :
    parseBytes (c.withAllowed S) st buf = (st, .done [.error (.unknownVersion (buf.drop 2)) buf]) :=
  parseBytes_done_iff.2 (.fail (versionOf_ne_nil hv) (parsePacket_unknown (versionOf_eq_some.1 hv) hS hd))

/-- the generated `match version` has arms for 5, 7, 9, 10 only -/
theorem C12_generated_dispatch (v : Nat) (h : v ∉ [5, 7, 9, 10]) : Generated.tables.dispatch.lookup v = none := by
  simp only [List.mem_cons, List.not_mem_nil, or_false, not_or] at h
  obtain ⟨h5, h7, h9, h10⟩ := h
  have e5 : (v == 5) = false := by simpa using h5
  have e7 : (v == 7) = false := by simpa using h7
  have e9 : (v == 9) = false := by simpa using h9
  have e10 : (v == 10) = false := by simpa using h10
  simp only [Generated.tables, Generated.dispatch, List.lookup, e5, e7, e9, e10]

/-- **C12** for the generated tables: every `S` (any subset of {5,7,9,10} plus arbitrary extra numbers),
    every all-allowing `A`, both feature settings, every cache state, every buffer. -/
theorem C12_generated (S A : List Nat) (hA : AllowsAll A) (uf : Bool) (st stA : PState) (buf : Bytes) (pktsA : List Packet)
    (h : parseBytes { t := Generated.tables, allowed := A, unknownFields := uf } st buf = (stA, .done pktsA)) :
    parseBytes { t := Generated.tables, allowed := S, unknownFields := uf } st buf =
      (stateAfter { t := Generated.tables, allowed := A, unknownFields := uf } (buf.length + 1)
         (takeAllowed { t := Generated.tables, allowed := A, unknownFields := uf } S (buf.length + 1) buf pktsA).length st buf,
       .done (takeAllowed { t := Generated.tables, allowed := A, unknownFields := uf } S (buf.length + 1) buf pktsA)) :=
  -- `withAllowed` overwrites the allowed set, so the `[]` passed here never shows
  C12_filter { t := Generated.tables, allowed := [], unknownFields := uf } C02_generated_framing S A hA st stA buf pktsA h

/-- an allowed version other than 5, 7, 9, 10 is an `UnknownVersion` error carrying the unparsed bytes -/
theorem C12_unknown_allowed_generated (S : List Nat) (uf : Bool) (st : PState) (buf : Bytes) (v : Nat)
    (hv : versionOf buf = some v) (hS : S.contains v = true) (h : v ∉ [5, 7, 9, 10]) :
    parseBytes { t := Generated.tables, allowed := S, unknownFields := uf } st buf =
      (st, .done [.error (.unknownVersion (buf.drop 2)) buf]) :=
  C12_unknown_allowed { t := Generated.tables, allowed := [], unknownFields := uf } S st buf v hv hS
    (C12_generated_dispatch v h)

/-- an all-allowing list exists -/
example : AllowsAll (List.range 65536) := allowsAll_range

/-- an empty V5 packet -/
def c12V5 : Bytes := [0,5, 0,0, 0,0,0,1, 0,0,0,2, 0,0,0,3, 0,0,0,4, 5, 6, 0,7]
/-- an empty V7 packet -/
def c12V7 : Bytes := [0,7, 0,0, 0,0,0,1, 0,0,0,2, 0,0,0,3, 0,0,0,4, 0,0,0,8]
/-- a V9 packet defining template 256 -/
def c12V9 : Bytes := [0,9, 0,1, 0,0,0,1, 0,0,0,2, 0,0,0,3, 0,0,0,4, 0,0, 0,12, 1,0, 0,1, 0,8, 0,4]

/-- the all-allowed run with the concrete all-allowing list, on a V5 packet followed by a V7 packet -/
example : parseBytes { t := Generated.tables, allowed := List.range 65536 } {} (c12V5 ++ c12V7) =
    ({}, .done [.v5 [5, 0, 1, 2, 3, 4, 5, 6, 7] [], .v7 [7, 0, 1, 2, 3, 4, 8] []]) := by
  -- evaluated under the allowed set `[5, 7]` and transported by `C12_step`: the kernel would
  -- otherwise build the 65536-element list once per packet
  have s1 := C12_step { t := Generated.tables, allowed := [] } [5, 7] (List.range 65536) allowsAll_range {}
    (c12V5 ++ c12V7) (fun v hv => by rw [show versionOf (c12V5 ++ c12V7) = some 5 by decide +kernel] at hv; cases hv; rfl)
  have s2 := C12_step { t := Generated.tables, allowed := [] } [5, 7] (List.range 65536) allowsAll_range {}
    c12V7 (fun v hv => by rw [show versionOf c12V7 = some 7 by decide +kernel] at hv; cases hv; rfl)
  have h1 : parsePacket { t := Generated.tables, allowed := [5, 7] } {} (c12V5 ++ c12V7) =
      ({}, .ok (.v5 [5, 0, 1, 2, 3, 4, 5, 6, 7] []) c12V7) := by decide +kernel
  have h2 : parsePacket { t := Generated.tables, allowed := [5, 7] } {} c12V7 =
      ({}, .ok (.v7 [7, 0, 1, 2, 3, 4, 8] []) []) := by decide +kernel
  exact parseBytes_done_iff.2 (.ok (s1.symm.trans h1) (.ok (s2.symm.trans h2) (.nil _)))

/-- S = [5] on a V5 packet followed by a V7 packet: only the V5 packet is reported … -/
example : (parseBytes { t := Generated.tables, allowed := [5] } {} (c12V5 ++ c12V7)).2 =
    .done [.v5 [5, 0, 1, 2, 3, 4, 5, 6, 7] []] := by decide +kernel
/-- … the run allowing both reports both … -/
example : (parseBytes { t := Generated.tables, allowed := [5, 7] } {} (c12V5 ++ c12V7)).2 =
    .done [.v5 [5, 0, 1, 2, 3, 4, 5, 6, 7] [], .v7 [7, 0, 1, 2, 3, 4, 8] []] := by decide +kernel
/-- … and `takeAllowed` cuts the latter to the former. -/
example : takeAllowed { t := Generated.tables, allowed := [5, 7] } [5] 49 (c12V5 ++ c12V7)
    [.v5 [5, 0, 1, 2, 3, 4, 5, 6, 7] [], .v7 [7, 0, 1, 2, 3, 4, 8] []] = [.v5 [5, 0, 1, 2, 3, 4, 5, 6, 7] []] := by decide +kernel

/-- a filtered V9 template packet (and the V5 packet behind it) leaves the caches untouched, while the
    run that allows version 9 learns the template -/
example : parseBytes { t := Generated.tables, allowed := [5] } {} (c12V5 ++ c12V9 ++ c12V5) =
    ({}, .done [.v5 [5, 0, 1, 2, 3, 4, 5, 6, 7] []]) := by decide +kernel
example : (parseBytes { t := Generated.tables, allowed := [5, 9] } {} (c12V5 ++ c12V9 ++ c12V5)).1 =
    { v9T := [(256, { id := 256, fieldCount := 1, fields := [{ typ := 8, len := 4 }] })] } := by decide +kernel
example : stateAfter { t := Generated.tables, allowed := [5, 9] } 81 1 {} (c12V5 ++ c12V9 ++ c12V5) = {} := by decide +kernel

/-- an allowed version 77 behind a V5 packet -/
example : parseBytes { t := Generated.tables, allowed := [5, 77] } {} (c12V5 ++ [0, 77, 1, 2, 3]) =
    ({}, .done [.v5 [5, 0, 1, 2, 3, 4, 5, 6, 7] [], .error (.unknownVersion [1, 2, 3]) [0, 77, 1, 2, 3]]) := by decide +kernel

end Netflow.Props
