/-
  Props/C13.lean — C13: the common-flow view (`as_netflow_common`,
  `parse_bytes_as_netflow_common_flowsets`) as a projection of what was decoded.
  Holds for V5/V7 except for the protocol NAME of numbers 0, 1, 144, 255; for V9 the shape (version,
  timestamp, one flow per data record in order) holds and every attribute agrees with the decoded
  field whenever that field was decoded as the kind the converter accepts — which the parser's own
  output violates for PROTOCOL and FIRST/LAST_SWITCHED (`…_fails`); for IPFIX version/timestamp hold
  but there is one "flow" per FIELD (`…_fails`).  The flattening helper is the in-order concatenation.
  The lemmas about `recGet` / `firstField` and about packets that the theorems need stand in front of them.
  The two statements everything else instantiates: `toCommon_of_origin` (the view of a packet the parser returned, by kind)
  and `toCommon_eq_spec_of_origin` (it equals the specified view on `commonViewGood` packets).
-/
import NetflowModel.Lemmas.CommonView
import NetflowModel.Generated
import NetflowModel.Lemmas.GenTables
import NetflowModel.Arms
namespace Netflow.Props
open Netflow Preds

/-- **C13, errors**: an error element converts to an error -/
theorem C13_errors (c : Config) (k : ErrKind) (r : Bytes) : toCommon c (.error k r) = none := rfl

/-- conversely only error elements convert to an error -/
theorem C13_errors_only (c : Config) (p : Packet) (h : toCommon c p = none) : ∃ k r, p = .error k r := by
  cases p <;> simp [toCommon] at h
  exact ⟨_, _, rfl⟩

/-- **C13**, the crate's helper `parse_bytes_as_netflow_common_flowsets`: it is the in-order concatenation of the
    flows of the common views of all non-error packets -/
theorem C13_flat (c : Config) (pkts : List Packet) :
    commonFlat c pkts = (pkts.filterMap (toCommon c)).flatMap (·.flows) := by
  induction pkts with
  | nil => rfl
  | cons p ps ih =>
    unfold commonFlat at ih ⊢
    rw [List.flatMap_cons, ih]
    cases h : toCommon c p with
    | none => simp [h]
    | some cm => simp [h]

theorem recGet_mem {r : Rec} {disc : Nat} {v : FieldValue} (h : recGet r disc = some v) :
    ∃ e ∈ r, e.2.1 = disc ∧ e.2.2 = v := by
  unfold recGet at h
  split at h
  · next e hf =>
    exact ⟨e, List.mem_reverse.1 (List.mem_of_find?_eq_some hf), by simpa using List.find?_some hf, by simpa using h⟩
  · cases h

theorem firstField_mem {r : Rec} {disc : Nat} {v : FieldValue} (h : firstField r disc = some v) :
    ∃ e ∈ r, e.2.1 = disc ∧ e.2.2 = v := by
  unfold firstField at h
  split at h
  · next e hf => exact ⟨e, List.mem_of_find?_eq_some hf, by simpa using List.find?_some hf, by simpa using h⟩
  · cases h

theorem firstField_eq_none {r : Rec} {disc : Nat} (h : firstField r disc = none) : ∀ e ∈ r, e.2.1 ≠ disc := by
  unfold firstField at h
  split at h
  · cases h
  · next hf => exact fun e he => by simpa using List.find?_eq_none.1 hf e he

/-- a record has the field (some entry carries the discriminant) iff `recGet` finds it -/
theorem C13_recGet_none_iff (r : Rec) (disc : Nat) : recGet r disc = none ↔ ∀ e ∈ r, e.2.1 ≠ disc := by
  unfold recGet
  split
  · next e hf =>
    simp only [reduceCtorEq, false_iff]
    exact fun hall => hall e (List.mem_reverse.1 (List.mem_of_find?_eq_some hf)) (by simpa using List.find?_some hf)
  · next hf =>
    simp only [true_iff]
    exact fun e he => by simpa using List.find?_eq_none.1 hf e (List.mem_reverse.2 he)

/-- without a duplicate among the projected keys, last-wins and first-wins agree on each of them -/
theorem recGet_eq_firstField_of_noDup {k : CommonKeys} {r : Rec} (hd : dupKeys k r = false) {key : Nat}
    (hm : key ∈ [k.src4, k.src6, k.dst4, k.dst6, k.sport, k.dport, k.proto, k.first, k.last, k.smac, k.dmac]) :
    recGet r key = firstField r key :=
  recGet_eq_firstField r key (dupKeys_false hd key hm)

/-- a protocol number decoded as a `U8` byte off `badProtos`: `From<u8>` names it as IANA does -/
theorem protoName_of_good {t : Tables} {names : List (Nat × String)} (ht : ProtoTableOk t names) {v : FieldValue}
    (hg : (match v with | .num (.u8 n) => decide (n < 256) && !badProtos.contains n | _ => true) = true)
    (h8 : isU8 v = true) :
    (asU8 v).map t.protoFromU8 = (protoNumOf t v).map (Spec.protoSpecDisc names) := by
  cases v with
  | num d =>
    cases d with
    | u8 n =>
      simp only [Bool.and_eq_true, decide_eq_true_eq, Bool.not_eq_true', List.contains_eq_mem, decide_eq_false_iff_not] at hg
      simp [asU8, protoNumOf, numOf, ht n hg.1 hg.2]
    | _ => simp [isU8] at h8
  | _ => simp [isU8] at h8

/-- **C13, one template-described record** — PARTIAL (needs: no projected key twice; for the
    conditional attributes, the decoded value has the kind the converter accepts).  Every attribute of
    the common flow equals the corresponding decoded field:
    addresses (IPv4 before IPv6) and MACs always; ports when the field is absent or a `U16`; protocol
    number when absent or a `U8`; first/last seen when absent or a `U32`; the protocol name when the
    number is a `U8` byte off `badProtos`. -/
theorem C13_rec_partial (t : Tables) (names : List (Nat × String)) (k : CommonKeys) (r : Rec)
    (hd : dupKeys k r = false) :
    let cf := commonOfRec t.protoFromU8 k r
    let sf := specFlow t names k r
    cf.srcAddr = sf.srcAddr ∧ cf.dstAddr = sf.dstAddr ∧ cf.srcMac = sf.srcMac ∧ cf.dstMac = sf.dstMac ∧
    ((firstField r k.sport).all isU16 = true → cf.srcPort = sf.srcPort) ∧
    ((firstField r k.dport).all isU16 = true → cf.dstPort = sf.dstPort) ∧
    ((firstField r k.proto).all isU8 = true → cf.protoNum = sf.protoNum) ∧
    ((firstField r k.first).all isU32 = true → cf.first = sf.first) ∧
    ((firstField r k.last).all isU32 = true → cf.last = sf.last) ∧
    ((firstField r k.proto).all isU8 = true → protoGood k r = true → ProtoTableOk t names → cf.protoType = sf.protoType) := by
  simp (disch := simp) only [commonOfRec, specFlow, recGet_eq_firstField_of_noDup hd, ip_orElse_eq]
  refine ⟨?_, ?_, trivial, trivial, ?_, ?_, ?_, ?_, ?_, ?_⟩
  · cases firstField r k.src4 <;> rfl
  · cases firstField r k.dst4 <;> rfl
  · exact bind_congr_of_all (fun _ h => asU16_eq_of_isU16 h)
  · exact bind_congr_of_all (fun _ h => asU16_eq_of_isU16 h)
  · exact bind_congr_of_all (fun _ h => asU8_eq_of_isU8 h)
  · exact bind_congr_of_all (fun _ h => asU32_eq_of_isU32 h)
  · exact bind_congr_of_all (fun _ h => asU32_eq_of_isU32 h)
  · intro h8 hg ht
    unfold protoGood at hg
    cases hv : firstField r k.proto with
    | none => rfl
    | some v => rw [hv] at h8 hg; exact protoName_of_good ht hg h8

/-- an attribute whose field the record does not have is absent from the common flow -/
theorem C13_rec_absent (proto : Nat → Nat) (k : CommonKeys) (r : Rec) :
    let cf := commonOfRec proto k r
    (recGet r k.src4 = none → recGet r k.src6 = none → cf.srcAddr = none) ∧
    (recGet r k.dst4 = none → recGet r k.dst6 = none → cf.dstAddr = none) ∧
    (recGet r k.sport = none → cf.srcPort = none) ∧ (recGet r k.dport = none → cf.dstPort = none) ∧
    (recGet r k.proto = none → cf.protoNum = none ∧ cf.protoType = none) ∧
    (recGet r k.first = none → cf.first = none) ∧ (recGet r k.last = none → cf.last = none) ∧
    (recGet r k.smac = none → cf.srcMac = none) ∧ (recGet r k.dmac = none → cf.dstMac = none) := by
  simp only [commonOfRec]
  refine ⟨?_, ?_, ?_, ?_, ?_, ?_, ?_, ?_, ?_⟩ <;> intros <;> simp_all


/-- **C13, one record, all attributes** — PARTIAL: the common flow IS the specified flow when no
    projected key occurs twice, every present scalar field has the accepted kind and the protocol
    number is off `badProtos`. -/
theorem C13_rec_eq_partial (t : Tables) (names : List (Nat × String)) (ht : ProtoTableOk t names) (k : CommonKeys) (r : Rec)
    (hd : dupKeys k r = false) (hk : kindsAccepted k r = true) (hg : protoGood k r = true) :
    commonOfRec t.protoFromU8 k r = specFlow t names k r := by
  simp only [kindsAccepted, Bool.and_eq_true, and_assoc] at hk
  obtain ⟨k1, k2, k3, k4, k5⟩ := hk
  obtain ⟨a1, a2, a3, a4, a5, a6, a7, a8, a9, a10⟩ := C13_rec_partial t names k r hd
  cases hc : commonOfRec t.protoFromU8 k r
  cases hs : specFlow t names k r
  simp only [hc, hs] at a1 a2 a3 a4 a5 a6 a7 a8 a9 a10
  rw [CommonFlow.mk.injEq]
  exact ⟨a1, a2, a5 k1, a6 k2, a7 k3, a10 k3 hg ht, a8 k4, a9 k5, a3, a4⟩

theorem commonLayoutOk_iff (t : Tables) : t.commonLayoutOk = true ↔
    t.v5Hdr.kindOf "version" = some (.const 5) ∧ t.v7Hdr.kindOf "version" = some (.const 7) ∧
    t.v9Hdr.kindOf "version" = some (.const 9) ∧ t.ipHdr.kindOf "version" = some (.const 10) ∧
    fixedRecOk t.v5Rec = true ∧ fixedRecOk t.v7Rec = true ∧
    t.commonV9.ts = "sys_up_time" ∧ t.commonIp.ts = "export_time" := by
  simp only [Tables.commonLayoutOk, Bool.and_eq_true, beq_iff_eq, and_assoc]

/-- **C13, shape**: a packet returned by the parser converts to its version number, the header field the
    specification names as timestamp, and one flow per V5/V7 record, per V9 data record, per IPFIX per-field map, in order -/
theorem toCommon_of_origin {c : Config} {p : Packet} (hl : c.t.commonLayoutOk = true) (ho : PacketOrigin c p) :
    toCommon c p =
      match p with
      | .v5 h rs => some { version := 5, timestamp := c.t.v5Hdr.get "sys_up_time" h, flows := rs.map (commonOfFixed c.t.v5Rec) }
      | .v7 h rs => some { version := 7, timestamp := c.t.v7Hdr.get "sys_up_time" h, flows := rs.map (commonOfFixed c.t.v7Rec) }
      | .v9 h ss => some { version := 9, timestamp := c.t.v9Hdr.get "sys_up_time" h,
                           flows := (v9DataRecs ss).map (commonOfRec c.t.protoFromU8 c.t.commonV9) }
      | .ipfix h ss => some { version := 10, timestamp := c.t.ipHdr.get "export_time" h,
                              flows := (ipDataRecs ss).map (commonOfRec c.t.protoFromU8 c.t.commonIp) }
      | .error _ _ => none := by
  obtain ⟨h5, h7, h9, h10, _, _, t9, t10⟩ := (commonLayoutOk_iff _).1 hl
  cases ho with
  | v5 h rs i r hf =>
    obtain ⟨⟨r1, hh⟩, _⟩ := parseFixed_parts _ _ _ _ _ _ _ hf
    simp only [toCommon, parseLayout_const hh h5]
  | v7 h rs i r hf =>
    obtain ⟨⟨r1, hh⟩, _⟩ := parseFixed_parts _ _ _ _ _ _ _ hf
    simp only [toCommon, parseLayout_const hh h7]
  | v9 h ss i r hh => simp only [toCommon, parseLayout_const hh h9, t9]
  | ipfix h ss i r hh => simp only [toCommon, parseLayout_const hh h10, t10]

/-- **C13, V5 / V7 records**, unconditional part: each flow of a fixed-format packet equals the specified flow in every
    attribute except that the protocol name is `From<u8>` of the protocol number (a byte). -/
theorem C13_fixed_flows (c : Config) (names : List (Nat × String)) {hdr lay : Layout} (hr : fixedRecOk lay = true)
    {i r : Bytes} {h : List Nat} {rs : List (List Nat)} (hf : parseFixed c hdr lay i = some ((h, rs), r)) :
    rs.map (commonOfFixed lay) =
      rs.map (fun x => { specFixedFlow names lay x with protoType := some (c.t.protoFromU8 (lay.get "protocol_number" x)) }) ∧
    ∀ x ∈ rs, lay.get "protocol_number" x < 256 := by
  obtain ⟨_, hrs⟩ := parseFixed_parts _ _ _ _ _ _ _ hf
  refine ⟨List.map_congr_left fun x hx => ?_, fun x hx => ?_⟩
  · obtain ⟨i', r', hx'⟩ := hrs x hx
    exact (commonOfFixed_eq _ names _ hr _ _ _ hx').1
  · obtain ⟨i', r', hx'⟩ := hrs x hx
    exact (commonOfFixed_eq c.t.protoFromU8 names _ hr _ _ _ hx').2

/-- packets on which the view is specified AND delivered: V5/V7 records with protocol numbers off
    `badProtos`; V9 data records whose present scalar projected fields have the accepted kinds;
    IPFIX messages without decoded data records; errors -/
def commonViewGood (c : Config) : Packet → Bool
  | .v5 _ rs => rs.all fun r => !badProtos.contains (c.t.v5Rec.get "protocol_number" r)
  | .v7 _ rs => rs.all fun r => !badProtos.contains (c.t.v7Rec.get "protocol_number" r)
  | .v9 _ ss => (v9DataRecs ss).all fun r => kindsAccepted c.t.commonV9 r && protoGood c.t.commonV9 r
  | .ipfix _ ss => (ipDataRecs ss).isEmpty
  | .error _ _ => true

/-- **C13** — PARTIAL (protocol numbers 0, 1, 144, 255 excluded for V5/V7, see `C13_fixed_fails`; accepted kinds only for
    V9, see `C13_v9_fails`; no data record for IPFIX, see `C13_ipfix_fails`): a packet returned by the parser, free of
    duplicate projected keys, has exactly the specified common view. -/
theorem toCommon_eq_spec_of_origin {c : Config} {p : Packet} (hl : c.t.commonLayoutOk = true) {names : List (Nat × String)}
    (ht : ProtoTableOk c.t names) (ho : PacketOrigin c p) (hd : pktHasDupKeys c p = false) (hg : commonViewGood c p = true) :
    toCommon c p = specCommon c names p := by
  have fixed {hdr lay : Layout} {i r : Bytes} {h : List Nat} {rs : List (List Nat)} (hr : fixedRecOk lay = true)
      (hf : parseFixed c hdr lay i = some ((h, rs), r)) (hgood : ∀ x ∈ rs, lay.get "protocol_number" x ∉ badProtos) :
      rs.map (commonOfFixed lay) = rs.map (specFixedFlow names lay) := by
    obtain ⟨e, hlt⟩ := C13_fixed_flows c names hr hf
    rw [e]
    exact List.map_congr_left fun x hx => by rw [ht _ (hlt x hx) (hgood x hx)]; rfl
  rw [toCommon_of_origin hl ho]
  obtain ⟨_, _, _, _, r5, r7, _, _⟩ := (commonLayoutOk_iff _).1 hl
  cases ho with
  | v5 h rs i r hf =>
    simp only [commonViewGood, List.all_eq_true, Bool.not_eq_true', List.contains_eq_mem, decide_eq_false_iff_not] at hg
    simp only [specCommon, fixed r5 hf hg]
  | v7 h rs i r hf =>
    simp only [commonViewGood, List.all_eq_true, Bool.not_eq_true', List.contains_eq_mem, decide_eq_false_iff_not] at hg
    simp only [specCommon, fixed r7 hf hg]
  | v9 h ss i r hh =>
    simp only [commonViewGood, List.all_eq_true, Bool.and_eq_true] at hg
    simp only [pktHasDupKeys, List.any_eq_false, Bool.not_eq_true] at hd
    simp only [specCommon, Option.some.injEq, Common.mk.injEq, true_and]
    exact List.map_congr_left fun x hx => C13_rec_eq_partial c.t names ht _ x (hd x hx) (hg x hx).1 (hg x hx).2
  | ipfix h ss i r hh =>
    simp only [commonViewGood, List.isEmpty_iff] at hg
    simp only [specCommon, hg, regroup, List.map_nil, List.reverse_nil]

/-- **C13, V9, shape**: a V9 packet returned by the parser converts to version 9, its `sys_up_time`
    and exactly one flow per data record, in order — the same shape as the specified view, whose
    i-th flow is `specFlow` of the same i-th record. -/
theorem C13_v9_shape (c : Config) (hl : c.t.commonLayoutOk = true) (names : List (Nat × String))
    (st st' : PState) (buf : Bytes) (h : List Nat) (ss : List V9Set) (rest : Bytes)
    (hp : parsePacket c st buf = (st', .ok (.v9 h ss) rest)) :
    toCommon c (.v9 h ss) = some
      { version := 9, timestamp := c.t.v9Hdr.get "sys_up_time" h,
        flows := (v9DataRecs ss).map (commonOfRec c.t.protoFromU8 c.t.commonV9) } ∧
    specCommon c names (.v9 h ss) = some
      { version := 9, timestamp := c.t.v9Hdr.get "sys_up_time" h,
        flows := (v9DataRecs ss).map (specFlow c.t names c.t.commonV9) } :=
  ⟨toCommon_of_origin hl (parsePacket_origin _ _ _ _ _ _ hp), rfl⟩

/-- **C13, V9** — PARTIAL: the common view of a V9 packet equals the specified view when every data
    record is free of duplicate projected keys, all its present scalar projected fields were decoded
    as the kinds the converters accept, and protocol numbers are off `badProtos`.  The parser's own
    output violates the kind condition whenever a template contains PROTOCOL or FIRST/LAST_SWITCHED
    (`C13_v9_fails`). -/
theorem C13_v9_partial (c : Config) (hl : c.t.commonLayoutOk = true) (names : List (Nat × String))
    (ht : ProtoTableOk c.t names)
    (st st' : PState) (buf : Bytes) (h : List Nat) (ss : List V9Set) (rest : Bytes)
    (hp : parsePacket c st buf = (st', .ok (.v9 h ss) rest))
    (hd : pktHasDupKeys c (.v9 h ss) = false)
    (hk : ∀ r ∈ v9DataRecs ss, kindsAccepted c.t.commonV9 r = true ∧ protoGood c.t.commonV9 r = true) :
    toCommon c (.v9 h ss) = specCommon c names (.v9 h ss) :=
  toCommon_eq_spec_of_origin hl ht (parsePacket_origin _ _ _ _ _ _ hp) hd
    (by simpa only [commonViewGood, List.all_eq_true, Bool.and_eq_true] using hk)

/-- number of flows = number of data records, flow `i` is the projection of record `i` -/
theorem C13_v9_flows (c : Config) (h : List Nat) (ss : List V9Set) :
    ∃ cm, toCommon c (.v9 h ss) = some cm ∧ cm.flows.length = (v9DataRecs ss).length ∧
      ∀ i (hi : i < (v9DataRecs ss).length),
        cm.flows[i]? = some (commonOfRec c.t.protoFromU8 c.t.commonV9 ((v9DataRecs ss)[i])) := by
  refine ⟨_, rfl, by simp, ?_⟩
  intro i hi
  simp [hi]

/-- **C13, IPFIX** — PARTIAL (only version, timestamp and the NUMBER of flows are established; the
    flows themselves are wrong, `C13_ipfix_fails`): an IPFIX message returned by the parser converts
    to version 10, its `export_time`, and one "flow" per decoded per-field map. -/
theorem C13_ipfix_partial (c : Config) (hl : c.t.commonLayoutOk = true) (names : List (Nat × String))
    (st st' : PState) (buf : Bytes) (h : List Nat) (ss : List IpSet) (rest : Bytes)
    (hp : parsePacket c st buf = (st', .ok (.ipfix h ss) rest)) :
    ∃ cm sm, toCommon c (.ipfix h ss) = some cm ∧ specCommon c names (.ipfix h ss) = some sm ∧
      cm.version = 10 ∧ sm.version = 10 ∧ cm.timestamp = c.t.ipHdr.get "export_time" h ∧ sm.timestamp = cm.timestamp ∧
      cm.flows = (ipDataRecs ss).map (commonOfRec c.t.protoFromU8 c.t.commonIp) ∧
      cm.flows.length = (ipDataRecs ss).length :=
  ⟨_, _, toCommon_of_origin hl (parsePacket_origin _ _ _ _ _ _ hp), rfl, rfl, rfl, rfl, rfl, rfl, by simp⟩

/-- **C13, V5 and V7** — PARTIAL (protocol numbers 0, 1, 144, 255 excluded, see `C13_fixed_fails`):
    a fixed-format packet returned by the parser has exactly the specified common view. -/
theorem C13_fixed_partial (c : Config) (hl : c.t.commonLayoutOk = true) (names : List (Nat × String))
    (ht : ProtoTableOk c.t names) (st st' : PState) (buf : Bytes) (p : Packet) (rest : Bytes)
    (hp : parsePacket c st buf = (st', .ok p rest)) (hfix : isFixedPkt p = true) (hg : commonViewGood c p = true) :
    toCommon c p = specCommon c names p :=
  toCommon_eq_spec_of_origin hl ht (parsePacket_origin _ _ _ _ _ _ hp) (by cases p <;> first | rfl | cases hfix) hg

theorem c13_zip_map_all {α β : Type} (f : α → β) (g : α × β → Bool) :
    ∀ (l : List α), (l.zip (l.map f)).all g = l.all fun a => g (a, f a) := by
  intro l
  induction l with
  | nil => rfl
  | cons a l ih => simp [ih]

/-- **C13 as checked by the oracle** — PARTIAL (restricted to `commonViewGood` packets): converting every
    element of a `parse_bytes` result yields the specified views. -/
theorem C13_commonOk_partial (c : Config) (hl : c.t.commonLayoutOk = true) (names : List (Nat × String))
    (ht : ProtoTableOk c.t names) (st st' : PState) (buf : Bytes) (pkts : List Packet)
    (h : parseBytes c st buf = (st', .done pkts)) (hg : ∀ p ∈ pkts, commonViewGood c p = true) :
    commonOk c names pkts (pkts.map (toCommon c)) = true := by
  unfold commonOk
  rw [c13_zip_map_all]
  simp only [List.length_map, beq_self_eq_true, Bool.true_and, List.all_eq_true, Bool.or_eq_true, beq_iff_eq]
  intro p hp
  by_cases hdup : pktHasDupKeys c p = true
  · exact Or.inl hdup
  · rcases parseBytesF_origin c _ _ _ _ _ h p hp with ⟨k, r, e⟩ | ho
    · subst e; exact Or.inr rfl
    · exact Or.inr (toCommon_eq_spec_of_origin hl ht ho (by simpa using hdup) (hg p hp)).symm


theorem C13_generated_layout : Generated.tables.commonLayoutOk = true := by decide +kernel

/-- off 0, 1, 144, 255 the generated `From<u8> for ProtocolTypes` yields the variant carrying the IANA name -/
theorem C13_generated_protoTable : ProtoTableOk Generated.tables Generated.protoNames :=
  fun n hn hb => by rw [protoFromU8_generated hb, protoSpecDisc_generated n]

/-- the configuration the crate ships: generated tables, default allowed set -/
def c13Cfg : Config := { t := Generated.tables, allowed := Generated.defaultAllowed }

/-- **C13** for the generated tables, on `commonViewGood` results (any allowed set, both feature settings) -/
theorem C13_generated_partial (allowed : List Nat) (uf : Bool) (st st' : PState) (buf : Bytes) (pkts : List Packet)
    (h : parseBytes { t := Generated.tables, allowed := allowed, unknownFields := uf } st buf = (st', .done pkts))
    (hg : ∀ p ∈ pkts, commonViewGood { t := Generated.tables, allowed := allowed, unknownFields := uf } p = true) :
    commonOk { t := Generated.tables, allowed := allowed, unknownFields := uf } Generated.protoNames pkts
      (pkts.map (toCommon { t := Generated.tables, allowed := allowed, unknownFields := uf })) = true :=
  C13_commonOk_partial { t := Generated.tables, allowed := allowed, unknownFields := uf } C13_generated_layout _
    C13_generated_protoTable _ _ _ _ h hg

/-- a V5 packet with one record carrying protocol number `p` -/
def c13V5one (p : UInt8) : Bytes :=
  [0,5, 0,1, 0,0,0,1, 0,0,0,2, 0,0,0,3, 0,0,0,4, 5, 6, 0,7,
   10,0,0,1, 10,0,0,2, 0,0,0,0, 0,1, 0,2, 0,0,0,3, 0,0,0,4, 0,0,0,5, 0,0,0,6, 0,80, 1,187, 0, 0, p, 0, 0,1, 0,2, 24, 24, 0,0]
/-- its decoded record: protocol number `p`, protocol name discriminant `q` -/
def c13V5rec (p q : Nat) : List Nat := [167772161, 167772162, 0, 1, 2, 3, 4, 5, 6, 80, 443, 0, 0, p, q, 0, 1, 2, 24, 24, 0]
def c13V5hdr : List Nat := [5, 1, 1, 2, 3, 4, 5, 6, 7]

/-- **C13 fails for V5/V7 protocol names** 0, 1, 144, 255: the parser decodes the packets below, and
    the common view's protocol name (`Unknown`=145, `Hopopt`=0, `Reserved`=255, `Unknown`=145) is not the
    IANA name of the number (`Hopopt`=0, `Icmp`=1, `Aggfrag`=144, `Reserved`=255). -/
theorem C13_fixed_fails :
    (parsePacket c13Cfg {} (c13V5one 0) = ({}, .ok (.v5 c13V5hdr [c13V5rec 0 145]) []) ∧
      toCommon c13Cfg (.v5 c13V5hdr [c13V5rec 0 145]) ≠ specCommon c13Cfg Generated.protoNames (.v5 c13V5hdr [c13V5rec 0 145])) ∧
    (parsePacket c13Cfg {} (c13V5one 1) = ({}, .ok (.v5 c13V5hdr [c13V5rec 1 0]) []) ∧
      toCommon c13Cfg (.v5 c13V5hdr [c13V5rec 1 0]) ≠ specCommon c13Cfg Generated.protoNames (.v5 c13V5hdr [c13V5rec 1 0])) ∧
    (parsePacket c13Cfg {} (c13V5one 144) = ({}, .ok (.v5 c13V5hdr [c13V5rec 144 255]) []) ∧
      toCommon c13Cfg (.v5 c13V5hdr [c13V5rec 144 255]) ≠ specCommon c13Cfg Generated.protoNames (.v5 c13V5hdr [c13V5rec 144 255])) ∧
    (parsePacket c13Cfg {} (c13V5one 255) = ({}, .ok (.v5 c13V5hdr [c13V5rec 255 145]) []) ∧
      toCommon c13Cfg (.v5 c13V5hdr [c13V5rec 255 145]) ≠ specCommon c13Cfg Generated.protoNames (.v5 c13V5hdr [c13V5rec 255 145])) := by
  decide +kernel

/-- the four numbers are exactly where the table deviates -/
theorem C13_fixed_fails_table : ∀ n ∈ badProtos,
    Generated.tables.protoFromU8 n ≠ Spec.protoSpecDisc Generated.protoNames n := by
  have : ∀ n ∈ badProtos, Generated.tables.protoFromU8 n ≠ ianaDisc n := by unfold badProtos; decide +kernel
  exact fun n hn h => this n hn (h.trans (protoSpecDisc_generated n))

/-- a V9 packet: template 256 = (PROTOCOL/1, FIRST_SWITCHED/4, L4_SRC_PORT/2), then one data record -/
def c13V9 : Bytes :=
  [0,9, 0,2, 0,0,0,1, 0,0,0,2, 0,0,0,3, 0,0,0,4,
   0,0, 0,20, 1,0, 0,3, 0,4, 0,1, 0,22, 0,4, 0,7, 0,2,
   1,0, 0,11, 6, 0,0,3,232, 0,80]
/-- the record the parser decodes from it: protocol as `ProtocolTypes`, first-seen as `Duration` -/
def c13V9rec : Rec := [(0, 4, .proto 6), (1, 22, .dur 1 0), (2, 7, .num (.u16 80))]

def c13V9tmpl : V9Template :=
  { id := 256, fieldCount := 3, fields := [{ typ := 4, len := 1 }, { typ := 22, len := 4 }, { typ := 7, len := 2 }] }
def c13V9pkt : Packet :=
  .v9 [9, 2, 1, 2, 3, 4]
    [{ id := 0, len := 20, body := .templates [c13V9tmpl] [] }, { id := 256, len := 11, body := .data [c13V9rec] [] }]

/-- **C13 fails for V9 protocol and first/last seen**: the record decoded by the parser carries
    protocol 6 and first-seen 1000 ms, the specified flow has them, the common flow has neither
    (the converters accept only `DataNumber::U8` / `U32`, the parser produces `ProtocolType` /
    `Duration`); the port, decoded as `U16`, survives. -/
theorem C13_v9_fails :
    parseBytes c13Cfg {} c13V9 = ({ v9T := [(256, c13V9tmpl)] }, .done [c13V9pkt]) ∧
    (specFlow Generated.tables Generated.protoNames Generated.commonV9 c13V9rec).protoNum = some 6 ∧
    (commonOfRec Generated.tables.protoFromU8 Generated.commonV9 c13V9rec).protoNum = none ∧
    (specFlow Generated.tables Generated.protoNames Generated.commonV9 c13V9rec).protoType = some 6 ∧
    (commonOfRec Generated.tables.protoFromU8 Generated.commonV9 c13V9rec).protoType = none ∧
    (specFlow Generated.tables Generated.protoNames Generated.commonV9 c13V9rec).first = some 1000 ∧
    (commonOfRec Generated.tables.protoFromU8 Generated.commonV9 c13V9rec).first = none ∧
    (commonOfRec Generated.tables.protoFromU8 Generated.commonV9 c13V9rec).srcPort = some 80 ∧
    pktHasDupKeys c13Cfg c13V9pkt = false ∧
    toCommon c13Cfg c13V9pkt ≠ specCommon c13Cfg Generated.protoNames c13V9pkt := by
  decide +kernel

/-- an IPFIX message: template 256 = (sourceIPv4Address/4, destinationIPv4Address/4), one data record -/
def c13Ipfix : Bytes :=
  [0,10, 0,44, 0,0,0,1, 0,0,0,2, 0,0,0,3,
   0,2, 0,16, 1,0, 0,2, 0,8, 0,4, 0,12, 0,4,
   1,0, 0,12, 10,0,0,1, 10,0,0,2]
def c13IpfixTmpl : IpTemplate :=
  { id := 256, fieldCount := 2, fields := [{ typ := 8, len := 4, ent := none }, { typ := 12, len := 4, ent := none }], pad := [] }
def c13IpfixPkt : Packet :=
  .ipfix [10, 44, 1, 2, 3]
    [{ id := 2, len := 16, body := .template c13IpfixTmpl },
     { id := 256, len := 12, body := .data [[(0, 8, .ip4 167772161)], [(1, 12, .ip4 167772162)]] [] }]

/-- **C13 fails for IPFIX**: one record of two fields converts to TWO flows (one per field, each
    with a single attribute) where the specified view has ONE flow carrying both addresses. -/
theorem C13_ipfix_fails :
    parseBytes c13Cfg {} c13Ipfix = ({ ipT := [(256, c13IpfixTmpl)] }, .done [c13IpfixPkt]) ∧
    ((toCommon c13Cfg c13IpfixPkt).map (·.flows.length)) = some 2 ∧
    ((specCommon c13Cfg Generated.protoNames c13IpfixPkt).map (·.flows.length)) = some 1 ∧
    pktHasDupKeys c13Cfg c13IpfixPkt = false ∧
    toCommon c13Cfg c13IpfixPkt ≠ specCommon c13Cfg Generated.protoNames c13IpfixPkt := by
  decide +kernel

/-- the full-strength property: on every `parse_bytes` result of the shipped configuration, the
    converted views are the specified ones (up to packets with duplicate projected keys) -/
def C13_full : Prop :=
  ∀ (st st' : PState) (buf : Bytes) (pkts : List Packet),
    parseBytes c13Cfg st buf = (st', .done pkts) →
    commonOk c13Cfg Generated.protoNames pkts (pkts.map (toCommon c13Cfg)) = true

/-- **C13 is false of the model** (hence, by correspondence, of the crate): the IPFIX message above -/
theorem C13_full_fails : ¬ C13_full := by
  intro h
  have := h _ _ _ _ C13_ipfix_fails.1
  revert this
  decide +kernel

/-- `C13_fixed_partial`: a V5 packet with a TCP record is returned by the parser and its
    protocol number is off `badProtos` -/
example : parsePacket c13Cfg {} (c13V5one 6) = ({}, .ok (.v5 c13V5hdr [c13V5rec 6 6]) []) ∧
    (∀ r ∈ [c13V5rec 6 6], c13Cfg.t.v5Rec.get "protocol_number" r ∉ badProtos) ∧
    toCommon c13Cfg (.v5 c13V5hdr [c13V5rec 6 6]) = specCommon c13Cfg Generated.protoNames (.v5 c13V5hdr [c13V5rec 6 6]) := by
  decide +kernel

/-- `C13_rec_partial` / `C13_rec_eq_partial`: a record with addresses, ports (`U16`) and a protocol
    decoded as `U8` (the shape the IPFIX decoder yields for `protocolIdentifier`) meets all hypotheses -/
example :
    let r : Rec := [(0, 8, .ip4 1), (1, 12, .ip4 2), (2, 7, .num (.u16 80)), (3, 11, .num (.u16 443)), (4, 4, .num (.u8 6))]
    dupKeys Generated.commonV9 r = false ∧ kindsAccepted Generated.commonV9 r = true ∧ protoGood Generated.commonV9 r = true ∧
    (commonOfRec Generated.tables.protoFromU8 Generated.commonV9 r).protoNum = some 6 := by
  decide +kernel

/-- `C13_v9_shape` / `C13_v9_partial`: a V9 packet (template of address + port, one record) returned by
    the parser whose records meet the kind condition; the views agree -/
example :
    parsePacket c13Cfg {}
      [0,9, 0,2, 0,0,0,1, 0,0,0,2, 0,0,0,3, 0,0,0,4, 0,0, 0,16, 1,0, 0,2, 0,8, 0,4, 0,7, 0,2, 1,0, 0,10, 10,0,0,1, 0,80] =
      ({ v9T := [(256, { id := 256, fieldCount := 2, fields := [{ typ := 8, len := 4 }, { typ := 7, len := 2 }] })] },
       .ok (.v9 [9, 2, 1, 2, 3, 4]
              [{ id := 0, len := 16, body := .templates [{ id := 256, fieldCount := 2, fields := [{ typ := 8, len := 4 }, { typ := 7, len := 2 }] }] [] },
               { id := 256, len := 10, body := .data [[(0, 8, .ip4 167772161), (1, 7, .num (.u16 80))]] [] }]) []) ∧
    (∀ r ∈ [([(0, 8, .ip4 167772161), (1, 7, .num (.u16 80))] : Rec)],
      dupKeys Generated.commonV9 r = false ∧ kindsAccepted Generated.commonV9 r = true ∧ protoGood Generated.commonV9 r = true) := by
  decide +kernel

/-- `C13_ipfix_partial`: the message of `C13_ipfix_fails` is returned by the parser -/
example : parsePacket c13Cfg {} c13Ipfix = ({ ipT := [(256, c13IpfixTmpl)] }, .ok c13IpfixPkt []) := by decide +kernel

/-- `C13_commonOk_partial`: a buffer of two V5 packets, all `commonViewGood` -/
example : ∃ st' pkts, parseBytes c13Cfg {} (c13V5one 6 ++ c13V5one 17) = (st', .done pkts) ∧
    pkts.length = 2 ∧ ∀ p ∈ pkts, commonViewGood c13Cfg p = true :=
  ⟨{}, [.v5 c13V5hdr [c13V5rec 6 6], .v5 c13V5hdr [c13V5rec 17 17]], by decide +kernel, rfl, by decide +kernel⟩

/-- the library declares no mutable global or per-thread state (read from the source on every run), so the common view is a
    function of the decoded packet alone, as the model has it -/
theorem C13_no_global_state : Generated.noGlobals = true := generated_noGlobals


/-- **C13** the conversions the common view applies to decoded values — `impl_try_from!` pairs,
    `TryFrom<&FieldValue> for String` / `for IpAddr`, and the `Option<T>` types of `NetflowCommonFlowSet` that select them — as
    regenerated from the source are the ones `commonOfRec` models (`asU8`, `asU16`, `asU32`, `asString`, `asIp`). -/
theorem C13_conversions_generated (v : FieldValue) :
    (asU8 v).map Int.ofNat = convNumBy Generated.convNumArms "u8" v ∧
    (asU16 v).map Int.ofNat = convNumBy Generated.convNumArms "u16" v ∧
    (asU32 v).map Int.ofNat = convNumBy Generated.convNumArms "u32" v ∧
    asString v = convStringBy Generated.convStringTags v ∧
    asIp v = convIpBy Generated.convIpTags v := by
  cases v with
  | num d => cases d <;> exact ⟨rfl, rfl, rfl, rfl, rfl⟩
  | _ => exact ⟨rfl, rfl, rfl, rfl, rfl⟩

/-- the attribute names and Rust types of `NetflowCommonFlowSet`, as regenerated from the source, are the ones `CommonFlow` models -/
theorem C13_flow_types_generated :
    Generated.commonFlowTypes =
      [("src_addr", "IpAddr"), ("dst_addr", "IpAddr"), ("src_port", "u16"), ("dst_port", "u16"), ("protocol_number", "u8"),
       ("protocol_type", "ProtocolTypes"), ("first_seen", "u32"), ("last_seen", "u32"), ("src_mac", "String"), ("dst_mac", "String")] := by
  decide +kernel

end Netflow.Props
