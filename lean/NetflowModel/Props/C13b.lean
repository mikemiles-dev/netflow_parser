/-
  Props/C13b.lean — the UNIVERSAL statements behind the recorded C13 findings for V9.

  Props/C13.lean exhibits one packet (`C13_v9_fails`) whose common view lacks protocol and
  first/last seen.  Here: that is not an accident of that packet, it happens for EVERY V9 data record
  the parser can produce.
-/
import NetflowModel.Props.C13
import NetflowModel.Lemmas.JsonFaithful
import NetflowModel.Lemmas.Records
namespace Netflow.Props
open Netflow Preds

/-- which `FieldValue` constructor `FieldValue::from_field_type` produces for a `FieldDataType` -/
def tyAccepts : FType → FieldValue → Bool
  | .unsigned, .num _ => true
  | .signed, .num _ => true
  | .str, .str _ => true
  | .ip4, .ip4 _ => true
  | .ip6, .ip6 _ => true
  | .mac, .mac _ => true
  | .durS, .dur _ _ => true
  | .durMs, .dur _ _ => true
  | .durUs, .dur _ _ => true
  | .durNs, .dur _ _ => true
  | .proto, .proto _ => true
  | .f64, .f64 _ => true
  | .vec, .vec _ => true
  | .unknown, .vec _ => true
  | _, _ => false

/-- the four duration types -/
def isDurTy : FType → Bool
  | .durS | .durMs | .durUs | .durNs => true
  | _ => false

/-- **whatever the bytes, the length and the configuration**: a value decoded for a field of library
    type `ty` has the kind of `ty` -/
theorem parseValue_kind (vc : ValueCfg) (ty : FType) (len : Nat) (i : Bytes) (v : FieldValue) (r : Bytes)
    (h : parseValue vc ty len i = some (v, r)) : tyAccepts ty v = true := by
  -- every arm of `parseValue` is a chain of `match`es ending in `some (value of that kind, rest)`
  cases ty <;> simp only [parseValue] at h <;> (repeat' split at h) <;> cases h <;> rfl

/-- a `ProtocolType` value is not a `DataNumber::U8` — the only thing `u8::try_from(&FieldValue)` accepts -/
theorem asU8_none_of_proto {v : FieldValue} (h : tyAccepts .proto v = true) : asU8 v = none := by
  cases v <;> first | rfl | cases h

/-- a `Duration` value is not a `DataNumber::U32` -/
theorem asU32_none_of_dur {ty : FType} {v : FieldValue} (hd : isDurTy ty = true) (h : tyAccepts ty v = true) :
    asU32 v = none := by
  cases ty <;> simp only [isDurTy, Bool.false_eq_true] at hd <;> cases v <;> first | rfl | cases h

/-- every entry of the record carries a value of the kind of its field's library type -/
def RecKinds (c : Config) (rec : Rec) : Prop := ∀ e ∈ rec, tyAccepts (c.t.v9Ty e.2.1) e.2.2 = true

/-- **C13, record level (any tables)**: every entry `(idx, disc, v)` produced by
    `FieldParser::parse_data_field` has `v` of the kind of `FieldDataType::from(disc)`. -/
theorem C13_v9_rec_kinds (c : Config) :
    ∀ (fs : List TField) (idx : Nat) (i : Bytes) (rec : Rec) (r : Bytes),
      v9ParseRec c fs idx i = some (rec, r) → RecKinds c rec := fun _ _ _ _ _ h e he =>
  have ⟨_, _, _, _, _, hp⟩ := v9ParseRec_mem h e he
  parseValue_kind _ _ _ _ _ _ hp

/-- the property of decoded flowset bodies that is lifted to whole results -/
def V9KindsOk (c : Config) : V9Body → Prop
  | .data recs _ => ∀ rec ∈ recs, RecKinds c rec
  | _ => True

theorem v9DataRecs_eq (ss : List V9Set) :
    v9DataRecs ss = ss.flatMap fun s => match s.body with | .data recs _ => recs | _ => [] := by
  induction ss with
  | nil => rfl
  | cons s ss ih =>
    unfold v9DataRecs
    rw [List.flatMap_cons, ← ih]
    cases s.body <;> rfl

theorem v9ParseBody_kinds (c : Config) (st st' : PState) (id : Nat) (body : Bytes) (b : V9Body)
    (h : v9ParseBody c st id body = (st', .ok b)) : V9KindsOk c b := by
  rcases v9ParseBody_ok_inv h with ⟨_, _, _, _, _, rfl⟩ | ⟨_, _, _, _, _, _, rfl⟩ | ⟨_, _, _, _, _, _, _, _, _, _, _, rfl⟩ |
    ⟨_, _, _, _, t, _, _, rfl⟩
  · trivial
  · trivial
  · trivial
  · exact v9RecLoop_all c t.fields (RecKinds c) (fun i rec r hr => C13_v9_rec_kinds c _ _ _ _ _ hr) _ _ _
      (fun _ h => absurd h List.not_mem_nil)

/-- **C13, whole call (any tables, any allowed set, any earlier state, any buffer)**: every entry of
    every data record of every V9 packet in the result of `parse_bytes` has the kind of its field. -/
theorem C13_v9_kinds (c : Config) (st st' : PState) (buf : Bytes) (pkts : List Packet)
    (h : parseBytes c st buf = (st', .done pkts)) :
    ∀ hd ss, Packet.v9 hd ss ∈ pkts → ∀ rec ∈ v9DataRecs ss, RecKinds c rec := by
  intro hd ss hp rec hrec
  have hall := parseBytesF_all (c := c) (Q9 := V9KindsOk c) (Qi := fun _ => True)
    (v9ParseBody_kinds c) (fun _ _ _ _ _ _ => trivial) _ _ _ _ _ h _ hp
  rw [v9DataRecs_eq, List.mem_flatMap] at hrec
  obtain ⟨s, hs, hm⟩ := hrec
  have := hall s hs
  cases hb : s.body <;> simp only [hb, List.not_mem_nil] at hm
  rw [hb] at this
  exact this rec hm

/-- if no entry with the key converts, the attribute is absent — whichever entry `recGet` picks -/
theorem recGet_bind_none {α : Type} {r : Rec} {d : Nat} {conv : FieldValue → Option α}
    (h : ∀ e ∈ r, e.2.1 = d → conv e.2.2 = none) : (recGet r d).bind conv = none := by
  cases hg : recGet r d with
  | none => rfl
  | some v =>
    obtain ⟨e, he, hd, hv⟩ := recGet_mem hg
    exact hv ▸ h e he hd

/-- a record whose entries have the kinds of their fields, PROTOCOL being a `ProtocolType` field:
    no entry for PROTOCOL is a `U8`, and the common flow has neither protocol number nor name —
    whether the record has that field once, several times, or not at all -/
theorem C13_rec_proto_never (c : Config) (hty : c.t.v9Ty c.t.commonV9.proto = .proto) (rec : Rec) (hk : RecKinds c rec) :
    (∀ e ∈ rec, e.2.1 = c.t.commonV9.proto → (∃ d, e.2.2 = .proto d) ∧ asU8 e.2.2 = none) ∧
    (commonOfRec c.t.protoFromU8 c.t.commonV9 rec).protoNum = none ∧
    (commonOfRec c.t.protoFromU8 c.t.commonV9 rec).protoType = none := by
  have h1 : ∀ e ∈ rec, e.2.1 = c.t.commonV9.proto → (∃ d, e.2.2 = .proto d) ∧ asU8 e.2.2 = none := by
    intro e he hd
    have := hk e he
    rw [hd, hty] at this
    refine ⟨?_, asU8_none_of_proto this⟩
    cases hv : e.2.2 <;> simp_all [tyAccepts]
  have h2 := recGet_bind_none fun e he hd => (h1 e he hd).2
  exact ⟨h1, by simp [commonOfRec, h2], by simp [commonOfRec, h2]⟩

/-- the same for FIRST/LAST_SWITCHED when they are duration fields -/
theorem C13_rec_times_never (c : Config) (hf : isDurTy (c.t.v9Ty c.t.commonV9.first) = true)
    (hl : isDurTy (c.t.v9Ty c.t.commonV9.last) = true) (rec : Rec) (hk : RecKinds c rec) :
    (∀ e ∈ rec, e.2.1 = c.t.commonV9.first ∨ e.2.1 = c.t.commonV9.last → asU32 e.2.2 = none) ∧
    (commonOfRec c.t.protoFromU8 c.t.commonV9 rec).first = none ∧
    (commonOfRec c.t.protoFromU8 c.t.commonV9 rec).last = none := by
  have h1 : ∀ e ∈ rec, e.2.1 = c.t.commonV9.first ∨ e.2.1 = c.t.commonV9.last → asU32 e.2.2 = none := by
    intro e he hd
    have := hk e he
    rcases hd with hd | hd
    · rw [hd] at this; exact asU32_none_of_dur hf this
    · rw [hd] at this; exact asU32_none_of_dur hl this
  exact ⟨h1, recGet_bind_none fun e he hd => h1 e he (Or.inl hd), recGet_bind_none fun e he hd => h1 e he (Or.inr hd)⟩

/-- **C13, universal form of the PROTOCOL finding** (any tables in which the converter's PROTOCOL key
    is a `ProtocolType` field): for every result of `parse_bytes`, every V9 packet in it, every data
    record of that packet — no entry for PROTOCOL is a `DataNumber::U8` (it is a `ProtocolType`),
    and the record's common flow has `protocol_number = None` and `protocol_type = None`. -/
theorem C13_v9_proto_never_projected (c : Config) (hty : c.t.v9Ty c.t.commonV9.proto = .proto)
    (st st' : PState) (buf : Bytes) (pkts : List Packet) (h : parseBytes c st buf = (st', .done pkts)) :
    ∀ hd ss, Packet.v9 hd ss ∈ pkts → ∀ rec ∈ v9DataRecs ss,
      (∀ e ∈ rec, e.2.1 = c.t.commonV9.proto → (∃ d, e.2.2 = .proto d) ∧ asU8 e.2.2 = none) ∧
      (commonOfRec c.t.protoFromU8 c.t.commonV9 rec).protoNum = none ∧
      (commonOfRec c.t.protoFromU8 c.t.commonV9 rec).protoType = none :=
  fun hd ss hp rec hr => C13_rec_proto_never c hty rec (C13_v9_kinds c st st' buf pkts h hd ss hp rec hr)

/-- **C13, universal form of the FIRST/LAST_SWITCHED finding**. -/
theorem C13_v9_times_never_projected (c : Config) (hf : isDurTy (c.t.v9Ty c.t.commonV9.first) = true)
    (hl : isDurTy (c.t.v9Ty c.t.commonV9.last) = true)
    (st st' : PState) (buf : Bytes) (pkts : List Packet) (h : parseBytes c st buf = (st', .done pkts)) :
    ∀ hd ss, Packet.v9 hd ss ∈ pkts → ∀ rec ∈ v9DataRecs ss,
      (∀ e ∈ rec, e.2.1 = c.t.commonV9.first ∨ e.2.1 = c.t.commonV9.last → asU32 e.2.2 = none) ∧
      (commonOfRec c.t.protoFromU8 c.t.commonV9 rec).first = none ∧
      (commonOfRec c.t.protoFromU8 c.t.commonV9 rec).last = none :=
  fun hd ss hp rec hr => C13_rec_times_never c hf hl rec (C13_v9_kinds c st st' buf pkts h hd ss hp rec hr)

/-- in terms of `as_netflow_common`: every flow of the common view of every V9 packet of every result
    lacks the four attributes -/
theorem C13_v9_common_flows_lack (c : Config) (hty : c.t.v9Ty c.t.commonV9.proto = .proto)
    (hf : isDurTy (c.t.v9Ty c.t.commonV9.first) = true) (hl : isDurTy (c.t.v9Ty c.t.commonV9.last) = true)
    (st st' : PState) (buf : Bytes) (pkts : List Packet) (h : parseBytes c st buf = (st', .done pkts)) :
    ∀ hd ss, Packet.v9 hd ss ∈ pkts → ∀ cm, toCommon c (.v9 hd ss) = some cm →
      ∀ fl ∈ cm.flows, fl.protoNum = none ∧ fl.protoType = none ∧ fl.first = none ∧ fl.last = none := by
  intro hd ss hp cm hcm fl hfl
  simp only [toCommon, Option.some.injEq] at hcm
  rw [← hcm] at hfl
  simp only [List.mem_map] at hfl
  obtain ⟨rec, hrec, rfl⟩ := hfl
  obtain ⟨_, a, b⟩ := C13_v9_proto_never_projected c hty st st' buf pkts h hd ss hp rec hrec
  obtain ⟨_, d, e⟩ := C13_v9_times_never_projected c hf hl st st' buf pkts h hd ss hp rec hrec
  exact ⟨a, b, d, e⟩

/-- **the instance for the tables generated from the Rust source** (any allowed set, feature flag,
    earlier state and buffer): V9 field 4 (PROTOCOL) is a `ProtocolType` field, 22/21
    (FIRST/LAST_SWITCHED) are `DurationMillis` fields; so `as_netflow_common` of a V9 packet NEVER
    reports a protocol number, a protocol name, a first-seen or a last-seen time. -/
theorem C13_generated_v9_never_projected (allowed : List Nat) (uf : Bool) (st st' : PState) (buf : Bytes)
    (pkts : List Packet)
    (h : parseBytes { t := Generated.tables, allowed := allowed, unknownFields := uf } st buf = (st', .done pkts)) :
    ∀ hd ss, Packet.v9 hd ss ∈ pkts →
      ∀ cm, toCommon { t := Generated.tables, allowed := allowed, unknownFields := uf } (.v9 hd ss) = some cm →
      ∀ fl ∈ cm.flows, fl.protoNum = none ∧ fl.protoType = none ∧ fl.first = none ∧ fl.last = none :=
  C13_v9_common_flows_lack _
    (show Generated.tables.v9Ty Generated.tables.commonV9.proto = .proto by decide)
    (show isDurTy (Generated.tables.v9Ty Generated.tables.commonV9.first) = true by decide)
    (show isDurTy (Generated.tables.v9Ty Generated.tables.commonV9.last) = true by decide) st st' buf pkts h

/-- the side conditions, spelled out: field numbers and library types in the generated tables -/
theorem C13_generated_v9_keys :
    Generated.commonV9.proto = 4 ∧ Generated.commonV9.first = 22 ∧ Generated.commonV9.last = 21 ∧
    Generated.tables.v9Ty 4 = .proto ∧ Generated.tables.v9Ty 22 = .durMs ∧ Generated.tables.v9Ty 21 = .durMs ∧
    -- IPFIX is not affected: the same keys are plain unsigned fields there
    Generated.tables.ipTy 4 = .unsigned ∧ Generated.tables.ipTy 22 = .unsigned ∧ Generated.tables.ipTy 21 = .unsigned := by
  decide

/-- **C13 fails for EVERY V9 packet with a PROTOCOL field**: if some data record of a returned V9 packet
    has an entry for PROTOCOL, the specified flow of that record has a protocol number, the common flow
    does not, and the packet's common view differs from the specified one. -/
theorem C13_v9_proto_always_wrong (c : Config) (names : List (Nat × String)) (hty : c.t.v9Ty c.t.commonV9.proto = .proto)
    (st st' : PState) (buf : Bytes) (pkts : List Packet) (h : parseBytes c st buf = (st', .done pkts))
    (hd : List Nat) (ss : List V9Set) (hp : Packet.v9 hd ss ∈ pkts)
    (rec : Rec) (hrec : rec ∈ v9DataRecs ss) (e : Entry) (he : e ∈ rec) (hed : e.2.1 = c.t.commonV9.proto) :
    (∃ n, (specFlow c.t names c.t.commonV9 rec).protoNum = some n) ∧
    (commonOfRec c.t.protoFromU8 c.t.commonV9 rec).protoNum = none ∧
    toCommon c (.v9 hd ss) ≠ specCommon c names (.v9 hd ss) := by
  obtain ⟨hk, hn, _⟩ := C13_v9_proto_never_projected c hty st st' buf pkts h hd ss hp rec hrec
  have hspec : ∃ n, (specFlow c.t names c.t.commonV9 rec).protoNum = some n := by
    cases hff : firstField rec c.t.commonV9.proto with
    | none => exact absurd hed (firstField_eq_none hff e he)
    | some v =>
      obtain ⟨e', he', hd', hv'⟩ := firstField_mem hff
      obtain ⟨⟨d, hdv⟩, _⟩ := hk e' he' hd'
      refine ⟨c.t.protoToU8 d, ?_⟩
      simp [specFlow, hff, ← hv', hdv, protoNumOf]
  refine ⟨hspec, hn, ?_⟩
  intro heq
  simp only [toCommon, specCommon, Option.some.injEq, Common.mk.injEq] at heq
  have hmap := heq.2.2
  have := List.map_inj_left.mp hmap rec hrec
  obtain ⟨n, hn'⟩ := hspec
  rw [← this, hn] at hn'
  exact absurd hn' (by simp)

/-- the hypotheses of the whole-call theorems are met by the C13 witness packet: the call succeeds,
    the V9 packet is in the result, it has a data record with a PROTOCOL entry … -/
example :
    parseBytes c13Cfg {} c13V9 = ({ v9T := [(256, c13V9tmpl)] }, .done [c13V9pkt]) ∧
    c13V9rec ∈ v9DataRecs [{ id := 0, len := 20, body := .templates [c13V9tmpl] [] },
                            { id := 256, len := 11, body := .data [c13V9rec] [] }] ∧
    ((0, 4, FieldValue.proto 6) : Entry) ∈ c13V9rec ∧ c13Cfg.t.v9Ty c13Cfg.t.commonV9.proto = .proto := by
  exact ⟨C13_v9_fails.1, by decide, by decide, by decide⟩

/-- … `RecKinds` holds of it (evaluated, not via the theorem) and fails for a record in which PROTOCOL
    is a `U8` — the kind the converter wants but the parser never produces -/
example :
    (c13V9rec.all fun e => tyAccepts (Generated.tables.v9Ty e.2.1) e.2.2) = true ∧
    ([(0, 4, FieldValue.num (.u8 6))].all fun e => tyAccepts (Generated.tables.v9Ty e.2.1) e.2.2) = false ∧
    (commonOfRec Generated.tables.protoFromU8 Generated.commonV9 [(0, 4, .num (.u8 6))]).protoNum = some 6 := by
  decide

end Netflow.Props
