/-
  Props/C13c.lean — C13 on records that define a projected key MORE THAN ONCE.
  `Props/C13.lean` leaves such packets open (`commonOk` skips them): the property says "equal the corresponding decoded
  fields of that record", and with two fields of one type either is a corresponding field.  What is NOT open is that every
  attribute is the conversion of SOME decoded field with that key and is absent only when there is none.  The oracle
  (`Preds.commonOkDup`) and the correspondence (`Preds.commonCorr`, `Preds.flatCorr`) use exactly this any-candidate
  form; here it is proved of the model (first the lemmas about `find?` / `recGet` it needs).
-/
import NetflowModel.Props.C13
namespace Netflow.Props
open Netflow Preds

theorem c13_find_mem_filter {α : Type} (p : α → Bool) : ∀ (l : List α) (e : α), l.find? p = some e → e ∈ l.filter p := by
  intro l e h
  exact List.mem_filter.2 ⟨List.mem_of_find?_eq_some h, List.find?_some h⟩

theorem recGet_some_mem (r : Rec) (d : Nat) (v : FieldValue) (h : recGet r d = some v) : v ∈ fieldsOf r d := by
  obtain ⟨e, he, hd, hv⟩ := recGet_mem h
  exact List.mem_map.2 ⟨e, List.mem_filter.2 ⟨he, by simpa using hd⟩, hv⟩

theorem recGet_none_fieldsOf (r : Rec) (d : Nat) (h : recGet r d = none) : fieldsOf r d = [] := by
  have hall := (C13_recGet_none_iff r d).1 h
  unfold fieldsOf
  rw [List.map_eq_nil_iff, List.filter_eq_nil_iff]
  intro e he
  simpa using hall e he

theorem fieldsOf_nil_recGet (r : Rec) (d : Nat) (h : fieldsOf r d = []) : recGet r d = none := by
  cases hg : recGet r d with
  | none => rfl
  | some v =>
    have := recGet_some_mem r d v hg
    rw [h] at this
    cases this

/-- the conversion of what `recGet` finds is the conversion of one of the candidates (absent when there is none) -/
theorem anyOf_recGet {α : Type} [BEq α] [LawfulBEq α] (r : Rec) (d : Nat) (conv : FieldValue → Option α) :
    anyOf (fieldsOf r d) conv ((recGet r d).bind conv) = true := by
  unfold anyOf
  cases hg : recGet r d with
  | none => simp [recGet_none_fieldsOf r d hg]
  | some v =>
    have hm := recGet_some_mem r d v hg
    simp only [List.isEmpty_eq_false_iff_exists_mem.2 ⟨v, hm⟩, Bool.false_eq_true, ↓reduceIte, Option.bind_some, List.any_eq_true]
    exact ⟨v, hm, by simp⟩

theorem anyOf_ip (r : Rec) (a b : Nat) (conv : FieldValue → Option IpAddrM) :
    anyOf (if (fieldsOf r a).isEmpty then fieldsOf r b else fieldsOf r a) conv
      (((recGet r a).orElse fun _ => recGet r b).bind conv) = true := by
  cases hg : recGet r a with
  | none =>
    simp only [recGet_none_fieldsOf r a hg, List.isEmpty_nil, ↓reduceIte, Option.orElse_none]
    exact anyOf_recGet r b conv
  | some v =>
    simp only [List.isEmpty_eq_false_iff_exists_mem.2 ⟨v, recGet_some_mem r a v hg⟩, Bool.false_eq_true, ↓reduceIte,
      Option.orElse_some]
    have := anyOf_recGet r a conv
    rw [hg] at this
    exact this

/-- changing the converter on the candidates only -/
theorem anyOf_congr {α : Type} [BEq α] (cands : List FieldValue) (f g : FieldValue → Option α) (x : Option α)
    (hfg : ∀ v ∈ cands, f v = g v) (h : anyOf cands f x = true) : anyOf cands g x = true := by
  unfold anyOf at h ⊢
  by_cases he : cands.isEmpty = true
  · simpa [he] using h
  · simp only [he, Bool.false_eq_true, ↓reduceIte, List.any_eq_true] at h ⊢
    obtain ⟨v, hv, hx⟩ := h
    exact ⟨v, hv, by rw [← hfg v hv]; exact hx⟩

/-- **C13, duplicates, unconditional**: whatever the record, every attribute of the model's common flow is the conversion
    (by the crate's converters) of one of the record's fields with that key, absent only when no field has it or the chosen
    one does not convert; the protocol name is `From<u8>` of the protocol number. -/
theorem C13_model_choice (proto : Nat → Nat) (k : CommonKeys) (r : Rec) :
    flowAnyOk asIp asU16 asU8 asU32 asString proto k r (commonOfRec proto k r) = true := by
  simp only [flowAnyOk, commonOfRec, Bool.and_eq_true, beq_iff_eq, and_assoc]
  refine ⟨?_, ?_, ?_, ?_, ?_, ?_, ?_, ?_, ?_, ?_⟩
  · exact anyOf_ip r k.src4 k.src6 asIp
  · exact anyOf_ip r k.dst4 k.dst6 asIp
  · exact anyOf_recGet r k.sport asU16
  · exact anyOf_recGet r k.dport asU16
  · exact anyOf_recGet r k.proto asU8
  · trivial
  · exact anyOf_recGet r k.first asU32
  · exact anyOf_recGet r k.last asU32
  · exact anyOf_recGet r k.smac asString
  · exact anyOf_recGet r k.dmac asString

/-- the model's view of every V9 packet is within the correspondence `modelDupOk` (so `commonCorr` relaxes, never tightens) -/
theorem C13_model_within_corr (c : Config) (h : List Nat) (ss : List V9Set) :
    modelDupOk c (.v9 h ss) (toCommon c (.v9 h ss)) = true := by
  simp only [modelDupOk, toCommon, List.length_map, beq_self_eq_true, Bool.true_and, c13_zip_map_all, List.all_eq_true]
  intro r _
  exact C13_model_choice _ _ r

/-- every candidate of the scalar keys has the accepted kind -/
def kindsAcceptedAll (k : CommonKeys) (r : Rec) : Bool :=
  (fieldsOf r k.sport).all isU16 && (fieldsOf r k.dport).all isU16 && (fieldsOf r k.proto).all isU8 &&
  (fieldsOf r k.first).all isU32 && (fieldsOf r k.last).all isU32

/-- every candidate protocol number is a byte off `badProtos` -/
def protoGoodAll (k : CommonKeys) (r : Rec) : Bool :=
  (fieldsOf r k.proto).all fun v =>
    match v with
    | .num (.u8 n) => decide (n < 256) && !badProtos.contains n
    | _ => true

/-- **C13, one record with duplicates allowed** — PARTIAL (every candidate of the scalar keys decoded as the accepted kind,
    protocol numbers off `badProtos`): the model's flow meets the SPECIFIED any-candidate form. -/
theorem C13_rec_dup_partial (t : Tables) (names : List (Nat × String)) (ht : ProtoTableOk t names) (k : CommonKeys) (r : Rec)
    (hk : kindsAcceptedAll k r = true) (hg : protoGoodAll k r = true) :
    flowAnyOk asIp numOf (protoNumOf t) timeOf asString (Spec.protoSpecDisc names) k r (commonOfRec t.protoFromU8 k r) = true := by
  simp only [kindsAcceptedAll, Bool.and_eq_true, List.all_eq_true, and_assoc] at hk
  obtain ⟨k1, k2, k3, k4, k5⟩ := hk
  simp only [protoGoodAll, List.all_eq_true] at hg
  have hm := C13_model_choice t.protoFromU8 k r
  simp only [flowAnyOk, Bool.and_eq_true, beq_iff_eq, and_assoc] at hm ⊢
  obtain ⟨m1, m2, m3, m4, m5, _, m7, m8, m9, m10⟩ := hm
  refine ⟨m1, m2, ?_, ?_, ?_, ?_, ?_, ?_, m9, m10⟩
  · exact anyOf_congr _ _ _ _ (fun v hv => asU16_eq_of_isU16 (k1 v hv)) m3
  · exact anyOf_congr _ _ _ _ (fun v hv => asU16_eq_of_isU16 (k2 v hv)) m4
  · exact anyOf_congr _ _ _ _ (fun v hv => asU8_eq_of_isU8 (k3 v hv)) m5
  · -- the protocol name: `From<u8>` of the chosen number is the specified name off `badProtos`
    simp only [commonOfRec]
    cases hgt : recGet r k.proto with
    | none => rfl
    | some v =>
      have hv := recGet_some_mem r k.proto v hgt
      exact (protoName_of_good ht (hg v hv) (k3 v hv)).trans (by rw [← asU8_eq_of_isU8 (k3 v hv)]; rfl)
  · exact anyOf_congr _ _ _ _ (fun v hv => asU32_eq_of_isU32 (k4 v hv)) m7
  · exact anyOf_congr _ _ _ _ (fun v hv => asU32_eq_of_isU32 (k5 v hv)) m8

/-- the kind condition of `commonViewGood`, on every candidate -/
def commonViewGoodAll (c : Config) : Packet → Bool
  | .v9 _ ss => (v9DataRecs ss).all fun r => kindsAcceptedAll c.t.commonV9 r && protoGoodAll c.t.commonV9 r
  | _ => true

/-- the model's view of a returned packet meets the any-candidate form of the specified view -/
theorem specDupOk_of_origin {c : Config} {p : Packet} (hl : c.t.commonLayoutOk = true) {names : List (Nat × String)}
    (ht : ProtoTableOk c.t names) (ho : PacketOrigin c p) (hg : commonViewGoodAll c p = true) :
    specDupOk c names p (toCommon c p) = true := by
  rw [toCommon_of_origin hl ho]
  cases ho with
  | v9 hd ss i r hh =>
    simp only [commonViewGoodAll, List.all_eq_true, Bool.and_eq_true] at hg
    simp only [specDupOk, List.length_map, beq_self_eq_true, Bool.true_and, c13_zip_map_all, List.all_eq_true]
    exact fun x hx => C13_rec_dup_partial c.t names ht _ x (hg x hx).1 (hg x hx).2
  | _ => rfl

/-- **C13, V9 packets with or without duplicate keys** — PARTIAL (as `C13_v9_partial`, the kind condition now on every
    candidate): the model's common view of a V9 packet returned by the parser meets `specDupOk`. -/
theorem C13_v9_dup_partial (c : Config) (hl : c.t.commonLayoutOk = true) (names : List (Nat × String))
    (ht : ProtoTableOk c.t names)
    (st st' : PState) (buf : Bytes) (h : List Nat) (ss : List V9Set) (rest : Bytes)
    (hp : parsePacket c st buf = (st', .ok (.v9 h ss) rest))
    (hk : ∀ r ∈ v9DataRecs ss, kindsAcceptedAll c.t.commonV9 r = true ∧ protoGoodAll c.t.commonV9 r = true) :
    specDupOk c names (.v9 h ss) (toCommon c (.v9 h ss)) = true :=
  specDupOk_of_origin hl ht (parsePacket_origin _ _ _ _ _ _ hp)
    (by simpa only [commonViewGoodAll, List.all_eq_true, Bool.and_eq_true] using hk)

/-- **C13 as checked by the oracle, duplicates included** — PARTIAL (restricted to `commonViewGood` packets whose candidates
    all have the accepted kinds): converting every element of a `parse_bytes` result meets `commonOkDup`. -/
theorem C13_commonOkDup_partial (c : Config) (hl : c.t.commonLayoutOk = true) (names : List (Nat × String))
    (ht : ProtoTableOk c.t names) (st st' : PState) (buf : Bytes) (pkts : List Packet)
    (h : parseBytes c st buf = (st', .done pkts)) (hg : ∀ p ∈ pkts, commonViewGood c p = true)
    (hga : ∀ p ∈ pkts, commonViewGoodAll c p = true) :
    commonOkDup c names pkts (pkts.map (toCommon c)) = true := by
  unfold commonOkDup
  rw [C13_commonOk_partial c hl names ht st st' buf pkts h hg, Bool.true_and, c13_zip_map_all]
  simp only [List.all_eq_true, Bool.or_eq_true, Bool.not_eq_true']
  intro p hp
  rcases parseBytesF_origin c _ _ _ _ _ h p hp with ⟨k, r, e⟩ | ho
  · subst e; exact Or.inr rfl
  · exact Or.inr (specDupOk_of_origin hl ht ho (hga p hp))

/-- for the generated tables (any allowed set, both feature settings) -/
theorem C13_generated_dup_partial (allowed : List Nat) (uf : Bool) (st st' : PState) (buf : Bytes) (pkts : List Packet)
    (h : parseBytes { t := Generated.tables, allowed := allowed, unknownFields := uf } st buf = (st', .done pkts))
    (hg : ∀ p ∈ pkts, commonViewGood { t := Generated.tables, allowed := allowed, unknownFields := uf } p = true)
    (hga : ∀ p ∈ pkts, commonViewGoodAll { t := Generated.tables, allowed := allowed, unknownFields := uf } p = true) :
    commonOkDup { t := Generated.tables, allowed := allowed, unknownFields := uf } Generated.protoNames pkts
      (pkts.map (toCommon { t := Generated.tables, allowed := allowed, unknownFields := uf })) = true :=
  C13_commonOkDup_partial { t := Generated.tables, allowed := allowed, unknownFields := uf } C13_generated_layout _
    C13_generated_protoTable _ _ _ _ h hg hga

/-- a record with source port twice (values 80 and 443), decoded as `U16` -/
def c13DupRec : Rec := [(0, 7, .num (.u16 80)), (1, 7, .num (.u16 443))]
def c13Keys : CommonKeys := Generated.tables.commonV9

/-- both choices meet the any-candidate form … -/
theorem C13_choice_is_open :
    c13Keys.sport = 7 ∧
    flowAnyOk asIp numOf (protoNumOf Generated.tables) timeOf asString (Spec.protoSpecDisc Generated.protoNames) c13Keys c13DupRec
      { srcPort := some 80 } = true ∧
    flowAnyOk asIp numOf (protoNumOf Generated.tables) timeOf asString (Spec.protoSpecDisc Generated.protoNames) c13Keys c13DupRec
      { srcPort := some 443 } = true ∧
    (commonOfRec Generated.tables.protoFromU8 c13Keys c13DupRec).srcPort = some 443 := by
  decide

/-- … a value that is neither, or an absent one, does not -/
theorem C13_choice_not_arbitrary :
    flowAnyOk asIp numOf (protoNumOf Generated.tables) timeOf asString (Spec.protoSpecDisc Generated.protoNames) c13Keys c13DupRec
      { srcPort := some 81 } = false ∧
    flowAnyOk asIp numOf (protoNumOf Generated.tables) timeOf asString (Spec.protoSpecDisc Generated.protoNames) c13Keys c13DupRec
      { } = false ∧
    flowAnyOk asIp numOf (protoNumOf Generated.tables) timeOf asString (Spec.protoSpecDisc Generated.protoNames) c13Keys c13DupRec
      { srcPort := some 80, dstPort := some 80 } = false := by
  decide

/-- a V9 packet: template 256 = (L4_SRC_PORT/2, L4_SRC_PORT/2, IPV4_SRC_ADDR/4), one data record (80, 443, 10.0.0.1) -/
def c13DupV9 : Bytes :=
  [0,9, 0,2, 0,0,0,1, 0,0,0,2, 0,0,0,3, 0,0,0,4,
   0,0, 0,20, 1,0, 0,3, 0,7, 0,2, 0,7, 0,2, 0,8, 0,4,
   1,0, 0,12, 0,80, 1,187, 10,0,0,1]

def c13DupTmpl : V9Template :=
  { id := 256, fieldCount := 3, fields := [{ typ := 7, len := 2 }, { typ := 7, len := 2 }, { typ := 8, len := 4 }] }
def c13DupPkt : Packet :=
  .v9 [9, 2, 1, 2, 3, 4]
    [{ id := 0, len := 20, body := .templates [c13DupTmpl] [] },
     { id := 256, len := 12, body := .data [[(0, 7, .num (.u16 80)), (1, 7, .num (.u16 443)), (2, 8, .ip4 167772161)]] [] }]

/-- the packet parses, has a duplicate projected key, meets every hypothesis, and the oracle predicate holds of its view
    (source port: the LAST of the two, 443) -/
theorem C13_dup_nonvacuous :
    parseBytes c13Cfg {} c13DupV9 = ({ v9T := [(256, c13DupTmpl)] }, .done [c13DupPkt]) ∧
    pktHasDupKeys c13Cfg c13DupPkt = true ∧
    commonViewGood c13Cfg c13DupPkt = true ∧ commonViewGoodAll c13Cfg c13DupPkt = true ∧
    commonOkDup c13Cfg Generated.protoNames [c13DupPkt] [toCommon c13Cfg c13DupPkt] = true ∧
    (toCommon c13Cfg c13DupPkt).map (fun cm => cm.flows.map (·.srcPort)) = some [some 443] := by
  decide +kernel

end Netflow.Props
