/-
  Props/C14.lean — C14: a truncated packet is reported as an error, never as a shorter valid one.

  `v9Boundaries c pkt` (Lemmas/Locality.lean): for a decoded V9 packet the offsets `20`,
  `20 + max len₁ 4`, `20 + max len₁ 4 + max len₂ 4`, … (with the generated header layout; in general
  `2 + |v9Hdr|` instead of 20) at which a cut yields a shorter well-formed V9 packet; `[]` for the
  other versions.
-/
import NetflowModel.Props.C11
import NetflowModel.Lemmas.GenTables
namespace Netflow.Props
open Netflow Preds

/-- **C14, one packet**: if `p` was accepted with nothing left over, then every cut `k < |p|`
    (for V9: not on a flowset boundary) makes `parse_packet_by_version` fail on `p.take k`:
    `Incomplete` below two bytes, otherwise `Partial` with the packet's own version and the bytes
    after the version word.  The caches are unchanged when the packet is V5, V7 or IPFIX. -/
theorem C14_truncated_step (c : Config) (hf : c.t.framingOk = true) (st st' : PState) (p : Bytes) (pkt : Packet)
    (h : parsePacket c st p = (st', .ok pkt [])) (k : Nat) (hk : k < p.length)
    (hb : k ∉ v9Boundaries c pkt) :
    ∃ st'' e, parsePacket c st (p.take k) = (st'', .fail e) ∧
      ((k < 2 ∧ e = .incomplete) ∨
       (2 ≤ k ∧ ∃ v, versionOf p = some v ∧ e = .partialParse v ((p.take k).drop 2))) ∧
      (pkt.isV9 = false → st'' = st) :=
  parsePacket_take_fail c hf h hk hb

/-- **C14**: a packet cut strictly inside (`0 < k < |p|`, for V9 not on a flowset boundary), alone
    or after a chain `qs` of accepted packets: `parse_bytes` reports the packets of the chain
    unchanged, then — as last element — an error whose remaining bytes are exactly the truncated
    packet; no record of the truncated packet is reported.  For a V5, V7 or IPFIX packet the caches
    are those reached after the chain. -/
theorem C14_truncated (c : Config) (hf : c.t.framingOk = true) (st st1 st' : PState) (qs : List Bytes)
    (out : List Packet) (p : Bytes) (pkt : Packet)
    (hq : chainOk c st qs = true)
    (hpre : parseBytes c st qs.flatten = (st1, .done out))
    (h : parsePacket c st1 p = (st', .ok pkt []))
    (k : Nat) (hk0 : 0 < k) (hk : k < p.length) (hb : k ∉ v9Boundaries c pkt) :
    ∃ st2 e, parseBytes c st (qs.flatten ++ p.take k) = (st2, .done (out ++ [.error e (p.take k)])) ∧
      ((k < 2 ∧ e = .incomplete) ∨
       (2 ≤ k ∧ ∃ v, versionOf p = some v ∧ e = .partialParse v ((p.take k).drop 2))) ∧
      (pkt.isV9 = false → st2 = st1) := by
  have hc := C11_chain c hf st qs hq
  rw [hpre] at hc
  simp only [Prod.mk.injEq, Outcome.done.injEq] at hc
  obtain ⟨e1, e2⟩ := hc
  obtain ⟨st2, e, hp, hdesc, hst⟩ := parsePacket_take_fail c hf h hk hb
  have hne : p.take k ≠ [] := take_ne_nil (List.ne_nil_of_length_pos (by omega)) hk0
  refine ⟨st2, e, ?_, hdesc, hst⟩
  rw [C11_chain_append c hf st qs hq, ← e1, parseBytes_fail c hne hp, ← e2]
  rfl

/-- **C14** for a packet on its own (empty chain) -/
theorem C14_truncated_alone (c : Config) (hf : c.t.framingOk = true) (st st' : PState) (p : Bytes) (pkt : Packet)
    (h : parsePacket c st p = (st', .ok pkt []))
    (k : Nat) (hk0 : 0 < k) (hk : k < p.length) (hb : k ∉ v9Boundaries c pkt) :
    ∃ st2 e, parseBytes c st (p.take k) = (st2, .done [.error e (p.take k)]) ∧
      (pkt.isV9 = false → st2 = st) := by
  obtain ⟨st2, e, h1, _, h3⟩ := C14_truncated c hf st st st' [] [] p pkt rfl (parseBytes_nil c st) h k hk0 hk hb
  exact ⟨st2, e, by simpa using h1, h3⟩

/-- **C14** for the tables generated from the Rust source -/
theorem C14_generated (allowed : List Nat) (uf : Bool) (st st1 st' : PState) (qs : List Bytes)
    (out : List Packet) (p : Bytes) (pkt : Packet) (k : Nat) :
    let c : Config := { t := Generated.tables, allowed := allowed, unknownFields := uf }
    chainOk c st qs = true → parseBytes c st qs.flatten = (st1, .done out) →
    parsePacket c st1 p = (st', .ok pkt []) → 0 < k → k < p.length → k ∉ v9Boundaries c pkt →
    ∃ st2 e, parseBytes c st (qs.flatten ++ p.take k) = (st2, .done (out ++ [.error e (p.take k)])) ∧
      (pkt.isV9 = false → st2 = st1) := by
  intro c hq hpre h hk0 hk hb
  obtain ⟨st2, e, h1, _, h3⟩ := C14_truncated c C02_generated_framing st st1 st' qs out p pkt hq hpre h k hk0 hk hb
  exact ⟨st2, e, h1, h3⟩

/-- with the generated V9 header the first boundary is at offset 20 -/
theorem C14_generated_boundaries (allowed : List Nat) (uf : Bool) (h : List Nat) (ss : List V9Set) :
    v9Boundaries { t := Generated.tables, allowed := allowed, unknownFields := uf } (.v9 h ss) = setBoundaries 20 ss := rfl

/-- C14 WITHOUT the exclusion of flowset boundaries that the property itself makes for V9 (stronger
    than the property, and false even restricted to self-delimiting packets) -/
def C14_anyCut : Prop :=
  ∀ (c : Config) (st : PState) (p : Bytes) (k : Nat), c.t.framingOk = true →
    selfDelimiting c st p = true → 0 < k → k < p.length →
    ∃ st2 e, parseBytes c st (p.take k) = (st2, .done [.error e (p.take k)])

/-- a V9 packet cut exactly between its two flowsets is accepted as a shorter packet (which is why
    the property excludes those cut points) -/
theorem C14_anyCut_fails : ¬ C14_anyCut := by
  intro h
  obtain ⟨st2, e, h1⟩ := h C11ex.cfg {} C11ex.v9p 36 (by decide +kernel) (by decide +kernel) (by decide +kernel) (by decide +kernel)
  have h2 : (parseBytes C11ex.cfg {} (C11ex.v9p.take 36)).2.pkts.all (fun q => q.isV9) = true := by
    decide +kernel
  rw [h1] at h2
  simp [Outcome.pkts, Packet.isV9] at h2

/-- a truncated V9 packet may change the caches: cut inside its second flowset, the template of the
    first one has already been learned (the property claims unchanged caches for V5/V7/IPFIX only) -/
theorem C14_v9_state_changes :
    (parseBytes C11ex.cfg {} (C11ex.v9p.take 40)).1 ≠ {} := by decide +kernel

-- `cfg`, `v5p`, `ipT`, `ipD`, `v9p` below are the fixtures of Props/C11.lean
open C11ex

/-- hypotheses of `C14_truncated` met by: chain `[V5, IPFIX template]`, then the IPFIX data message
    cut one byte before its end -/
example : chainOk cfg {} [v5p, ipT] = true ∧
    (∃ st', parsePacket cfg (foldCalls cfg {} [v5p, ipT]).1 ipD = (st', .ok (.ipfix [10, 28, 2, 2, 1]
      [{ id := 256, len := 12, body := .data [[(0, 8, .ip4 167772161)], [(1, 12, .ip4 167772162)]] [] }]) [])) ∧
    27 < ipD.length := by
  refine ⟨C11_example_chain2, ⟨(foldCalls cfg {} [v5p, ipT]).1, by decide +kernel⟩, by decide +kernel⟩

/-- … and what the model returns there: both chain packets, then the error carrying the 27 bytes -/
example : (parseBytes cfg {} (v5p ++ ipT ++ ipD.take 27)).2.pkts.drop 2 =
    [.error (.partialParse 10 ((ipD.take 27).drop 2)) (ipD.take 27)] := by decide +kernel

/-- a V5 packet cut in the middle of its record, and inside its header -/
example : (parseBytes cfg {} (v5p.take 50)) = ({}, .done [.error (.partialParse 5 ((v5p.take 50).drop 2)) (v5p.take 50)]) ∧
    (parseBytes cfg {} (v5p.take 1)) = ({}, .done [.error .incomplete [0]]) := by
  constructor <;> decide +kernel

/-- a V9 packet cut inside the header of its second flowset (38 is not a boundary: they are 20, 36, 48) -/
example : v9Boundaries cfg (.v9 [9, 2, 1, 2, 3, 4] [{ id := 0, len := 16, body := .templates [] [] },
      { id := 256, len := 12, body := .data [] [] }]) = [20, 36, 48] ∧
    (parseBytes cfg {} (v9p.take 38)).2 = .done [.error (.partialParse 9 ((v9p.take 38).drop 2)) (v9p.take 38)] := by
  constructor <;> decide +kernel

/-- no global state (`generated_noGlobals`): a truncated packet cannot be completed from bytes remembered outside the parser value -/
theorem C14_no_global_state : Generated.noGlobals = true := generated_noGlobals


end Netflow.Props
