/-
  Props/C14b.lean — C14, header-announced form.

  Props/C14.lean assumes that the UN-truncated packet is accepted and cuts it.  The property's
  antecedent is weaker: the buffer "ends before the end announced by the packet's own header
  (V5/V7 count, IPFIX message length, V9 flowset length)".  Here nothing is assumed about a longer
  buffer: only the bytes that are present are looked at.

  `announcedShort v body` (Lemmas/AnnouncedShort.lean, decidable) is that antecedent for a packet of version
  `v` whose bytes after the version word are `body`.  `Tables.announceOk` (decidable, true of
  `Generated.tables`): the V9 / flowset / IPFIX header sizes and the offsets of `count` / `length`.
-/
import NetflowModel.Lemmas.AnnouncedShort
import NetflowModel.Props.C03
import NetflowModel.Props.C06
import NetflowModel.Props.C14
namespace Netflow.Props
open Netflow Preds

/-- **C14, header-announced, one packet, dispatcher level**: a buffer whose version word `v`
    (5, 7, 9 or 10, allowed and dispatched to its own parser) is followed by fewer bytes than its
    own header announces is rejected as `Partial` with its version and the bytes after the version
    word, and the template caches are unchanged — for V9 too, because the flowset that is short is
    the first one. -/
theorem C14_announced_short_step (c : Config) (hok : c.t.ciscoOk = true) (hao : c.t.announceOk = true)
    (st : PState) (buf body : Bytes) (v : Nat)
    (hv : beU 2 buf = some (v, body)) (ha : c.allowed.contains v = true) (hd : c.t.dispatch.lookup v = some v)
    (hs : announcedShort v body = true) :
    parsePacket c st buf = (st, .fail (.partialParse v body)) := by
  obtain ⟨hl2, _, hbody⟩ := beU_some hv
  have hlen : buf.length = body.length + 2 := by rw [hbody, List.length_drop]; omega
  rcases announcedShort_cases hs with ⟨rfl, h⟩ | ⟨rfl, h⟩ | ⟨rfl, h⟩ | ⟨rfl, h⟩
  · have := C03_short_v5 c hok st buf body hv ha hd (by rw [← hbody, hlen]; omega)
    rwa [← hbody] at this
  · have := C03_short_v7 c hok st buf body hv ha hd (by rw [← hbody, hlen]; omega)
    rwa [← hbody] at this
  · exact parsePacket_ipfix_short c hao st buf body hv ha hd (by omega)
  · rcases h with h | ⟨hc, h18, h⟩
    · exact parsePacket_v9_hdr_short c hao st buf body hv ha hd h
    · have hb : body = body.take 18 ++ ([] ++ body.drop 18) := by simp
      rw [hb] at hv
      have := parsePacket_v9_short_after c hao 0 st st buf (body.take 18) [] (body.drop 18) [] hv ha hd
        (by rw [List.length_take]; omega) rfl rfl
        (by rw [List.take_take]; exact hc)
        (by intro e; have := congrArg List.length e; simp at this; omega)
        (by rw [List.drop_drop, List.length_drop]
            rcases h with h | h
            · left; omega
            · right; omega)
      rw [← hb] at this
      exact this

/-- **C14, header-announced form**: a buffer that ends before the end announced by its own header
    (`announcedShort`) makes `parse_bytes` return exactly one element, an error whose kind is
    `Partial` with the packet's version and whose `remaining` is the WHOLE buffer; no flow record of
    the packet is reported and the template caches are unchanged. -/
theorem C14_announced_short (c : Config) (hok : c.t.ciscoOk = true) (hao : c.t.announceOk = true)
    (st : PState) (buf body : Bytes) (v : Nat)
    (hv : beU 2 buf = some (v, body)) (ha : c.allowed.contains v = true) (hd : c.t.dispatch.lookup v = some v)
    (hs : announcedShort v body = true) :
    parseBytes c st buf = (st, .done [.error (.partialParse v body) buf]) :=
  parseBytes_fail c (ne_nil_of_beU (by decide +kernel) hv) (C14_announced_short_step c hok hao st buf body v hv ha hd hs)

/-- **V5 / V7**: fewer bytes after the version word than the header (`H - 2`) or than the header and
    the `count` records it announces -/
theorem C14_fixed_short (c : Config) (hok : c.t.ciscoOk = true) (st : PState) (v : FixedV) (buf body : Bytes)
    (hv : beU 2 buf = some (v.ver, body)) (ha : c.allowed.contains v.ver = true)
    (hd : c.t.dispatch.lookup v.ver = some v.ver) {H R : Nat} (hH : Spec.totalLen v.hdrSpec = H)
    (hR : Spec.totalLen v.recSpec = R)
    (hs : body.length + 2 < H ∨ body.length + 2 < H + R * beNat (body.take 2)) :
    parseBytes c st buf = (st, .done [.error (.partialParse v.ver body) buf]) := by
  obtain ⟨hl2, _, rfl⟩ := beU_some hv
  rw [List.length_drop] at hs
  exact parseBytes_fail c (ne_nil_of_beU (by decide +kernel) hv)
    (C03_short c hok st v buf _ hv ha hd hH hR (by omega))

/-- **V5**: header complete (22 bytes after the version word) and fewer than `22 + 48 * count` bytes -/
theorem C14_announced_short_v5 (c : Config) (hok : c.t.ciscoOk = true) (st : PState) (buf body : Bytes)
    (hv : beU 2 buf = some (5, body)) (ha : c.allowed.contains 5 = true) (hd : c.t.dispatch.lookup 5 = some 5)
    (_hh : 22 ≤ body.length) (hs : body.length < 22 + 48 * beNat (body.take 2)) :
    parseBytes c st buf = (st, .done [.error (.partialParse 5 body) buf]) :=
  C14_fixed_short c hok st .v5 buf body hv ha hd C03_cisco_sizes.1 C03_cisco_sizes.2.1 (Or.inr (by omega))

/-- **V5**, header itself incomplete -/
theorem C14_short_header_v5 (c : Config) (hok : c.t.ciscoOk = true) (st : PState) (buf body : Bytes)
    (hv : beU 2 buf = some (5, body)) (ha : c.allowed.contains 5 = true) (hd : c.t.dispatch.lookup 5 = some 5)
    (hs : body.length < 22) :
    parseBytes c st buf = (st, .done [.error (.partialParse 5 body) buf]) :=
  C14_fixed_short c hok st .v5 buf body hv ha hd C03_cisco_sizes.1 C03_cisco_sizes.2.1 (Or.inl (by omega))

/-- **V7**: header complete and fewer than `22 + 52 * count` bytes after the version word -/
theorem C14_announced_short_v7 (c : Config) (hok : c.t.ciscoOk = true) (st : PState) (buf body : Bytes)
    (hv : beU 2 buf = some (7, body)) (ha : c.allowed.contains 7 = true) (hd : c.t.dispatch.lookup 7 = some 7)
    (_hh : 22 ≤ body.length) (hs : body.length < 22 + 52 * beNat (body.take 2)) :
    parseBytes c st buf = (st, .done [.error (.partialParse 7 body) buf]) :=
  C14_fixed_short c hok st .v7 buf body hv ha hd C03_cisco_sizes.2.2.1 C03_cisco_sizes.2.2.2 (Or.inr (by omega))

/-- **V7**, header itself incomplete -/
theorem C14_short_header_v7 (c : Config) (hok : c.t.ciscoOk = true) (st : PState) (buf body : Bytes)
    (hv : beU 2 buf = some (7, body)) (ha : c.allowed.contains 7 = true) (hd : c.t.dispatch.lookup 7 = some 7)
    (hs : body.length < 22) :
    parseBytes c st buf = (st, .done [.error (.partialParse 7 body) buf]) :=
  C14_fixed_short c hok st .v7 buf body hv ha hd C03_cisco_sizes.2.2.1 C03_cisco_sizes.2.2.2 (Or.inl (by omega))

/-- **IPFIX**: header complete (14 bytes after the version word) and the buffer is shorter than the
    message length (first word after the version, counted from the version word) -/
theorem C14_announced_short_ipfix (c : Config) (hao : c.t.announceOk = true) (st : PState) (buf body : Bytes)
    (hv : beU 2 buf = some (10, body)) (ha : c.allowed.contains 10 = true) (hd : c.t.dispatch.lookup 10 = some 10)
    (_hh : 14 ≤ body.length) (hs : buf.length < beNat (body.take 2)) :
    parseBytes c st buf = (st, .done [.error (.partialParse 10 body) buf]) := by
  obtain ⟨hl2, _, hbody⟩ := beU_some hv
  have hlen : buf.length = body.length + 2 := by rw [hbody, List.length_drop]; omega
  exact parseBytes_fail c (ne_nil_of_beU (by decide +kernel) hv)
    (parsePacket_ipfix_short c hao st buf body hv ha hd (by omega))

/-- **IPFIX**, header itself incomplete -/
theorem C14_short_header_ipfix (c : Config) (hao : c.t.announceOk = true) (st : PState) (buf body : Bytes)
    (hv : beU 2 buf = some (10, body)) (ha : c.allowed.contains 10 = true) (hd : c.t.dispatch.lookup 10 = some 10)
    (hs : body.length < 14) :
    parseBytes c st buf = (st, .done [.error (.partialParse 10 body) buf]) :=
  parseBytes_fail c (ne_nil_of_beU (by decide +kernel) hv) (parsePacket_ipfix_short c hao st buf body hv ha hd (Or.inl hs))

/-- **IPFIX**, the hypothesis of `C06_ipfix_short_is_err` lifted to `parse_bytes` (needs `framingOk`
    only: the announced length is read off the decoded header instead of the raw bytes) -/
theorem C14_announced_short_ipfix_decoded (c : Config) (hf : c.t.framingOk = true) (st : PState) (buf body : Bytes)
    (hv : beU 2 buf = some (10, body)) (ha : c.allowed.contains 10 = true) (hd : c.t.dispatch.lookup 10 = some 10)
    (hs : body.length < 14 ∨ ∃ h r, parseLayout c.t.protoFromU8 c.t.ipHdr body = some (h, r) ∧
            r.length < c.t.ipHdr.get "length" h - 16) :
    parseBytes c st buf = (st, .done [.error (.partialParse 10 body) buf]) := by
  refine parseBytes_fail c (ne_nil_of_beU (by decide +kernel) hv) ?_
  rw [parsePacket_versioned c st hv ha hd, parseVersioned_10, C06_ipfix_short_is_err c hf st body hs]
  rfl

/-- **V9, first flowset**: header complete (18 bytes after the version word), `count ≥ 1`, the first
    flowset's header is present and its `length - 4` exceeds the bytes that follow it: one error
    carrying the whole buffer, caches unchanged -/
theorem C14_announced_short_v9 (c : Config) (hok : c.t.ciscoOk = true) (hao : c.t.announceOk = true)
    (st : PState) (buf body : Bytes)
    (hv : beU 2 buf = some (9, body)) (ha : c.allowed.contains 9 = true) (hd : c.t.dispatch.lookup 9 = some 9)
    (hc : 1 ≤ beNat (body.take 2)) (hh : 22 ≤ body.length)
    (hs : body.length - 22 < beNat ((body.drop 20).take 2) - 4) :
    parseBytes c st buf = (st, .done [.error (.partialParse 9 body) buf]) :=
  C14_announced_short c hok hao st buf body 9 hv ha hd
    (by simp only [announcedShort, Bool.or_eq_true, Bool.and_eq_true, decide_eq_true_eq, beq_iff_eq]
        refine Or.inr ⟨trivial, ?_⟩
        omega)

/-- **V9**, packet header incomplete, or `count ≥ 1` and the first flowset's 4-byte header incomplete -/
theorem C14_short_header_v9 (c : Config) (hok : c.t.ciscoOk = true) (hao : c.t.announceOk = true)
    (st : PState) (buf body : Bytes)
    (hv : beU 2 buf = some (9, body)) (ha : c.allowed.contains 9 = true) (hd : c.t.dispatch.lookup 9 = some 9)
    (hs : body.length < 18 ∨ (1 ≤ beNat (body.take 2) ∧ 18 < body.length ∧ body.length < 22)) :
    parseBytes c st buf = (st, .done [.error (.partialParse 9 body) buf]) :=
  C14_announced_short c hok hao st buf body 9 hv ha hd
    (by simp only [announcedShort, Bool.or_eq_true, Bool.and_eq_true, decide_eq_true_eq, beq_iff_eq]
        refine Or.inr ⟨trivial, ?_⟩
        omega)

/-- **C14, V9, general form**: the packet is `version 9 ++ hb ++ i1 ++ i2` with `hb` the 18 header
    bytes, `i1` exactly `k` complete flowsets (the flowset loop decodes `k` flowsets from `i1` in `k`
    iterations and leaves nothing) with `k` below the header count, and `i2` a non-empty rest whose
    flowset header is incomplete or announces (`length - 4`) more than what follows it.  Then
    `parse_bytes` returns one error whose `remaining` is the WHOLE packet — none of the `k` decoded
    flowsets is reported — but the parser state is `st1`, the state after those `k` flowsets: the
    caches HAVE learnt their templates (`C14_v9_after_state_changes` below shows `st1 ≠ st` happens). -/
theorem C14_announced_short_v9_after (c : Config) (hao : c.t.announceOk = true) (k : Nat) (st st1 : PState)
    (buf hb i1 i2 : Bytes) (ss : List V9Set)
    (hv : beU 2 buf = some (9, hb ++ (i1 ++ i2))) (ha : c.allowed.contains 9 = true)
    (hd : c.t.dispatch.lookup 9 = some 9) (hhb : hb.length = 18)
    (h1 : v9ParseSets c k st i1 = (st1, .ok (ss, []))) (hl : ss.length = k) (hk : k < beNat (hb.take 2))
    (hne : i2 ≠ []) (hs : i2.length < 4 ∨ i2.length - 4 < beNat ((i2.drop 2).take 2) - 4) :
    parseBytes c st buf = (st1, .done [.error (.partialParse 9 (hb ++ (i1 ++ i2))) buf]) :=
  parseBytes_fail c (ne_nil_of_beU (by decide +kernel) hv)
    (parsePacket_v9_short_after c hao k st st1 buf hb i1 i2 ss hv ha hd hhb h1 hl hk hne hs)

/-- **prefix form, generic**: a chain `qs` of accepted (self-delimiting) packets followed by a buffer
    `p` that `parse_packet_by_version` rejects in the state reached after the chain: the result is the
    chain's packets (what one call per packet returns) followed by ONE error whose `remaining` is
    exactly `p` -/
theorem C14_rejected_after_chain (c : Config) (hf : c.t.framingOk = true) (st : PState) (qs : List Bytes)
    (hq : chainOk c st qs = true) (p : Bytes) (st2 : PState) (e : ErrKind) (hne : p ≠ [])
    (hp : parsePacket c (foldCalls c st qs).1 p = (st2, .fail e)) :
    parseBytes c st (qs.flatten ++ p) = (st2, .done ((foldCalls c st qs).2 ++ [.error e p])) :=
  parseBytes_short_after_chain c st qs hq hne hp

/-- **C14, header-announced, prefix form**: a chain `qs` of accepted packets followed by a packet `p`
    that ends before the end its own header announces: `parse_bytes` returns the packets of the chain,
    then — as last element — the error `Partial(v, bytes after the version word)` whose `remaining`
    is exactly `p`; the state is the one reached after the chain. -/
theorem C14_announced_short_after_chain (c : Config) (hf : c.t.framingOk = true) (hok : c.t.ciscoOk = true)
    (hao : c.t.announceOk = true) (st : PState) (qs : List Bytes) (hq : chainOk c st qs = true)
    (p body : Bytes) (v : Nat)
    (hv : beU 2 p = some (v, body)) (ha : c.allowed.contains v = true) (hd : c.t.dispatch.lookup v = some v)
    (hs : announcedShort v body = true) :
    parseBytes c st (qs.flatten ++ p) =
      ((foldCalls c st qs).1, .done ((foldCalls c st qs).2 ++ [.error (.partialParse v body) p])) :=
  parseBytes_short_after_chain c st qs hq (ne_nil_of_beU (by decide +kernel) hv)
    (C14_announced_short_step c hok hao _ p body v hv ha hd hs)

/-- the same with the chain's result named, in the shape of `C14_truncated` -/
theorem C14_announced_short_after_chain' (c : Config) (hf : c.t.framingOk = true) (hok : c.t.ciscoOk = true)
    (hao : c.t.announceOk = true) (st st1 : PState) (qs : List Bytes) (out : List Packet)
    (hq : chainOk c st qs = true) (hpre : parseBytes c st qs.flatten = (st1, .done out))
    (p body : Bytes) (v : Nat)
    (hv : beU 2 p = some (v, body)) (ha : c.allowed.contains v = true) (hd : c.t.dispatch.lookup v = some v)
    (hs : announcedShort v body = true) :
    parseBytes c st (qs.flatten ++ p) = (st1, .done (out ++ [.error (.partialParse v body) p])) := by
  have hc := C11_chain c hf st qs hq
  rw [hpre] at hc
  simp only [Prod.mk.injEq, Outcome.done.injEq] at hc
  obtain ⟨e1, e2⟩ := hc
  rw [C14_announced_short_after_chain c hf hok hao st qs hq p body v hv ha hd hs, ← e1, ← e2]

/-- **prefix form, V9 after `k` complete flowsets**: chain, then a V9 packet whose `(k+1)`-th flowset
    is short: the chain's packets, then one error carrying the whole V9 packet; the state is the one
    after the chain AND the `k` flowsets -/
theorem C14_announced_short_v9_after_chain (c : Config) (hao : c.t.announceOk = true)
    (k : Nat) (st st1 : PState) (qs : List Bytes) (hq : chainOk c st qs = true)
    (p hb i1 i2 : Bytes) (ss : List V9Set)
    (hv : beU 2 p = some (9, hb ++ (i1 ++ i2))) (ha : c.allowed.contains 9 = true)
    (hd : c.t.dispatch.lookup 9 = some 9) (hhb : hb.length = 18)
    (h1 : v9ParseSets c k (foldCalls c st qs).1 i1 = (st1, .ok (ss, []))) (hl : ss.length = k)
    (hk : k < beNat (hb.take 2))
    (hne : i2 ≠ []) (hs : i2.length < 4 ∨ i2.length - 4 < beNat ((i2.drop 2).take 2) - 4) :
    parseBytes c st (qs.flatten ++ p) =
      (st1, .done ((foldCalls c st qs).2 ++ [.error (.partialParse 9 (hb ++ (i1 ++ i2))) p])) :=
  parseBytes_short_after_chain c st qs hq (ne_nil_of_beU (by decide +kernel) hv)
    (parsePacket_v9_short_after c hao k _ st1 p hb i1 i2 ss hv ha hd hhb h1 hl hk hne hs)

/-- the header facts hold for the generated layouts: V9 header 18 bytes with `count` first, flowset
    header 4 bytes with `length` second, IPFIX header 14 bytes with `length` first -/
theorem C14_generated_announceOk : Generated.tables.announceOk = true := by decide +kernel

theorem C14_generated_dispatch (v : Nat) (hv : v ∈ [5, 7, 9, 10]) : Generated.tables.dispatch.lookup v = some v := by
  simp only [List.mem_cons, List.not_mem_nil, or_false] at hv
  rcases hv with rfl | rfl | rfl | rfl <;> decide +kernel

/-- **C14, header-announced form, generated tables**: every allowed set containing the version,
    every cache state, every buffer -/
theorem C14_announced_short_generated (allowed : List Nat) (uf : Bool) (st : PState) (buf body : Bytes) (v : Nat)
    (hv : beU 2 buf = some (v, body)) (h4 : v ∈ [5, 7, 9, 10]) (ha : v ∈ allowed)
    (hs : announcedShort v body = true) :
    parseBytes { t := Generated.tables, allowed := allowed, unknownFields := uf } st buf =
      (st, .done [.error (.partialParse v body) buf]) :=
  C14_announced_short { t := Generated.tables, allowed := allowed, unknownFields := uf }
    C03_generated_ciscoOk C14_generated_announceOk st buf body v hv
    (by simpa using ha) (C14_generated_dispatch v h4) hs

/-- **prefix form, generated tables** -/
theorem C14_announced_short_after_chain_generated (allowed : List Nat) (uf : Bool) (st : PState) (qs : List Bytes)
    (p body : Bytes) (v : Nat) :
    let c : Config := { t := Generated.tables, allowed := allowed, unknownFields := uf }
    chainOk c st qs = true → beU 2 p = some (v, body) → v ∈ [5, 7, 9, 10] → v ∈ allowed →
    announcedShort v body = true →
    parseBytes c st (qs.flatten ++ p) =
      ((foldCalls c st qs).1, .done ((foldCalls c st qs).2 ++ [.error (.partialParse v body) p])) := by
  intro c hq hv h4 ha hs
  exact C14_announced_short_after_chain c C02_generated_framing C03_generated_ciscoOk C14_generated_announceOk
    st qs hq p body v hv (by simpa [c] using ha) (C14_generated_dispatch v h4) hs

/-- **V9 after `k` complete flowsets, generated tables** (alone and after a chain) -/
theorem C14_announced_short_v9_after_generated (allowed : List Nat) (uf : Bool) (k : Nat) (st st1 : PState)
    (qs : List Bytes) (p hb i1 i2 : Bytes) (ss : List V9Set) :
    let c : Config := { t := Generated.tables, allowed := allowed, unknownFields := uf }
    chainOk c st qs = true → beU 2 p = some (9, hb ++ (i1 ++ i2)) → 9 ∈ allowed → hb.length = 18 →
    v9ParseSets c k (foldCalls c st qs).1 i1 = (st1, .ok (ss, [])) → ss.length = k → k < beNat (hb.take 2) →
    i2 ≠ [] → (i2.length < 4 ∨ i2.length - 4 < beNat ((i2.drop 2).take 2) - 4) →
    parseBytes c st (qs.flatten ++ p) =
      (st1, .done ((foldCalls c st qs).2 ++ [.error (.partialParse 9 (hb ++ (i1 ++ i2))) p])) := by
  intro c hq hv ha hhb h1 hl hk hne hs
  exact C14_announced_short_v9_after_chain c C14_generated_announceOk k st st1 qs hq
    p hb i1 i2 ss hv (by simpa [c] using ha) (C14_generated_dispatch 9 (by decide +kernel)) hhb h1 hl hk hne hs

/-- the V9 antecedent read as "fewer flowsets than the header count announces" (instead of "a
    flowset shorter than its own length field"): a V9 buffer whose header announces `count ≥ 1`
    flowsets and that ends right after the header -/
def C14_v9_countShort : Prop :=
  ∀ (c : Config) (st : PState) (buf body : Bytes), c.t.framingOk = true → c.t.announceOk = true →
    beU 2 buf = some (9, body) → c.allowed.contains 9 = true → c.t.dispatch.lookup 9 = some 9 →
    body.length = 18 → 1 ≤ beNat (body.take 2) →
    ∃ st2, parseBytes c st buf = (st2, .done [.error (.partialParse 9 body) buf])

/-- … is accepted as a V9 packet with no flowsets (the flowset loop skips iterations on empty
    input): the header count is not an announced END of the packet for this crate, which is why the
    V9 clause of `announcedShort` asks for a short FLOWSET (as the property text does) -/
theorem C14_v9_countShort_fails : ¬ C14_v9_countShort := by
  intro h
  obtain ⟨st2, h1⟩ := h { t := Generated.tables, allowed := [9] } {}
    [0, 9, 0, 3, 0, 0, 0, 1, 0, 0, 0, 2, 0, 0, 0, 3, 0, 0, 0, 4]
    [0, 3, 0, 0, 0, 1, 0, 0, 0, 2, 0, 0, 0, 3, 0, 0, 0, 4]
    (by decide +kernel) (by decide +kernel) (by decide +kernel) (by decide +kernel) (by decide +kernel) (by decide +kernel) (by decide +kernel)
  have h2 : parseBytes { t := Generated.tables, allowed := [9] } {}
      [0, 9, 0, 3, 0, 0, 0, 1, 0, 0, 0, 2, 0, 0, 0, 3, 0, 0, 0, 4] = ({}, .done [.v9 [9, 3, 1, 2, 3, 4] []]) := by
    decide +kernel
  rw [h2] at h1
  simp at h1

-- `cfg`, `v5p`, `ipT` below are the fixtures of Props/C11.lean (namespace `C11ex`), as in `C11_example_chain1/2`
open C11ex

namespace C14bex
/-- V5 header announcing 2 records, one record present -/
def v5short : Bytes := [0,5, 0,2, 0,0,0,1, 0,0,0,2, 0,0,0,3, 0,0,0,4, 5,6, 0,7] ++ List.replicate 48 1
/-- V7 header announcing 1 record, 51 of its 52 bytes present -/
def v7short : Bytes := [0,7, 0,1, 0,0,0,1, 0,0,0,2, 0,0,0,3, 0,0,0,4, 0,0,0,0] ++ List.replicate 51 1
/-- IPFIX message of announced length 28, 24 bytes present -/
def ipShort : Bytes := [0,10, 0,28, 0,0,0,2, 0,0,0,2, 0,0,0,1,  1,0, 0,12, 10,0,0,1]
/-- V9, count 1, first flowset announces 16 bytes, 8 present -/
def v9short : Bytes := [0,9, 0,1, 0,0,0,1, 0,0,0,2, 0,0,0,3, 0,0,0,4,  0,0, 0,16, 1,0, 0,2]
/-- V9, count 2: a complete template flowset, then a data flowset announcing 12 bytes with 6 present -/
def v9short2 : Bytes := [0,9, 0,2, 0,0,0,1, 0,0,0,2, 0,0,0,3, 0,0,0,4,  0,0, 0,16, 1,0, 0,2, 0,8,0,4, 0,12,0,4,
  1,0, 0,12, 10,0]
def tmpl : V9Template := { id := 256, fieldCount := 2, fields := [{ typ := 8, len := 4 }, { typ := 12, len := 4 }] }
end C14bex
open C14bex

/-- `C14_announced_short_v5`: 72 bytes present, 24 + 2·48 = 120 announced -/
example : parseBytes cfg {} v5short = ({}, .done [.error (.partialParse 5 (v5short.drop 2)) v5short]) :=
  C14_announced_short_v5 cfg C03_generated_ciscoOk {} v5short (v5short.drop 2) (by decide +kernel) (by decide +kernel) (by decide +kernel)
    (by decide +kernel) (by decide +kernel)

/-- `C14_short_header_v5`: 10 bytes -/
example : parseBytes cfg {} (v5short.take 10) =
    ({}, .done [.error (.partialParse 5 ((v5short.take 10).drop 2)) (v5short.take 10)]) :=
  C14_short_header_v5 cfg C03_generated_ciscoOk {} _ _ (by decide +kernel) (by decide +kernel) (by decide +kernel) (by decide +kernel)

/-- `C14_announced_short_v7` -/
example : parseBytes cfg {} v7short = ({}, .done [.error (.partialParse 7 (v7short.drop 2)) v7short]) :=
  C14_announced_short_v7 cfg C03_generated_ciscoOk {} v7short (v7short.drop 2) (by decide +kernel) (by decide +kernel) (by decide +kernel)
    (by decide +kernel) (by decide +kernel)

/-- `C14_short_header_v7`: 23 bytes -/
example : parseBytes cfg {} (v7short.take 23) =
    ({}, .done [.error (.partialParse 7 ((v7short.take 23).drop 2)) (v7short.take 23)]) :=
  C14_short_header_v7 cfg C03_generated_ciscoOk {} _ _ (by decide +kernel) (by decide +kernel) (by decide +kernel) (by decide +kernel)

/-- `C14_announced_short_ipfix`: 24 < 28 -/
example : parseBytes cfg {} ipShort = ({}, .done [.error (.partialParse 10 (ipShort.drop 2)) ipShort]) :=
  C14_announced_short_ipfix cfg C14_generated_announceOk {} ipShort (ipShort.drop 2) (by decide +kernel) (by decide +kernel) (by decide +kernel)
    (by decide +kernel) (by decide +kernel)

/-- `C14_short_header_ipfix`: 9 bytes -/
example : parseBytes cfg {} (ipShort.take 9) =
    ({}, .done [.error (.partialParse 10 ((ipShort.take 9).drop 2)) (ipShort.take 9)]) :=
  C14_short_header_ipfix cfg C14_generated_announceOk {} _ _ (by decide +kernel) (by decide +kernel) (by decide +kernel) (by decide +kernel)

/-- `C14_announced_short_ipfix_decoded`: the decoded header says 28, 8 bytes follow it -/
example : parseBytes cfg {} ipShort = ({}, .done [.error (.partialParse 10 (ipShort.drop 2)) ipShort]) :=
  C14_announced_short_ipfix_decoded cfg C02_generated_framing {} ipShort (ipShort.drop 2) (by decide +kernel) (by decide +kernel) (by decide +kernel)
    (Or.inr ⟨[10, 28, 2, 2, 1], [1,0, 0,12, 10,0,0,1], by decide +kernel, by decide +kernel⟩)

/-- `C14_announced_short_v9`: 4 bytes follow the flowset header, 12 announced -/
example : parseBytes cfg {} v9short = ({}, .done [.error (.partialParse 9 (v9short.drop 2)) v9short]) :=
  C14_announced_short_v9 cfg C03_generated_ciscoOk C14_generated_announceOk {} v9short (v9short.drop 2) (by decide +kernel) (by decide +kernel) (by decide +kernel)
    (by decide +kernel) (by decide +kernel) (by decide +kernel)

/-- `C14_short_header_v9`: 22 bytes = header and half a flowset header -/
example : parseBytes cfg {} (v9short.take 22) =
    ({}, .done [.error (.partialParse 9 ((v9short.take 22).drop 2)) (v9short.take 22)]) :=
  C14_short_header_v9 cfg C03_generated_ciscoOk C14_generated_announceOk {} _ _ (by decide +kernel) (by decide +kernel) (by decide +kernel)
    (Or.inr (by decide +kernel))

/-- `C14_announced_short` / `announcedShort` on all five buffers -/
example : announcedShort 5 (v5short.drop 2) = true ∧ announcedShort 7 (v7short.drop 2) = true ∧
    announcedShort 10 (ipShort.drop 2) = true ∧ announcedShort 9 (v9short.drop 2) = true ∧
    announcedShort 9 (v9short2.drop 2) = false := by
  refine ⟨by decide +kernel, by decide +kernel, by decide +kernel, by decide +kernel, by decide +kernel⟩

/-- `C14_announced_short_v9_after` with `k = 1`: the template flowset is complete, the data flowset
    is short; one error carrying all 42 bytes, and the state returned has learnt template 256 -/
example : parseBytes cfg {} v9short2 =
    ({ v9T := [(256, tmpl)] }, .done [.error (.partialParse 9 (v9short2.drop 2)) v9short2]) :=
  C14_announced_short_v9_after cfg C14_generated_announceOk 1 {} { v9T := [(256, tmpl)] } v9short2
    [0,2, 0,0,0,1, 0,0,0,2, 0,0,0,3, 0,0,0,4] [0,0, 0,16, 1,0, 0,2, 0,8,0,4, 0,12,0,4] [1,0, 0,12, 10,0]
    [{ id := 0, len := 16, body := .templates [tmpl] [] }]
    (by decide +kernel) (by decide +kernel) (by decide +kernel) (by decide +kernel) (by decide +kernel) (by decide +kernel) (by decide +kernel) (by decide +kernel)
    (Or.inr (by decide +kernel))

/-- the state after a short V9 packet can differ from the state before (the template of the complete
    first flowset is cached although the packet is reported as an error) -/
theorem C14_v9_after_state_changes : (parseBytes cfg {} v9short2).1 ≠ {} := by decide +kernel

/-- `C14_announced_short_after_chain`: chain `[V5, IPFIX template]`, then the short IPFIX data message -/
example : parseBytes cfg {} ([v5p, ipT].flatten ++ ipShort) =
    ((foldCalls cfg {} [v5p, ipT]).1,
     .done ((foldCalls cfg {} [v5p, ipT]).2 ++ [.error (.partialParse 10 (ipShort.drop 2)) ipShort])) :=
  C14_announced_short_after_chain cfg C02_generated_framing C03_generated_ciscoOk C14_generated_announceOk {} [v5p, ipT] C11_example_chain2
    ipShort (ipShort.drop 2) 10 (by decide +kernel) (by decide +kernel) (by decide +kernel) (by decide +kernel)

/-- … the two packets of the chain really are reported before the error -/
example : ((foldCalls cfg {} [v5p, ipT]).2).length = 2 := by decide +kernel

/-- `C14_announced_short_after_chain'` -/
example : parseBytes cfg {} ([v5p, ipT].flatten ++ v5short) =
    ((parseBytes cfg {} [v5p, ipT].flatten).1,
     .done ((parseBytes cfg {} [v5p, ipT].flatten).2.pkts ++ [.error (.partialParse 5 (v5short.drop 2)) v5short])) :=
  C14_announced_short_after_chain' cfg C02_generated_framing C03_generated_ciscoOk C14_generated_announceOk {} _ [v5p, ipT] _ C11_example_chain2
    (by decide +kernel) v5short (v5short.drop 2) 5 (by decide +kernel) (by decide +kernel) (by decide +kernel) (by decide +kernel)

/-- `C14_announced_short_v9_after_chain`: chain `[V5]`, then the V9 packet whose second flowset is short -/
example : parseBytes cfg {} ([v5p].flatten ++ v9short2) =
    ({ v9T := [(256, tmpl)] },
     .done ((foldCalls cfg {} [v5p]).2 ++ [.error (.partialParse 9 (v9short2.drop 2)) v9short2])) :=
  C14_announced_short_v9_after_chain cfg C14_generated_announceOk 1 {} { v9T := [(256, tmpl)] } [v5p] C11_example_chain1
    v9short2 [0,2, 0,0,0,1, 0,0,0,2, 0,0,0,3, 0,0,0,4] [0,0, 0,16, 1,0, 0,2, 0,8,0,4, 0,12,0,4] [1,0, 0,12, 10,0]
    [{ id := 0, len := 16, body := .templates [tmpl] [] }]
    (by decide +kernel) (by decide +kernel) (by decide +kernel) (by decide +kernel) (by decide +kernel) (by decide +kernel) (by decide +kernel) (by decide +kernel)
    (Or.inr (by decide +kernel))

/-- `C14_rejected_after_chain` with a rejected buffer of another kind (a lone byte: `Incomplete`) -/
example : parseBytes cfg {} ([v5p].flatten ++ [0]) =
    ((foldCalls cfg {} [v5p]).1, .done ((foldCalls cfg {} [v5p]).2 ++ [.error .incomplete [0]])) :=
  C14_rejected_after_chain cfg C02_generated_framing {} [v5p] C11_example_chain1 [0] _ .incomplete (by decide +kernel) (by decide +kernel)

/-- the generated-tables corollaries, instantiated -/
example : parseBytes { t := Generated.tables, allowed := [9, 10], unknownFields := false } {} v9short =
    ({}, .done [.error (.partialParse 9 (v9short.drop 2)) v9short]) :=
  C14_announced_short_generated [9, 10] false {} v9short (v9short.drop 2) 9 (by decide +kernel) (by decide +kernel) (by decide +kernel) (by decide +kernel)

end Netflow.Props
