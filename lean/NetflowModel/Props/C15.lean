/-
  Props/C15.lean — C15 "Parsing cost is bounded by input size plus output size".

  C15 has two halves.
  * FIRST half (heap bytes requested from the Rust allocator during one `parse_bytes` call
    ≤ A·|buf| + B·size(result) + C): this is a property of the Rust allocator traffic; it is
    MEASURED by the harness's counting allocator (`Cost.allocBounded`); the work that causes it is modelled in
    `CostWork.lean` and bounded in Props/C15c.lean (record loops), C15d.lean (a whole V9 packet / IPFIX message) and C15b.lean (copies, field counts).
  * SECOND half, proved here about the Lean model: the size of the RESULT (`Cost.resultSize`) is at
    most a fixed multiple of the bytes received.  The full statement (`C15_full`) is FALSE of the
    model (`C15_full_fails`, the known zero-length-field defect); it holds when no template, cached
    or announced in the buffer, has a field of declared length zero (`C15_result_linear_partial`),
    with constants D = 115, E = 184 — within the oracle's D = 256, E = 1024 — and the cached
    templates' wire size is not even needed on the right-hand side.
-/
import NetflowModel.Lemmas.CostTop
import NetflowModel.Lemmas.CostLower
import NetflowModel.Lemmas.Locality
import NetflowModel.Props.C02
import NetflowModel.CostCopy
namespace Netflow.Props
open Netflow Cost B3

/-- the generated tables under any allowed-version list and either setting of `parse_unknown_fields` -/
def cfg15 (allowed : List Nat) (uf : Bool) : Config :=
  { t := Generated.tables, allowed := allowed, unknownFields := uf }

/-- the side condition of `B3.run_size` holds for the generated tables -/
theorem C15_generated_costOk : costOk Generated.tables = true := by decide

/-- `q` of the packets a call returns (false if the call does not return) -/
def check15 (c : Config) (st : PState) (buf : Bytes) (q : List Packet → Bool) : Bool :=
  match parseBytes c st buf with
  | (_, .done pkts) => q pkts
  | _ => false

/-- an evaluated `check15` yields the run and the checked fact about its packets -/
theorem check15_sound {c : Config} {st : PState} {buf : Bytes} {q : List Packet → Bool}
    (h : check15 c st buf q = true) : ∃ st' pkts, parseBytes c st buf = (st', .done pkts) ∧ q pkts = true := by
  unfold check15 at h
  split at h
  · next st' pkts he => exact ⟨st', pkts, he, h⟩
  · simp at h

/-- every record that is returned was present: the parser consumed exactly the header plus
    `rec.wireLen` bytes per record, and the number of records is the header's `count`. -/
theorem C15_fixed_linear (c : Config) (hdr rec : Layout) (i : Bytes) (h : List Nat) (rs : List (List Nat)) (r : Bytes)
    (hp : parseFixed c hdr rec i = some ((h, rs), r)) :
    r.length + hdr.wireLen + rec.wireLen * rs.length = i.length :=
  (parseFixed_len c hdr rec i h rs r hp).1

/-- V5: a 48-byte record costs 56, so the packet costs at most 64 + 2·(bytes consumed) -/
theorem C15_fixed_linear_v5_generated (allowed : List Nat) (uf : Bool) (i : Bytes) (h : List Nat)
    (rs : List (List Nat)) (r : Bytes)
    (hp : parseFixed (cfg15 allowed uf) Generated.tables.v5Hdr Generated.tables.v5Rec i = some ((h, rs), r)) :
    packetSize (.v5 h rs) ≤ 64 + 2 * (i.length - r.length) := by
  have h1 := C15_fixed_linear _ _ _ _ _ _ _ hp
  have h2 : Layout.wireLen Generated.tables.v5Rec = 48 := by decide
  rw [h2] at h1
  simp only [packetSize]
  omega

/-- V7: a 52-byte record costs 60 -/
theorem C15_fixed_linear_v7_generated (allowed : List Nat) (uf : Bool) (i : Bytes) (h : List Nat)
    (rs : List (List Nat)) (r : Bytes)
    (hp : parseFixed (cfg15 allowed uf) Generated.tables.v7Hdr Generated.tables.v7Rec i = some ((h, rs), r)) :
    packetSize (.v7 h rs) ≤ 64 + 2 * (i.length - r.length) := by
  have h1 := C15_fixed_linear _ _ _ _ _ _ _ hp
  have h2 : Layout.wireLen Generated.tables.v7Rec = 52 := by decide
  rw [h2] at h1
  simp only [packetSize]
  omega

/-- non-vacuity: a V5 packet with two records (24 + 2·48 bytes after the version) -/
example : (match parseFixed (cfg15 [5] true) Generated.tables.v5Hdr Generated.tables.v5Rec
      (toBE 2 2 ++ List.replicate (20 + 96) 7) with
    | some ((_, rs), r) => rs.length == 2 && r.isEmpty
    | none => false) = true := by decide +kernel

/-- `String::from_utf8_lossy` can TRIPLE the length (each invalid byte becomes U+FFFD = 3 bytes),
    and no more -/
theorem C15_utf8Lossy_triples (bs : Bytes) : (utf8Lossy bs).length ≤ 3 * bs.length :=
  utf8Lossy_length bs

/-- the factor 3 is attained -/
example : (utf8Lossy [0xFF, 0xFF]).length = 3 * 2 := by decide

/-- a decoded field value is no larger than 32 plus three times the bytes it consumed
    (`str` triples; `mac` turns 6 bytes into 17 characters; everything else is 32 or a copy) -/
theorem C15_value_linear (vc : ValueCfg) (ty : FType) (len : Nat) (i r : Bytes) (v : FieldValue)
    (h : parseValue vc ty len i = some (v, r)) :
    r.length ≤ i.length ∧ valueSize v ≤ 32 + 3 * (i.length - r.length) := by
  obtain ⟨n, h1, h2, _⟩ := parseValue_cost h
  exact ⟨by omega, by omega⟩

/-- a field of declared length ≥ 1 consumed at least one byte -/
theorem C15_value_progress (vc : ValueCfg) (ty : FType) (len : Nat) (i r : Bytes) (v : FieldValue)
    (hl : 1 ≤ len) (h : parseValue vc ty len i = some (v, r)) : r.length < i.length := by
  obtain ⟨n, h1, _, h3⟩ := parseValue_cost h
  have := h3 hl
  omega

/-- V9: a record decoded with a template of `k` fields has `k` entries,
    however few bytes were consumed -/
theorem C15_record_entries_v9 (c : Config) (fs : List TField) (idx : Nat) (i : Bytes) (es : Rec) (r : Bytes)
    (h : v9ParseRec c fs idx i = some (es, r)) : es.length = fs.length :=
  (v9ParseRec_length c fs idx i es r h).1

/-- IPFIX: a record decoded with a template of `k` fields yields `k` maps -/
theorem C15_record_entries_ipfix (c : Config) (fs : List IpTField) (idx : Nat) (i : Bytes) (es : List Rec) (r : Bytes)
    (h : ipParseRec c fs idx i = some (es, r)) : es.length = fs.length :=
  (ipParseRec_length c fs idx i es r h).1

/-- V9 data record under an honest, non-empty field list: at most 115 per byte consumed -/
theorem C15_v9_record_linear (c : Config) (fs : List TField) (hf : honestFs fs = true) (hne : fs ≠ [])
    (idx : Nat) (i : Bytes) (es : Rec) (r : Bytes) (h : v9ParseRec c fs idx i = some (es, r)) :
    r.length ≤ i.length ∧ recSize es ≤ 115 * (i.length - r.length) := by
  obtain ⟨h1, h2⟩ := v9ParseRec_cost c fs hf hne idx i es r h
  exact ⟨h1, by omega⟩

example : honestFs [⟨4, 1⟩, ⟨8, 4⟩] = true ∧ ([⟨4, 1⟩, ⟨8, 4⟩] : List TField) ≠ [] := by decide

/-- IPFIX data record under an honest field list: at most 115 per byte consumed
    (every field is its own map: 64 + 16 + 32 + 3·payload) -/
theorem C15_ipfix_record_linear (c : Config) (fs : List IpTField) (hf : honestIpFs fs = true)
    (idx : Nat) (i : Bytes) (es : List Rec) (r : Bytes) (h : ipParseRec c fs idx i = some (es, r)) :
    r.length ≤ i.length ∧ (es.map recSize).sum ≤ 115 * (i.length - r.length) := by
  obtain ⟨h1, h2⟩ := ipParseRec_cost c fs hf idx i es r h
  exact ⟨by omega, by omega⟩

example : honestIpFs [⟨82, 65535, none⟩, ⟨1, 4, some 9⟩] = true := by decide

/-- **C15, second half, partial.**  If no cached template and no template reported in the result
    has a field of declared length zero, the size of the result of `parse_bytes` is at most
    `115·|buf| + 184`.  Missing for the full property: the two honesty hypotheses
    (`C15_full_fails` shows they cannot be dropped).  `costOk` holds for the generated tables. -/
theorem C15_result_linear_partial (c : Config) (hc : costOk c.t = true) (st st' : PState) (buf : Bytes)
    (pkts : List Packet) (hH : Honest st = true) (h : parseBytes c st buf = (st', .done pkts))
    (hP : HonestPkts pkts = true) :
    resultSize pkts ≤ 115 * buf.length + 184 := by
  have := run_size (I := fun st => Honest st = true) (Q9 := fun b => honestV9Body b = true)
    (Qi := fun b => honestIpBody b = true) (QP := fun p => honestPkt p = true) hc (by omega) (v9ParseBody_cost c)
    (fun st st' id body b hH h hb => by have := ipParseBody_cost c st st' id body b hH h hb; exact ⟨this.1, by omega⟩)
    (fun _ _ h => List.all_eq_true.1 h) (fun _ _ h => List.all_eq_true.1 h) (parseBytes_run h) hH (List.all_eq_true.1 hP)
  simp only [resultSize]
  omega

/-- … hence the oracle's predicate with D = 256, E = 1024 (and with D = 115, E = 184) -/
theorem C15_result_bounded_partial (c : Config) (hc : costOk c.t = true) (st st' : PState) (buf : Bytes)
    (pkts : List Packet) (hH : Honest st = true) (h : parseBytes c st buf = (st', .done pkts))
    (hP : HonestPkts pkts = true) :
    resultBounded 115 184 buf st pkts = true ∧ resultBounded 256 1024 buf st pkts = true := by
  have := C15_result_linear_partial c hc st st' buf pkts hH h hP
  simp only [resultBounded, decide_eq_true_eq]
  have h1 : 115 * (buf.length + stateWire st) = 115 * buf.length + 115 * stateWire st := Nat.mul_add _ _ _
  have h2 : 256 * (buf.length + stateWire st) = 256 * buf.length + 256 * stateWire st := Nat.mul_add _ _ _
  exact ⟨by omega, by omega⟩

/-- the oracle's constants (256, 1024) for the generated tables, under the honesty hypotheses -/
theorem C15_result_bounded_generated (allowed : List Nat) (uf : Bool) (st st' : PState) (buf : Bytes)
    (pkts : List Packet) (hH : Honest st = true)
    (h : parseBytes (cfg15 allowed uf) st buf = (st', .done pkts)) (hP : HonestPkts pkts = true) :
    resultBounded 256 1024 buf st pkts = true :=
  (C15_result_bounded_partial (cfg15 allowed uf) C15_generated_costOk st st' buf pkts hH h hP).2

/-- IPFIX message: header (length 20 + |body|), one set `setId` with body `body` -/
def ipMsg15 (setId : Nat) (body : Bytes) : Bytes :=
  toBE 2 10 ++ toBE 2 (20 + body.length) ++ toBE 4 0 ++ toBE 4 0 ++ toBE 4 0 ++
  toBE 2 setId ++ toBE 2 (4 + body.length) ++ body

/-- IPFIX template 256: `k` string fields (interfaceName, 82) of declared length `z`, then one
    string field of length 1 -/
def tpl15 (k z : Nat) : IpTemplate :=
  { id := 256, fieldCount := k + 1, fields := List.replicate k ⟨82, z, none⟩ ++ [⟨82, 1, none⟩], pad := [] }

/-- non-vacuity of `C15_result_linear_partial`: an honest cached template (3 fields of 1 byte) and a
    data set of 30 bytes (10 records, 30 maps) -/
example : Honest { ipT := [(256, tpl15 2 1)] } = true ∧
    ∃ st' pkts, parseBytes (cfg15 [10] true) { ipT := [(256, tpl15 2 1)] } (ipMsg15 256 (List.replicate 30 65)) = (st', .done pkts) ∧
      (HonestPkts pkts && decide (resultSize pkts = 24 + 64 + 48 + 30 * 113)) = true :=
  ⟨by decide, check15_sound (by decide +kernel)⟩

/-- the constant 115 is attained per byte: 400 one-byte records of an invalid UTF-8 byte under an
    honest one-field template cost `115·400 + 136` for a 420-byte buffer -/
theorem C15_constant_sharp :
    Honest { ipT := [(256, tpl15 0 1)] } = true ∧
    ∃ st' pkts, parseBytes (cfg15 [10] true) { ipT := [(256, tpl15 0 1)] } (ipMsg15 256 (List.replicate 400 0xFF)) = (st', .done pkts) ∧
      (HonestPkts pkts && decide (resultSize pkts = 115 * 400 + 136)) = true :=
  ⟨by decide, check15_sound (by decide +kernel)⟩

/-- the full second half of C15 (no honesty hypotheses) for constants `D`, `E` -/
def C15_full (D E : Nat) : Prop :=
  ∀ (allowed : List Nat) (uf : Bool) (st st' : PState) (buf : Bytes) (pkts : List Packet),
    parseBytes (cfg15 allowed uf) st buf = (st', .done pkts) → resultBounded D E buf st pkts = true

/-- the run that the witnesses of this defect share: one element, of size 91,996, announcing no template -/
theorem zeroLen_run :
    ∃ st' pkts, parseBytes (cfg15 [10] true) { ipT := [(256, tpl15 40 0)] } (ipMsg15 256 (List.replicate 20 65)) = (st', .done pkts) ∧
      (decide (pkts.length = 1) && decide (resultSize pkts = 91996) && decide (pktsMaxFields pkts = 0)) = true :=
  check15_sound (by decide +kernel)

/-- cached IPFIX template with 40 zero-length string fields and one 1-byte field, data set of 20
    one-byte records: 40 bytes of buffer + 168 bytes of template wire produce a result of 91,996. -/
theorem C15_zero_length_fails :
    ∃ st' pkts, parseBytes (cfg15 [10] true) { ipT := [(256, tpl15 40 0)] } (ipMsg15 256 (List.replicate 20 65)) = (st', .done pkts) ∧
      ((ipMsg15 256 (List.replicate 20 65)).length + stateWire { ipT := [(256, tpl15 40 0)] } == 208 &&
       decide (resultSize pkts = 91996) && !resultBounded 256 1024 (ipMsg15 256 (List.replicate 20 65)) { ipT := [(256, tpl15 40 0)] } pkts) = true := by
  obtain ⟨st', pkts, hp, hq⟩ := zeroLen_run
  simp only [Bool.and_eq_true, decide_eq_true_eq] at hq
  refine ⟨st', pkts, hp, ?_⟩
  rw [resultBounded, hq.1.2]
  decide +kernel

/-- the second half of C15 without honesty hypotheses is false of the model at the oracle's constants -/
theorem C15_full_fails : ¬ C15_full 256 1024 := by
  intro hfull
  obtain ⟨st', pkts, hp, hq⟩ := C15_zero_length_fails
  have := hfull _ _ _ _ _ _ hp
  simp only [Bool.and_eq_true, Bool.not_eq_true'] at hq
  rw [this] at hq
  exact absurd hq.2 (by decide)

/-- template set body announcing `tpl15 k 0` -/
def tplBody15 (k : Nat) : Bytes :=
  toBE 2 256 ++ toBE 2 (k + 1) ++ (List.replicate k (toBE 2 82 ++ toBE 2 0)).flatten ++ toBE 2 82 ++ toBE 2 1

/-- the same with an EMPTY cache: the template is announced in the same buffer (first message) and
    used by the second; `Honest st` holds, `HonestPkts pkts` does not, and the bound fails. -/
theorem C15_zero_length_fails_same_buffer :
    Honest {} = true ∧
    ∃ st' pkts, parseBytes (cfg15 [10] true) {} (ipMsg15 2 (tplBody15 40) ++ ipMsg15 256 (List.replicate 20 65)) = (st', .done pkts) ∧
      (!HonestPkts pkts && decide (pkts.length = 2) &&
       !resultBounded 256 1024 (ipMsg15 2 (tplBody15 40) ++ ipMsg15 256 (List.replicate 20 65)) {} pkts) = true := by
  -- the first message is a packet of its own and leaves the cache of `zeroLen_run`
  obtain ⟨pA, hA, hc, hh, hsz⟩ : ∃ pA, parsePacket (cfg15 [10] true) {} (ipMsg15 2 (tplBody15 40)) =
      ({ ipT := [(256, tpl15 40 0)] }, .ok pA []) ∧ pktCountOk (cfg15 [10] true) pA = true ∧ honestPkt pA = false ∧
      packetSize pA = 800 :=
    ⟨.ipfix [10, 188, 0, 0, 0] [{ id := 2, len := 172, body := .template (tpl15 40 0) }], by decide +kernel, rfl,
      by decide, by decide⟩
  obtain ⟨st', pkts, hp, hq⟩ := zeroLen_run
  simp only [Bool.and_eq_true, decide_eq_true_eq] at hq
  have hAB := parseBytes_selfDelimiting_append _ hA hc (ipMsg15 256 (List.replicate 20 65))
  rw [hp] at hAB
  refine ⟨by decide, _, _, hAB, ?_⟩
  have hs : resultSize (pA :: pkts) = 800 + 91996 := by
    rw [← hq.1.2, ← hsz]; simp only [resultSize, List.map_cons, List.sum_cons]; omega
  rw [resultBounded, hs, HonestPkts, List.all_cons, hh, Bool.false_and, List.length_cons, hq.1.1]
  decide +kernel

/-- V9 message: header (count 1), one flowset -/
def v9Msg15 (setId : Nat) (body : Bytes) : Bytes :=
  toBE 2 9 ++ toBE 2 1 ++ toBE 4 0 ++ toBE 4 0 ++ toBE 4 0 ++ toBE 4 0 ++
  toBE 2 setId ++ toBE 2 (4 + body.length) ++ body

/-- V9: cached template with 60 zero-length string fields (94) and one 1-byte field; every body byte yields a
    61-entry map -/
theorem C15_zero_length_fails_v9 :
    ∃ st' pkts, parseBytes (cfg15 [9] true)
        { v9T := [(256, { id := 256, fieldCount := 61, fields := List.replicate 60 ⟨94, 0⟩ ++ [⟨4, 1⟩] })] }
        (v9Msg15 256 (List.replicate 40 6)) = (st', .done pkts) ∧
      (!resultBounded 256 1024 (v9Msg15 256 (List.replicate 40 6))
        { v9T := [(256, { id := 256, fieldCount := 61, fields := List.replicate 60 ⟨94, 0⟩ ++ [⟨4, 1⟩] })] } pkts) = true :=
  check15_sound (by decide +kernel)

/-- the defect for every `k` and every body (any configuration): an IPFIX template with `k`
    zero-length (enterprise) fields and one 1-byte field turns each body byte into `k + 1` maps:
    `(k + 1)·|body|` maps of total size `(112·(k + 1) + 1)·|body|`, from `|body|` bytes of data and
    `4 + 4·(k + 1)` bytes of template (`Cost.stateWire`). -/
theorem C15_zero_length_lower_bound (c : Config) (st : PState) (id k : Nat) (t : IpTemplate) (body : Bytes)
    (h1 : ¬ (id < c.t.ipSetMinRange ∧ id ≠ c.t.ipOptTemplateId)) (h2 : id ≠ c.t.ipOptTemplateId)
    (hl : amLookup id st.ipT = some t) (ht : t.fields = zeroFs k) (hb : body ≠ []) :
    ∃ recs, ipParseBody c st id body = (st, .ok (.data recs [])) ∧ recs.length = (k + 1) * body.length ∧
      (recs.map recSize).sum = (112 * (k + 1) + 1) * body.length := by
  obtain ⟨recs, a1, a2, a3⟩ := ipRecLoop_zeroFs c k body (body.length + 1) hb (by omega)
  refine ⟨recs, ?_, a2, a3⟩
  unfold ipParseBody
  rw [if_neg h1, if_neg h2]
  simp only [hl, ht, a1]
  simp [zeroFs]

/-- non-vacuity for the generated tables: set id 256, template cached under 256 -/
example : ¬ (256 < (cfg15 [10] true).t.ipSetMinRange ∧ 256 ≠ (cfg15 [10] true).t.ipOptTemplateId) ∧
    256 ≠ (cfg15 [10] true).t.ipOptTemplateId ∧
    amLookup 256 ({ ipT := [(256, { id := 256, fieldCount := 4, fields := zeroFs 3, pad := [] })] } : PState).ipT =
      some { id := 256, fieldCount := 4, fields := zeroFs 3, pad := [] } := by decide

/-- hence NO constants work: for all `D`, `E` there are a template (`k` zero-length fields) and a
    data body whose records are larger than `D·(|body| + wire size of the template) + E`. -/
theorem C15_zero_length_unbounded (c : Config) (D E : Nat) :
    ∃ (k : Nat) (body : Bytes) (recs : List Rec),
      ipRecLoop c (zeroFs k) (body.length + 1) body = .ok (recs, []) ∧
      D * (body.length + (4 + 4 * (zeroFs k).length)) + E < (recs.map recSize).sum := by
  -- `n = D + E + 1` zero-length fields and `n` body bytes: `D·(5n + 4) + E ≤ 9·n² + E < 112·n² + n`
  obtain ⟨n, hn⟩ : ∃ n, n = D + E + 1 := ⟨_, rfl⟩
  have hne : List.replicate n (0 : UInt8) ≠ [] := by rw [hn]; simp [List.replicate_succ]
  obtain ⟨recs, h1, _, h3⟩ := ipRecLoop_zeroFs c (D + E) (List.replicate n 0) ((List.replicate n (0 : UInt8)).length + 1)
    hne (by omega)
  refine ⟨D + E, List.replicate n 0, recs, h1, ?_⟩
  rw [h3, zeroFs_length, List.length_replicate, ← hn]
  have e1 : D * (n + (4 + 4 * n)) ≤ D * (9 * n) := Nat.mul_le_mul_left D (by omega)
  have e2 : D * (9 * n) = 9 * (D * n) := Nat.mul_left_comm D 9 n
  have e3 : D * n ≤ n * n := Nat.mul_le_mul_right n (by omega)
  have e4 : (112 * n + 1) * n = 112 * (n * n) + n := by rw [Nat.add_mul, Nat.mul_assoc, Nat.one_mul]
  omega

/-- `count(p, n)` with a parser that consumes at least one byte per item: as many items as
    announced, and that many bytes were there -/
theorem C15_count_needs_bytes {α : Type} (p : P α) (hp : ∀ i a r, p i = some (a, r) → r.length + 1 ≤ i.length)
    (n : Nat) (i : Bytes) (xs : List α) (r : Bytes) (h : countP p n i = some (xs, r)) :
    xs.length = n ∧ r.length + xs.length ≤ i.length := by
  obtain ⟨h1, h2⟩ := countP_len hp n i xs r h
  exact ⟨h1, by omega⟩

/-- V5/V7: `header.count` records are returned only if `rec.wireLen · count` bytes follow the header -/
theorem C15_fixed_count_needs_bytes (c : Config) (hdr rec : Layout) (i : Bytes) (h : List Nat) (rs : List (List Nat)) (r : Bytes)
    (hp : parseFixed c hdr rec i = some ((h, rs), r)) :
    rs.length = hdr.get "count" h ∧ hdr.wireLen + rec.wireLen * hdr.get "count" h ≤ i.length := by
  obtain ⟨h1, h2⟩ := parseFixed_len c hdr rec i h rs r hp
  rw [← h2]
  exact ⟨rfl, by omega⟩

/-- a V5 header announcing 65,535 records over a short body produces nothing -/
example : parseFixed (cfg15 [5] true) Generated.tables.v5Hdr Generated.tables.v5Rec
    (toBE 2 65535 ++ List.replicate 500 0) = none := by decide +kernel

/-- V9 template: `field_count` fields are returned only if `4·field_count` bytes follow -/
theorem C15_v9_template_fields_need_bytes (i : Bytes) (t : V9Template) (r : Bytes) (h : parseV9Template i = some (t, r)) :
    r.length + 4 + 4 * t.fields.length ≤ i.length :=
  parseV9Template_len i t r h

/-- V9 data flowset: at most `|body| / total` records (whatever the template) -/
theorem C15_v9_record_count (c : Config) (fs : List TField) (total : Nat) (body : Bytes) (recs : List Rec) (pad : Bytes)
    (h : v9RecLoop c fs (body.length / total) body [] = (recs, pad)) :
    recs.length ≤ body.length / total ∧ recs.length * total ≤ body.length ∧ pad.length ≤ body.length := by
  obtain ⟨h1, h2⟩ := v9RecLoop_count c fs _ _ _ _ _ h
  simp only [List.length_nil, Nat.zero_add] at h1
  refine ⟨h1, ?_, h2⟩
  calc recs.length * total ≤ (body.length / total) * total := Nat.mul_le_mul_right _ h1
    _ ≤ body.length := Nat.div_mul_le_self _ _

/-- IPFIX data set under an honest template: at most one map per body byte -/
theorem C15_ipfix_record_count (c : Config) (fs : List IpTField) (hf : honestIpFs fs = true)
    (fuel : Nat) (body : Bytes) (recs : List Rec) (pad : Bytes)
    (h : ipRecLoop c fs fuel body = .ok (recs, pad)) : recs.length + pad.length ≤ body.length :=
  (ipRecLoop_cost c fs hf fuel body recs pad h).2

end Netflow.Props
