/-
  Props/C15b.lean — C15 "Parsing cost is bounded by input size plus output size", continued.

  `Props/C15.lean` bounds the size of the RESULT under `Honest st ∧ HonestPkts pkts`.  Here:
  A. the bytes COPIED by `parse_bytes` itself (`Cost.copyCost`: the initial `packet.to_vec()`, the `remaining.to_vec()` of
     every `ParsedNetflow`, the copy inside `Partial` / `UnknownVersion`): at most one copy of the buffer per element
     returned, and exactly quadratic on a buffer packed with header-only IPFIX messages (known finding "buffer packed with
     packets", as a theorem);
  B. the size of the result WITHOUT the honesty hypotheses: linear with a constant that grows with the largest number of
     fields of a data template, hence at most (bytes) × (fields) for every state and buffer, and that product is attained.
-/
import NetflowModel.Lemmas.FieldBound
import NetflowModel.Props.C15
namespace Netflow.Props
open Netflow Cost B3 P5

/-- every element of the result accounts for at most one copy of the buffer, on top of the initial
    copy (any configuration, any state, any buffer; no hypothesis) -/
theorem C15_copy_upper_sharp (c : Config) (st : PState) (buf : Bytes) :
    copyCost c (buf.length + 1) st buf ≤ buf.length * (npkts c st buf + 1) := by
  have := copyLoop_le c (buf.length + 1) st buf
  unfold copyCost npkts parseBytes
  rw [Nat.mul_succ]
  omega

/-- **C15, copies, upper bound**: the bytes copied during one `parse_bytes` call are at most
    `|buf|·(npkts + 3)`, `npkts` = number of elements returned — linear in `|buf|` whenever the number
    of packets per buffer is bounded (one datagram = one packet: `C15_copy_single`). -/
theorem C15_copy_upper (c : Config) (st : PState) (buf : Bytes) :
    copyCost c (buf.length + 1) st buf ≤ buf.length * (npkts c st buf + 3) := by
  have h1 := C15_copy_upper_sharp c st buf
  have h2 : buf.length * (npkts c st buf + 1) ≤ buf.length * (npkts c st buf + 3) :=
    Nat.mul_le_mul_left _ (by omega)
  omega

/-- one datagram = one packet: at most two copies of the buffer -/
theorem C15_copy_single (c : Config) (st st' : PState) (buf : Bytes) (p : Packet)
    (h : parseBytes c st buf = (st', .done [p])) : copyCost c (buf.length + 1) st buf ≤ 2 * buf.length := by
  have h1 := C15_copy_upper_sharp c st buf
  have : npkts c st buf = 1 := by simp [npkts, h, outPkts]
  rw [this] at h1
  omega

/-- non-vacuity of `C15_copy_single`: one V5 packet with two records -/
example : ∃ st' p, parseBytes (cfg15 [5] true) {} (toBE 2 5 ++ toBE 2 2 ++ List.replicate (20 + 96) 7) = (st', .done [p]) :=
  match check15_sound (c := cfg15 [5] true) (st := {}) (buf := toBE 2 5 ++ toBE 2 2 ++ List.replicate (20 + 96) 7)
      (q := fun ps => decide (ps.length = 1)) (by decide +kernel) with
  | ⟨st', [p], h, _⟩ => ⟨st', p, h⟩
  | ⟨_, [], _, hq⟩ => by simp at hq
  | ⟨_, _ :: _ :: _, _, hq⟩ => by simp at hq

/-- the generated tables (with version 10 allowed) accept a header-only IPFIX message -/
theorem C15_generated_packOk (allowed : List Nat) (uf : Bool) (h10 : allowed.contains 10 = true) :
    packOk (cfg15 allowed uf) = true := by
  have h : packOk (cfg15 [10] true) = true := by decide
  simp only [packOk, cfg15, Bool.and_eq_true] at h ⊢
  exact ⟨⟨⟨h10, h.1.1.2⟩, h.1.2⟩, h.2⟩

/-- **the extremal family**: on a buffer of `n` header-only IPFIX messages (16 bytes each)
    `parse_bytes` copies `16·n` bytes up front and `16·(n-1-i)` bytes after message `i`:
    exactly `8·n·(n+1)` bytes in total, i.e. `16·n + 8·n·(n-1)`. -/
theorem C15_copy_packed (c : Config) (hk : packOk c = true) (n : Nat) (st : PState) :
    copyCost c ((packed n).length + 1) st (packed n) = 16 * n + packedCopies n ∧
    copyCost c ((packed n).length + 1) st (packed n) = 8 * (n * n) + 8 * n ∧
    (packed n).length = 16 * n ∧ npkts c st (packed n) = n := by
  have h1 := copyLoop_packed c hk n ((packed n).length + 1) st (by rw [packed_length]; omega)
  have h2 := packedCopies_closed n
  have h3 := packed_length n
  obtain ⟨pkts, h4, h5⟩ := run_packed c hk st n
  refine ⟨?_, ?_, h3, ?_⟩
  · unfold copyCost; rw [h1, h3]
  · unfold copyCost; rw [h1, h3]; omega
  · simp only [npkts, parseBytes_done_iff.2 h4, outPkts, h5]

/-- … hence at least `8·n·(n-1)` -/
theorem C15_copy_packed_lower (c : Config) (hk : packOk c = true) (n : Nat) (st : PState) :
    8 * (n * (n - 1)) ≤ copyCost c ((packed n).length + 1) st (packed n) := by
  obtain ⟨_, h, _, _⟩ := C15_copy_packed c hk n st
  rw [h]
  have : n * (n - 1) ≤ n * n := Nat.mul_le_mul_left n (by omega)
  omega

/-- the statement that FAILS: the bytes copied by `parse_bytes` are bounded by a fixed multiple of the
    buffer length (plus a constant) -/
def C15_copy_linear (c : Config) (st : PState) : Prop :=
  ∃ A B, ∀ buf : Bytes, copyCost c (buf.length + 1) st buf ≤ A * buf.length + B

/-- **C15, copies, no linear bound** (known finding "buffer packed with packets"): whatever the
    cache state, no constants `A`, `B` bound the copied bytes by `A·|buf| + B`; the witness for
    `A`, `B` is the buffer of `2A + B + 1` header-only IPFIX messages. -/
theorem C15_copy_quadratic_fails (c : Config) (hk : packOk c = true) (st : PState) :
    ¬ ∃ A B, ∀ buf : Bytes, copyCost c (buf.length + 1) st buf ≤ A * buf.length + B := by
  rintro ⟨A, B, h⟩
  obtain ⟨n, hn⟩ : ∃ n, n = 2 * A + B + 1 := ⟨_, rfl⟩
  have h1 := h (packed n)
  obtain ⟨_, h2, h3, _⟩ := C15_copy_packed c hk n st
  rw [h2, h3] at h1
  have e1 : A * (16 * n) = 16 * (A * n) := Nat.mul_left_comm _ _ _
  have e2 : n * n = 2 * (A * n) + B * n + n := by
    have : n * n = (2 * A + B + 1) * n := congrArg (· * n) hn
    rw [this, Nat.add_mul, Nat.add_mul, Nat.one_mul, Nat.mul_assoc]
  have e3 : B ≤ B * n := Nat.le_mul_of_pos_right _ (by omega)
  rw [e1, e2] at h1
  omega

theorem C15_copy_linear_fails (c : Config) (hk : packOk c = true) (st : PState) : ¬ C15_copy_linear c st :=
  C15_copy_quadratic_fails c hk st

/-- for the tables generated from the Rust source, every allowed set containing 10, every cache -/
theorem C15_copy_quadratic_fails_generated (allowed : List Nat) (uf : Bool) (h10 : allowed.contains 10 = true)
    (st : PState) :
    ¬ ∃ A B, ∀ buf : Bytes, copyCost (cfg15 allowed uf) (buf.length + 1) st buf ≤ A * buf.length + B :=
  C15_copy_quadratic_fails _ (C15_generated_packOk allowed uf h10) st

/-- non-vacuity of the `packOk` hypothesis -/
example : packOk (cfg15 [5, 7, 9, 10] true) = true := C15_generated_packOk _ _ (by decide)

/-- concrete instance, `n = 3` (by evaluation): three messages, 48 bytes, 48 + 32 + 16 + 0 = 96 bytes copied -/
example : copyCost (cfg15 [5, 7, 9, 10] true) ((packed 3).length + 1) {} (packed 3) = 96 ∧
    (packed 3).length = 48 ∧ npkts (cfg15 [5, 7, 9, 10] true) {} (packed 3) = 3 ∧
    96 = 8 * (3 * 3) + 8 * 3 :=
  have h := C15_copy_packed _ (C15_generated_packOk [5, 7, 9, 10] true (by decide)) 3 {}
  ⟨h.2.1, h.2.2.1, h.2.2.2, rfl⟩

/-- the error element: `Partial` carries its own copy of the bytes after the version word
    (a truncated V5 packet of 10 bytes: 10 for the initial copy + 8 inside the error) -/
example : copyCost (cfg15 [5] true) 11 {} (toBE 2 5 ++ List.replicate 8 0) = 18 := by decide

/-- **per layer, IPFIX**: a data set decoded with a template of `k` fields (ANY declared lengths,
    zero included) has size at most `(112·k + 3)·(|body| + 1)`: records × fields, never worse. -/
theorem C15_ipfix_records_product (c : Config) (fs : List IpTField) (fuel : Nat) (body : Bytes)
    (recs : List Rec) (pad : Bytes) (h : ipRecLoop c fs fuel body = .ok (recs, pad)) :
    (recs.map recSize).sum + pad.length ≤ (112 * fs.length + 3) * (body.length + 1) := by
  have a := ipRecLoop_size c fs recSize 3 (112 * fs.length) (112 * fs.length + 3) rfl
    (fun i es r h => (ipParseRec_bounds c fs 0 i es r h).2.2.1) _ _ _ _ h
  have b : pad.length ≤ (112 * fs.length + 3) * pad.length := Nat.le_mul_of_pos_left _ (by omega)
  rw [Nat.mul_succ]
  omega

/-- **per layer, V9**: a data flowset decoded with a template of `k` fields and `n` loop iterations
    (`n = |body| / total_size ≤ |body|` in `v9ParseBody`) has size at most `(64 + 48·k)·n + 3·|body|`. -/
theorem C15_v9_records_product (c : Config) (fs : List TField) (n : Nat) (body : Bytes)
    (recs : List Rec) (pad : Bytes) (h : v9RecLoop c fs n body [] = (recs, pad)) :
    (recs.map recSize).sum + pad.length ≤ (64 + 48 * fs.length) * n + 3 * body.length := by
  have a := v9RecLoop_size c fs 3 (64 + 48 * fs.length) (fun i es r h => by
    have := (v9ParseRec_bounds c fs 0 i es r h).2.2.1
    rw [recSize_eq]; omega) n body []
  simp only [h, List.map_nil, List.sum_nil] at a
  omega

/-- non-vacuity of `C15_v9_records_product`: the V9 template `[len 0, len 1]` (2 fields), 3 iterations over a
    3-byte body: 3 records of 2 entries, size 480 ≤ (64 + 48·2)·3 + 3·3 -/
example : (v9RecLoop (cfg15 [9] true) [⟨94, 0⟩, ⟨4, 1⟩] 3 [6, 6, 6] []).2 = [] ∧
    (v9RecLoop (cfg15 [9] true) [⟨94, 0⟩, ⟨4, 1⟩] 3 [6, 6, 6] []).1.length = 3 ∧
    ((v9RecLoop (cfg15 [9] true) [⟨94, 0⟩, ⟨4, 1⟩] 3 [6, 6, 6] []).1.map recSize).sum = 480 := by decide

/-- the product is attained up to the constant: with the template `zeroFs k` (`k` zero-length
    fields and one 1-byte field, `k + 1` fields in all) the size is `(112·(k+1) + 1)·|body|`, between
    nothing and the upper bound `(112·(k+1) + 3)·(|body| + 1)` of `C15_ipfix_records_product`. -/
theorem C15_product_sharp (c : Config) (k : Nat) (body : Bytes) (hb : body ≠ []) :
    ∃ recs, ipRecLoop c (zeroFs k) (body.length + 1) body = .ok (recs, []) ∧
      (recs.map recSize).sum = (112 * (zeroFs k).length + 1) * body.length ∧
      (recs.map recSize).sum ≤ (112 * (zeroFs k).length + 3) * (body.length + 1) := by
  obtain ⟨recs, h1, _, h3⟩ := ipRecLoop_zeroFs c k body (body.length + 1) hb (by omega)
  refine ⟨recs, h1, by rw [h3, zeroFs_length], ?_⟩
  have := C15_ipfix_records_product c _ _ _ _ _ h1
  simpa using this

/-- **C15, second half, with a field-count bound instead of honesty.**  If no cached data template
    and no data template reported in the result has more than `M` fields (declared lengths
    arbitrary, ZERO INCLUDED), the size of the result of `parse_bytes` is at most
    `(115 + 112·M)·|buf| + 184`. -/
theorem C15_result_fields_bound (c : Config) (hc : costOk c.t = true) (M : Nat) (st st' : PState) (buf : Bytes)
    (pkts : List Packet) (hF : FLe M st = true) (h : parseBytes c st buf = (st', .done pkts))
    (hP : FLePkts M pkts = true) :
    resultSize pkts ≤ fieldW M * buf.length + 184 := by
  have := run_size_fle hc (Nat.le_refl (fieldW M)) (parseBytes_run h) hF hP
  simp only [resultSize]
  omega

/-- **C15, second half, product bound — every state, every buffer, no hypothesis on the
    templates**: `resultSize ≤ 184·(|buf| + 1)·(1 + maxFields)`, where `maxFields` is the largest
    number of fields of a data template in the cache or announced in the buffer.  Inflation by
    zero-length fields is bounded by (bytes) × (fields), never worse. -/
theorem C15_result_product_bound (c : Config) (hc : costOk c.t = true) (st st' : PState) (buf : Bytes)
    (pkts : List Packet) (h : parseBytes c st buf = (st', .done pkts)) :
    resultSize pkts ≤ 184 * (buf.length + 1) * (1 + maxFields c st buf) := by
  obtain ⟨M, hM⟩ : ∃ M, M = maxFields c st buf := ⟨_, rfl⟩
  have h1 : stateMaxFields st ≤ M := by rw [hM]; exact Nat.le_max_left _ _
  have h2 : pktsMaxFields pkts ≤ M := by
    rw [hM]; unfold maxFields; rw [h]; exact Nat.le_max_right _ _
  have := C15_result_fields_bound c hc M st st' buf pkts (FLe_of_max _ _ h1) h (FLePkts_of_max _ _ h2)
  have := product_arith buf.length M
  rw [← hM]
  unfold fieldW at *
  omega

/-- the same without mentioning the outcome (`parse_bytes` always returns: `parseBytes_done`) -/
theorem C15_result_product_bound_total (c : Config) (hc : costOk c.t = true) (st : PState) (buf : Bytes) :
    resultSize (outPkts (parseBytes c st buf).2) ≤ 184 * (buf.length + 1) * (1 + maxFields c st buf) := by
  obtain ⟨pkts, hp⟩ := parseBytes_done c st buf
  have h : parseBytes c st buf = ((parseBytes c st buf).1, .done pkts) := by rw [← hp]
  have := C15_result_product_bound c hc st _ buf pkts h
  rw [hp]
  exact this

/-- instantiated with the tables generated from the Rust source -/
theorem C15_result_product_bound_generated (allowed : List Nat) (uf : Bool) (st : PState) (buf : Bytes) :
    resultSize (outPkts (parseBytes (cfg15 allowed uf) st buf).2) ≤
      184 * (buf.length + 1) * (1 + maxFields (cfg15 allowed uf) st buf) :=
  C15_result_product_bound_total (cfg15 allowed uf) C15_generated_costOk st buf

/-- the honest linear bound of `Props/C15.lean` cannot be recovered from a field-count bound alone:
    the witness of `C15_zero_length_fails` (41 fields) breaks `256·(|buf| + wire) + 1024` while
    satisfying the product bound. -/
theorem C15_product_vs_linear :
    ∃ st' pkts, parseBytes (cfg15 [10] true) { ipT := [(256, tpl15 40 0)] } (ipMsg15 256 (List.replicate 20 65)) = (st', .done pkts) ∧
      (decide (maxFields (cfg15 [10] true) { ipT := [(256, tpl15 40 0)] } (ipMsg15 256 (List.replicate 20 65)) = 41) &&
       decide (resultSize pkts = 91996) &&
       decide (resultSize pkts ≤ 184 * ((ipMsg15 256 (List.replicate 20 65)).length + 1) * (1 + 41)) &&
       !resultBounded 256 1024 (ipMsg15 256 (List.replicate 20 65)) { ipT := [(256, tpl15 40 0)] } pkts) = true := by
  obtain ⟨st', pkts, hp, hq⟩ := zeroLen_run
  simp only [Bool.and_eq_true, decide_eq_true_eq] at hq
  refine ⟨st', pkts, hp, ?_⟩
  have hm : maxFields (cfg15 [10] true) { ipT := [(256, tpl15 40 0)] } (ipMsg15 256 (List.replicate 20 65)) = 41 := by
    unfold maxFields
    rw [hp]
    show max _ (pktsMaxFields pkts) = 41
    rw [hq.2]
    decide
  rw [hm, resultBounded, hq.1.2]
  decide +kernel

/-- non-vacuity of `C15_result_fields_bound`, and the concrete 2-field zero-length template: the cache
    holds the IPFIX template `[len 0, len 1]` (NOT honest, 2 fields); a data set of 4 bytes yields
    4 records × 2 maps, result size 1036 ≤ (115 + 112·2)·24 + 184. -/
example : Honest { ipT := [(256, tpl15 1 0)] } = false ∧ FLe 2 { ipT := [(256, tpl15 1 0)] } = true ∧
    ∃ st' pkts, parseBytes (cfg15 [10] true) { ipT := [(256, tpl15 1 0)] } (ipMsg15 256 (List.replicate 4 65)) = (st', .done pkts) ∧
      (FLePkts 2 pkts && decide (resultSize pkts = 1036) &&
       decide ((ipMsg15 256 (List.replicate 4 65)).length = 24) &&
       decide (maxFields (cfg15 [10] true) { ipT := [(256, tpl15 1 0)] } (ipMsg15 256 (List.replicate 4 65)) = 2) &&
       decide (resultSize pkts ≤ fieldW 2 * 24 + 184)) = true :=
  ⟨by decide, by decide, check15_sound (by decide +kernel)⟩

/-- a template whose 2 fields are BOTH of declared length zero: a data set with an empty body still
    yields one record of 2 maps (the loop's `total_taken == 0 → break` keeps the record) — this is why
    the product bound has `|buf| + 1` and not `|buf|` per set. -/
example : ipRecLoop (cfg15 [10] true) [⟨82, 0, none⟩, ⟨82, 0, none⟩] 1 [] =
    .ok ([[(0, Generated.tables.ipField 82, .str [])], [(1, Generated.tables.ipField 82, .str [])]], []) := by
  decide +kernel

end Netflow.Props
