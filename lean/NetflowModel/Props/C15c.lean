/-
  Props/C15c.lean — C15 "Parsing cost is bounded by input size plus output size", the WORK of the V9 data path
  (`CostWork.lean`: field-decode attempts, each of which may allocate a map entry, and template-element copies).

  The crate's record loop of `FieldParser::parse` (v9) stops at the first record that does not decode and borrows the
  cached template (commits 4588be7, fe99cfc; `known_findings.json`, "fixed").  The model's `v9RecLoop` is the retrying
  `fold`: after such a record it fails again on every remaining iteration, each time with a fresh clone of the template
  (`|body| / total_size` × fields operations for no output), and it clones the cached template for every data flowset.
  The two loops are tied by `G2.v9RecLoopK_eq`; `C15_v9_stop_same_result` shows that they return the same.
  Proved here: the work of the loop that stops is paid by the records it returns plus one template's worth, whatever the
  template; the retrying `fold` has no linear bound (with the instance for the generated tables); for IPFIX the attempts of
  a set that decodes are paid by its records, and a set that is discarded costs at most fields × (bytes + 1) — the part of
  the recorded finding "zero-length fields" that remains unless a half-decodable set returns something else.
-/
import NetflowModel.Lemmas.WorkIp
import NetflowModel.Props.C15
namespace Netflow.Props
open Netflow Cost P6

/-- stopping at the first record that does not decode returns exactly what the `fold` that goes on (and fails again on every
    remaining iteration) returns — any template, any number of iterations, any input. -/
theorem C15_v9_stop_same_result (c : Config) (fs : List TField) (n : Nat) (i : Bytes) (acc : List Rec) :
    v9RecLoopStop c fs n i acc = v9RecLoop c fs n i acc := by
  rw [← G2.v9RecLoopK_eq true]
  induction n generalizing i acc with
  | zero => rfl
  | succ n ih =>
    cases h : v9ParseRec c fs 0 i with
    | none => simp [v9RecLoopStop, v9RecLoopK, h]
    | some p => obtain ⟨r, i'⟩ := p; simp only [v9RecLoopStop, v9RecLoopK, h]; exact ih i' (acc ++ [r])

/-- the same for the control function the regenerated skeleton runs, whichever form the source has -/
theorem C15_v9_loop_form_irrelevant (stop : Bool) (c : Config) (fs : List TField) (n : Nat) (i : Bytes) (acc : List Rec) :
    v9RecLoopK stop c fs n i acc = v9RecLoop c fs n i acc := G2.v9RecLoopK_eq stop c fs n i acc

/-- one record attempt costs at most one decode per field -/
theorem C15_v9_attempts_le (c : Config) (fs : List TField) (i : Bytes) : v9RecAttempts c fs i ≤ fs.length :=
  v9RecAttempts_le c fs i

/-- **C15, first half, V9 record loop that stops at the first failing record**: the decode attempts of the loop are paid by the RECORDS IT RETURNS —
    plus one template's worth for the attempt on which it stopped.  No hypothesis on the template (zero-length fields included), on the
    number of iterations or on the input. -/
theorem C15_v9_work_paid_by_records (c : Config) (fs : List TField) (n : Nat) (i : Bytes) :
    v9RecWorkStop c fs n i ≤ ((v9RecLoop c fs n i []).1.map recSize).sum + fs.length := by
  have := v9_work_stop_le c fs n i []
  simpa using this

/-- the same at the flowset level: what `workOf` adds for a V9 data flowset is at most the size of the records the flowset decodes to
    plus the number of fields of the governing template -/
theorem C15_v9_flowset_work_paid (c : Config) (st : PState) (id : Nat) (body : Bytes) (t : V9Template)
    (h1 : id ≠ c.t.v9TemplateId) (h2 : id ≠ c.t.v9OptTemplateId)
    (h3 : amLookup id st.v9O = none) (h4 : amLookup id st.v9T = some t) :
    v9BodyWork c st id body ≤
      ((v9RecLoop c t.fields (body.length / v9TotalSize t.fields) body []).1.map recSize).sum + t.fields.length := by
  unfold v9BodyWork
  simp only [h1, h2, or_self, if_false, h3, h4]
  by_cases hz : v9TotalSize t.fields = 0
  · simp [hz]
  · simp only [hz, if_false]
    exact C15_v9_work_paid_by_records c t.fields _ body

/-- every other kind of V9 flowset adds nothing to `workOf`: its steps consume bytes of the buffer -/
theorem C15_v9_other_flowsets_free (c : Config) (st : PState) (id : Nat) (body : Bytes)
    (h : id = c.t.v9TemplateId ∨ id = c.t.v9OptTemplateId ∨ (amLookup id st.v9O).isSome ∨ amLookup id st.v9T = none) :
    v9BodyWork c st id body = 0 := by
  unfold v9BodyWork
  by_cases h12 : id = c.t.v9TemplateId ∨ id = c.t.v9OptTemplateId
  · simp [h12]
  · simp only [h12, if_false]
    cases h3 : amLookup id st.v9O with
    | some _ => rfl
    | none =>
      rcases h with h | h | h | h
      · exact absurd (Or.inl h) h12
      · exact absurd (Or.inr h) h12
      · simp [h3] at h
      · simp [h]

/-- **C15, first half, V9 data flowset under a template WITHOUT zero-length fields** (at most 65535 fields — `field_count` is a `u16`):
    the decode attempts are at most the bytes of the flowset body — linear in the input, whatever decodes or not. -/
theorem C15_v9_work_linear_honest (c : Config) (fs : List TField) (hpos : ∀ f ∈ fs, 1 ≤ f.len) (hk : fs.length ≤ 65535)
    (body : Bytes) : v9RecWorkStop c fs (body.length / v9TotalSize fs) body ≤ body.length :=
  Nat.le_trans (v9RecWorkStop_le_iters c fs _ body) (fields_times_iters_le _ _ _ (v9TotalSize_ge fs hpos hk))

/-- … and so is the retrying `fold` (twice that: a clone and an attempt per field): its excess work needs a template
    whose record size is smaller than its number of fields, i.e. zero-length fields — exactly the hypothesis of `C15_v9_retry_work` -/
theorem C15_v9_retry_linear_honest (c : Config) (fs : List TField) (hpos : ∀ f ∈ fs, 1 ≤ f.len) (hk : fs.length ≤ 65535)
    (body : Bytes) : v9RecWorkRetry c fs (body.length / v9TotalSize fs) body ≤ 2 * body.length :=
  Nat.le_trans (v9RecWorkRetry_le_iters c fs _ body)
    (Nat.mul_le_mul_left 2 (fields_times_iters_le _ _ _ (v9TotalSize_ge fs hpos hk)))

/-- non-vacuity: the 5-tuple template of ordinary traffic meets the hypotheses -/
example : (∀ f ∈ ([{ typ := 8, len := 4 }, { typ := 12, len := 4 }, { typ := 7, len := 2 }, { typ := 11, len := 2 }, { typ := 4, len := 1 }] : List TField), 1 ≤ f.len) ∧
    ([{ typ := 8, len := 4 }, { typ := 12, len := 4 }, { typ := 7, len := 2 }, { typ := 11, len := 2 }, { typ := 4, len := 1 }] : List TField).length ≤ 65535 := by
  decide

/-- **the retrying `fold`**: under a template of `k` fields that decode without consuming anything (`z`: zero-length fields)
    in front of a field `f` that does not decode at `i`, `n` iterations cost `n·(2k + 2)` operations (a clone of the `k + 1` template
    fields and `k + 1` decode attempts each) and return NOTHING; the loop that stops makes `k + 1` attempts once. -/
theorem C15_v9_retry_work (c : Config) (z f : TField) (v0 : FieldValue)
    (hz : ∀ j, parseValue c.vc (c.t.v9Ty (c.t.v9Field z.typ)) z.len j = some (v0, j))
    (i : Bytes) (hf : parseValue c.vc (c.t.v9Ty (c.t.v9Field f.typ)) f.len i = none) (k n : Nat) :
    v9RecWorkRetry c (List.replicate k z ++ [f]) n i = n * (2 * k + 2) ∧
    v9RecLoop c (List.replicate k z ++ [f]) n i [] = ([], i) ∧
    v9RecWorkStop c (List.replicate k z ++ [f]) (n + 1) i = k + 1 := by
  have hfail := parseRec_replicate_fail c z f v0 hz i hf k 0
  have hatt : v9RecAttempts c (List.replicate k z ++ [f]) i = k + 1 := by
    rw [attempts_replicate c z v0 hz k [f] i]; simp [v9RecAttempts, hf]
  refine ⟨?_, v9RecLoop_none hfail n [], ?_⟩
  · rw [v9RecWorkRetry_fail c _ n i hfail, hatt]
    simp only [List.length_append, List.length_replicate, List.length_cons, List.length_nil]
    congr 1; omega
  · simp only [v9RecWorkStop, hfail, hatt, Nat.add_zero]

/-- **no linear bound for the retrying `fold`**: for all constants `A`, `B` there is a number `k` of free fields such that for EVERY number
    `n ≥ 1` of iterations (= bytes of the flowset body when the record size is 1) the work exceeds `A·n + B` — while the result is empty,
    so `B·size(result) + C` is a constant too. -/
theorem C15_v9_retry_no_linear_bound (c : Config) (z f : TField) (v0 : FieldValue)
    (hz : ∀ j, parseValue c.vc (c.t.v9Ty (c.t.v9Field z.typ)) z.len j = some (v0, j))
    (i : Bytes) (hf : parseValue c.vc (c.t.v9Ty (c.t.v9Field f.typ)) f.len i = none) (A B : Nat) :
    ∃ k, ∀ n, 1 ≤ n → A * n + B < v9RecWorkRetry c (List.replicate k z ++ [f]) n i ∧
      (v9RecLoop c (List.replicate k z ++ [f]) n i []).1 = [] := by
  refine ⟨A + B, fun n hn => ?_⟩
  obtain ⟨h1, h2, _⟩ := C15_v9_retry_work c z f v0 hz i hf (A + B) n
  rw [h1, h2]
  refine ⟨?_, rfl⟩
  have h3 : n * A + n * B + n * (A + B + 2) = n * (2 * (A + B) + 2) := by
    rw [← Nat.mul_add, ← Nat.mul_add]; congr 1; omega
  have h1 : A * n = n * A := Nat.mul_comm A n
  have hb : B ≤ n * B := Nat.le_mul_of_pos_left B hn
  have h4 : n ≤ n * (A + B + 2) := Nat.le_mul_of_pos_right n (by omega)
  rw [← h3, h1]; omega

/-- the zero-length string field and the protocol field of the instance below -/
def zeroStrField : TField := { typ := 94, len := 0 }
def protoField : TField := { typ := 4, len := 1 }

/-- **instance for the tables generated from the Rust source**: `k` fields APPLICATION_DESCRIPTION (94) of length 0 in front of
    PROTOCOL (4), record size 1, every body byte 200 (146..254 is no `ProtocolTypes` discriminant): under the retrying `fold` a body of `n`
    bytes costs `n·(2k+2)` operations for an empty result — the replay `corpus/C15/fixed-v9-retry.json` (k = 39, n = 200: 836 KB
    allocated for a 224-byte packet). -/
theorem C15_v9_retry_generated (allowed : List Nat) (uf : Bool) (k n : Nat) (rest : Bytes) :
    v9RecWorkRetry (cfg15 allowed uf) (List.replicate k zeroStrField ++ [protoField]) n (200 :: rest) = n * (2 * k + 2) ∧
    v9RecLoop (cfg15 allowed uf) (List.replicate k zeroStrField ++ [protoField]) n (200 :: rest) [] = ([], 200 :: rest) ∧
    v9RecWorkStop (cfg15 allowed uf) (List.replicate k zeroStrField ++ [protoField]) (n + 1) (200 :: rest) = k + 1 := by
  have hty : Generated.tables.v9Ty (Generated.tables.v9Field 94) = .str := by decide +kernel
  have hty4 : Generated.tables.v9Ty (Generated.tables.v9Field 4) = .proto := by decide +kernel
  have hp : Generated.tables.protoParse 200 = none := by decide +kernel
  apply C15_v9_retry_work (cfg15 allowed uf) zeroStrField protoField (.str (utf8Lossy []))
  · intro j
    show parseValue _ (Generated.tables.v9Ty (Generated.tables.v9Field 94)) 0 j = _
    rw [hty]
    simp [parseValue, takeN]
  · show parseValue _ (Generated.tables.v9Ty (Generated.tables.v9Field 4)) 1 (200 :: rest) = none
    rw [hty4]
    have hb : beU 1 (200 :: rest) = some (200, rest) := by simp [beU, beNat]
    simp only [parseValue, hb]
    show (match Generated.tables.protoParse 200 with | none => none | some p => some (FieldValue.proto p, rest)) = none
    rw [hp]

/-- non-vacuity / concrete numbers: k = 39, a 200-byte body — 16 000 operations for the retrying `fold`, 40 for the loop that stops -/
example : v9RecWorkRetry (cfg15 [9] true) (List.replicate 39 zeroStrField ++ [protoField]) 200 (List.replicate 200 200) = 16000 ∧
    v9RecWorkStop (cfg15 [9] true) (List.replicate 39 zeroStrField ++ [protoField]) 200 (List.replicate 200 200) = 40 := by
  have h := C15_v9_retry_generated [9] true 39 200 (List.replicate 199 200)
  have h' := C15_v9_retry_generated [9] true 39 199 (List.replicate 199 200)
  exact ⟨h.1, h'.2.2⟩

/-- non-vacuity of `C15_v9_work_paid_by_records` with records actually returned: two 1-byte records (PROTOCOL = 6, 17) -/
example : (v9RecLoop (cfg15 [9] true) [protoField] 2 [6, 17] []).1.length = 2 ∧
    v9RecWorkStop (cfg15 [9] true) [protoField] 2 [6, 17] = 2 := by decide

/-- **IPFIX, a data set that decodes**: the decode attempts of the record loop are paid by the records it returns -/
theorem C15_ipfix_work_paid_by_records (c : Config) (fs : List IpTField) (fuel : Nat) (i : Bytes) (recs : List Rec) (r : Bytes)
    (h : ipRecLoop c fs fuel i = .ok (recs, r)) : ipRecWork c fs fuel i ≤ (recs.map recSize).sum :=
  ipRecWork_ok c fs fuel i recs r h

/-- **IPFIX, any data set** (decoded or discarded): every iteration but the last consumes a byte, so the attempts are at most
    fields × (bytes of the set + 1) — the product bound; linear in the bytes for a fixed template -/
theorem C15_ipfix_work_product (c : Config) (fs : List IpTField) (fuel : Nat) (i : Bytes) :
    ipRecWork c fs fuel i ≤ fs.length * (i.length + 1) := ipRecWork_le c fs fuel i

/-- what `workOf` adds for one IPFIX set: nothing for template sets; for a data set the clone of the cached template plus the loop -/
theorem C15_ipfix_set_work (c : Config) (st : PState) (id : Nat) (body : Bytes) (M : Nat)
    (hT : ∀ t, amLookup id st.ipT = some t → t.fields.length ≤ M)
    (hO : ∀ t, amLookup id st.ipO = some t → t.fields.length ≤ M) :
    ipBodyWork c st id body ≤ M * (body.length + 2) := by
  have key : ∀ fs : List IpTField, fs.length ≤ M →
      fs.length + ipRecWork c fs (body.length + 1) body ≤ M * (body.length + 2) := fun fs hk => by
    have hw := ipRecWork_le c fs (body.length + 1) body
    have := Nat.mul_le_mul_right (body.length + 1) hk
    simp only [Nat.mul_add, Nat.mul_one] at *
    omega
  unfold ipBodyWork
  split
  · exact Nat.zero_le _
  · split
    · next t h1 => exact key _ (hT t h1)
    · split
      · next t h2 => exact key _ (hO t h2)
      · exact Nat.zero_le _

/-- the enterprise field of length zero and the one-byte protocol field of the witness below -/
def zeroEntField : IpTField := { typ := 1, len := 0, ent := some 9 }
def ipProtoField : IpTField := { typ := 4, len := 1, ent := none }

/-- a variable-length string field (interfaceName, declared length 65535) -/
def ipVarStrField : IpTField := { typ := 82, len := 65535, ent := none }

/-- **work that is discarded** (recorded finding "zero-length fields", IPFIX): under 30 zero-length fields in front of a
    variable-length interfaceName, a set of 3 good records ("A", "B", "C") and one whose length prefix (9) exceeds what is left makes
    `4·31 = 124` decode attempts and returns NOTHING — the `?` in the record loop discards the whole set. -/
theorem C15_ipfix_discarded_work_fails :
    ipRecWork (cfg15 [10] true) (List.replicate 30 zeroEntField ++ [ipVarStrField]) 9 [1, 65, 1, 66, 1, 67, 9, 0] = 124 ∧
    ipRecLoop (cfg15 [10] true) (List.replicate 30 zeroEntField ++ [ipVarStrField]) 9 [1, 65, 1, 66, 1, 67, 9, 0] = .err := by
  decide +kernel

/-- non-vacuity of `C15_ipfix_work_paid_by_records`: two one-byte records decode, two attempts -/
example : ∃ recs r, ipRecLoop (cfg15 [10] true) [ipProtoField] 3 [6, 17] = .ok (recs, r) ∧ recs.length = 2 ∧
    ipRecWork (cfg15 [10] true) [ipProtoField] 3 [6, 17] = 2 := by
  refine ⟨_, _, rfl, ?_, ?_⟩ <;> decide +kernel

/-- **C15, first half, one V9 flowset that is reported**: the modelled work of the flowset is at most its share of `resultSize`
    (`v9SetSize`) plus the number of fields of the governing template — whatever the template (zero-length fields included). -/
theorem C15_v9_set_work_paid (c : Config) (st st' : PState) (id len : Nat) (body : Bytes) (b : V9Body) (M : Nat)
    (h : v9ParseBody c st id body = (st', .ok b))
    (hM : ∀ t, amLookup id st.v9T = some t → t.fields.length ≤ M) :
    v9BodyWork c st id body ≤ v9SetSize { id := id, len := len, body := b } + M := by
  rcases v9ParseBody_ok_inv h with ⟨h1, _⟩ | ⟨_, h2, _⟩ | ⟨_, _, _, ot, _, _, _, _, ho, _⟩ | ⟨h1, h2, rfl, ho, t, ht, _, rfl⟩
  · rw [C15_v9_other_flowsets_free c st id body (Or.inl h1)]; exact Nat.zero_le _
  · rw [C15_v9_other_flowsets_free c st id body (Or.inr (Or.inl h2))]; exact Nat.zero_le _
  · rw [C15_v9_other_flowsets_free c st id body (Or.inr (Or.inr (Or.inl (by simp [ho]))))]; exact Nat.zero_le _
  · have hw := C15_v9_flowset_work_paid c _ id body t h1 h2 ho ht
    have hk := hM t ht
    simp only [v9SetSize]
    omega

/-- **the same for one IPFIX data set that is reported**: the clone of the cached template and the decode attempts are at most the
    set's share of `resultSize` (`ipSetSize`) plus the number of fields of the governing template -/
theorem C15_ipfix_set_work_paid (c : Config) (st st' : PState) (id len : Nat) (body : Bytes) (b : IpBody) (M : Nat)
    (h : ipParseBody c st id body = (st', .ok b))
    (hT : ∀ t, amLookup id st.ipT = some t → t.fields.length ≤ M)
    (hO : ∀ t, amLookup id st.ipO = some t → t.fields.length ≤ M) :
    ipBodyWork c st id body ≤ ipSetSize { id := id, len := len, body := b } + M := by
  rcases ipParseBody_ok_inv h with ⟨h1, h2, _⟩ | ⟨h2, _⟩ | ⟨h1, h2, rfl, fs, recs, pad, _, hl, hlk⟩
  · simp [ipBodyWork, h1, h2]
  · simp [ipBodyWork, h2]
  · have hw := ipRecWork_ok c fs _ body recs pad hl
    have g : ¬ ((id < c.t.ipSetMinRange ∧ id ≠ c.t.ipOptTemplateId) ∨ id = c.t.ipOptTemplateId) :=
      fun e => e.elim (fun a => by omega) h2
    rcases hlk with ⟨t, ht, rfl, rfl⟩ | ⟨ht0, t, ht, rfl, rfl⟩
    · have := hT t ht
      simp only [ipBodyWork, g, ↓reduceIte, ht, ipSetSize]
      omega
    · have := hO t ht
      simp only [ipBodyWork, g, ↓reduceIte, ht0, ht, ipSetSize]
      omega

end Netflow.Props
