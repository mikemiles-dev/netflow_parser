/-
  Props/C15d.lean — C15, first half, at the level of a whole V9 packet: the modelled data-path work (`Cost.workV9Sets`, the V9 part of
  `Cost.workOf`) of a packet that is REPORTED is at most the size of its flowsets in the result plus `M` per flowset, where `M` bounds
  the number of fields of the data templates cached or announced (declared lengths arbitrary — zero included).  Lifts
  `C15_v9_set_work_paid` along exactly the walk `parse_flowsets` makes, threading the cache invariant `FLe M` through the template
  flowsets of the same packet (`B3.v9ParseSet_size`).  `C15_ipfix_message_work_paid` is the same for the sets of one IPFIX message,
  with the product term for the one set on which the message stops.
-/
import NetflowModel.Props.C15c
import NetflowModel.Lemmas.FieldBound
namespace Netflow.Props
open Netflow Cost B3 P5 P6

/-- **C15, first half, a reported V9 packet**: work of its flowsets ≤ their share of `resultSize` + `M` per flowset -/
theorem C15_v9_packet_work_paid (c : Config) (hw : 1 ≤ c.t.v9SetHdr.wireLen) (M : Nat) :
    ∀ (n : Nat) (st st' : PState) (i : Bytes) (ss : List V9Set) (r : Bytes), FLe M st = true →
      v9ParseSets c n st i = (st', .ok (ss, r)) → (ss.all fun s => fleV9Body M s.body) = true →
      workV9Sets c n st i ≤ (ss.map v9SetSize).sum + M * ss.length := by
  intro n
  induction n with
  | zero => intro st st' i ss r _ _ _; simp [workV9Sets]
  | succ n ih =>
    intro st st' i ss r hF h hb
    by_cases hne : i = []
    · subst hne; simp [workV9Sets]
    · obtain ⟨st1, s, r1, ss', hs, hrest, rfl⟩ := v9ParseSets_succ_ok_inv hne h
      simp only [List.all_cons, Bool.and_eq_true] at hb
      obtain ⟨a1, _⟩ := v9ParseSet_size hw (by omega) (v9ParseBody_cost0 c (115 + 112 * M) M (Nat.le_refl _)) hF hs hb.1
      have hrec := ih _ _ _ _ _ a1 hrest hb.2
      obtain ⟨hd, r0, body, b, hh, ht, hbd, rfl⟩ := v9ParseSet_ok_inv hs
      have hset := C15_v9_set_work_paid c st st1 _ (c.t.v9SetHdr.get "length" hd) body b M hbd ((FLe_lookup hF).1 _)
      have he : i.isEmpty = false := by cases i with | nil => exact absurd rfl hne | cons _ _ => rfl
      simp only [workV9Sets, he, Bool.false_eq_true, ↓reduceIte, hh, ht, hs, List.map_cons, List.sum_cons,
        List.length_cons, Nat.mul_succ]
      omega

/-- **C15, first half, the sets of one IPFIX message**: the work of the sets that are REPORTED is paid by their share of `resultSize`
    plus `M` each; the one set on which the message stops (it is not reported, whatever was decoded of it is discarded) costs at most
    `M·(bytes + 2)` — the product bound, linear in the bytes for a bounded template size. -/
theorem C15_ipfix_message_work_paid (c : Config) (hw : 1 ≤ c.t.ipSetHdr.wireLen) (M : Nat) :
    ∀ (fuel : Nat) (st st' : PState) (i : Bytes) (ss : List IpSet), FLe M st = true →
      ipParseSets c fuel st i = (st', .ok ss) → (ss.all fun s => fleIpBody M s.body) = true →
      workIpSets c fuel st i ≤ (ss.map ipSetSize).sum + M * ss.length + M * (i.length + 2) := by
  intro fuel
  induction fuel with
  | zero => intro st st' i ss _ _ _; simp [workIpSets]
  | succ fuel ih =>
    intro st st' i ss hF h hb
    cases hh : parseLayout c.t.protoFromU8 c.t.ipSetHdr i with
    | none => simp [workIpSets, hh]
    | some hr =>
      obtain ⟨hd, r0⟩ := hr
      cases ht : takeN (c.t.ipSetHdr.get "length" hd - 4) r0 with
      | none => simp [workIpSets, hh, ht]
      | some br =>
        obtain ⟨body, rr⟩ := br
        have a := parseLayout_len hh
        obtain ⟨b1, b2⟩ := takeN_len ht
        -- the set in front, reported or not, costs at most the product term
        have hset := C15_ipfix_set_work c st (c.t.ipSetHdr.get "header_id" hd) body M
          ((FLe_lookup hF).2.1 _) ((FLe_lookup hF).2.2 _)
        have hmono : M * (body.length + 2) ≤ M * (i.length + 2) := Nat.mul_le_mul_left M (by omega)
        rcases ipParseSets_succ_ok_iff.1 h with ⟨hs, rfl⟩ | ⟨st1, s, r1, ss', hs, hl, hrest, rfl⟩
        · simp only [workIpSets, hh, ht, hs, List.map_nil, List.sum_nil, List.length_nil]
          omega
        · simp only [List.all_cons, Bool.and_eq_true] at hb
          obtain ⟨a1, _⟩ := ipParseSet_size hw (ipParseBody_cost0 c (115 + 112 * M) M (Nat.le_refl _)) hF hs hb.1
          have hrec := ih _ _ _ _ a1 hrest hb.2
          have hr1 := ipParseSet_le hs
          obtain ⟨hd', r0', body', b, hh', ht', hbd, rfl⟩ := ipParseSet_ok_inv hs
          rw [hh] at hh'; cases hh'
          rw [ht] at ht'; cases ht'
          have hpaid := C15_ipfix_set_work_paid c st st1 _ (c.t.ipSetHdr.get "length" hd) body b M hbd
            ((FLe_lookup hF).2.1 _) ((FLe_lookup hF).2.2 _)
          have hm2 : M * (rr.length + 2) ≤ M * (i.length + 2) := Nat.mul_le_mul_left M (by omega)
          simp only [workIpSets, hh, ht, hs, hl, ↓reduceIte, List.map_cons, List.sum_cons, List.length_cons, Nat.mul_add,
            Nat.mul_one] at hrec hm2 ⊢
          omega

end Netflow.Props
