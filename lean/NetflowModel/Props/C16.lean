/-
  Props/C16.lean — C16: every parse result serialises to JSON, deterministically and faithfully.

  The model of `serde_json::to_value(&NetflowPacket)` is `toJ : Config → JNames → Packet → JVal`
  (Json.lean).  At run time the driver parses the crate's real JSON text and compares it with `toJ` of
  the decoded value; the theorems of this file are about the VALUE `toJ` itself.  Props/C16b.lean continues with the
  text (writer, reader, matcher), Props/C16c.lean with reading the header fields, template definitions and field
  values back out of the tree.

  * TOTALITY / DETERMINISM are definitional: `toJ` is a total Lean function of the decoded value (and of
    the name tables), so "serialisation succeeds" and "the same result serialises to the same JSON, also
    across parser instances" hold by construction — the decoded value does not mention the hash-map caches.
  * FLOAT SPECIALS: `.f64 bits` is carried through as its 64 bits (`JVal.f64`); the driver maps NaN/±∞
    to `null` exactly as serde_json does.  Model-level remark, no theorem.
  * FAITHFULNESS is injectivity of `toJ` up to what the JSON omits: the paddings (`skip_serializing`) and the
    width tag of a `DataNumber` (`#[serde(untagged)]`: `U8(5)` and `U32(5)` both serialise to `5`, so the
    statement with paddings only is false).  The side conditions hold of every parse result and, for the
    generated tables, are discharged by kernel evaluation.
-/
import NetflowModel.Lemmas.JsonFaithful
import NetflowModel.Generated
namespace Netflow.Props
open Netflow Netflow.B1

/-! ### determinism (definitional) -/

/-- serialising the same decoded value twice gives the same JSON (trivial: `toJ` is a function) -/
theorem C16_deterministic (c : Config) (nm : JNames) (p q : Packet) (h : p = q) : toJ c nm p = toJ c nm q := by
  rw [h]

/-! ### records' fields are in template order -/

/-- V9: a record decoded against `fields` has entry indices `0, 1, …, |fields|-1` in this order, the
    field enum of the k-th entry is the one of the k-th template field, and hence the member names of
    its JSON object are the decimal strings `"0", "1", …` in template order, without duplicates. -/
theorem C16_record_keys_in_template_order (c : Config) (nm : JNames) (names : List (Nat × String))
    (fields : List TField) (i : Bytes) (rec : Rec) (r : Bytes) (h : v9ParseRec c fields 0 i = some (rec, r)) :
    rec.map (·.1) = List.range fields.length ∧
    rec.map (·.2.1) = fields.map (fun f => c.t.v9Field f.typ) ∧
    jKeys (recJ nm names rec) = (List.range fields.length).map toString ∧
    (jKeys (recJ nm names rec)).Nodup := by
  obtain ⟨h1, h2, _⟩ := v9ParseRec_spec c _ _ _ _ _ h
  rw [← List.range_eq_range'] at h1
  refine ⟨h1, h2, ?_, ?_⟩
  · rw [jKeys_recJ, h1]
  · rw [jKeys_recJ, h1]; exact toString_keys_nodup _

/-- IPFIX: one record is a run of single-entry maps; the k-th map has the single key `k` and carries the
    field enum of the k-th template field. -/
theorem C16_ipfix_record_keys_in_template_order (c : Config) (nm : JNames) (fields : List IpTField) (i : Bytes)
    (recs : List Rec) (r : Bytes) (h : ipParseRec c fields 0 i = some (recs, r)) :
    recs.map (fun m => m.map (·.1)) = (List.range fields.length).map (fun k => [k]) ∧
    recs.map (fun m => m.map (·.2.1)) = fields.map (fun f => [ipFieldDisc c f]) ∧
    recs.map (fun m => jKeys (recJ nm nm.ipField m)) = (List.range fields.length).map (fun k => [toString k]) := by
  obtain ⟨h1, h2, _⟩ := ipParseRec_spec c _ _ _ _ _ h
  rw [← List.range_eq_range'] at h1
  refine ⟨h1, h2, ?_⟩
  have : recs.map (fun m => jKeys (recJ nm nm.ipField m)) = (recs.map (fun m => m.map (·.1))).map (·.map toString) := by
    simp [jKeys_recJ]
  rw [this, h1]; simp

/-- whole parse results: in every packet `parse_bytes` returns, the records of a V9 `Data` body all have
    keys `0..n-1` in order (n = the template's field count), and the maps of an IPFIX `Data` /
    `OptionsData` body are `k` blocks of single-entry maps keyed `0, 1, …, n-1`. -/
theorem C16_parse_results_keys_in_template_order (c : Config) (st st' : PState) (buf : Bytes) (ps : List Packet)
    (h : parseBytes c st buf = (st', .done ps)) : ∀ p ∈ ps, PktAll V9KeysOk IpKeysOk p :=
  parseBytes_keys c st st' buf ps h

/-! ### what the JSON does not show -/

/-- the JSON does not depend on any padding: `erasePads` sets every `#[serde(skip_serializing)]` field
    (V9 `Templates`/`OptionsTemplates`/`Data`/`OptionsData` padding, IPFIX `Template`/`OptionsTemplate`/
    `Data`/`OptionsData` padding) to `[]` -/
theorem C16_skipped_only_paddings (c : Config) (nm : JNames) (p : Packet) : toJ c nm p = toJ c nm (erasePads p) :=
  (toJ_erasePads c nm p).symm

/-- the JSON does not depend on the width tag of a decoded number (`#[serde(untagged)] enum DataNumber`) -/
theorem C16_untagged_numbers (c : Config) (nm : JNames) (p : Packet) : toJ c nm p = toJ c nm (forgetWidths p) :=
  (toJ_forgetWidths c nm p).symm

/-! ### faithfulness -/

/-- FAITHFULNESS (injectivity of `toJ` modulo what it provably omits).  Hypotheses: the three enum name
    tables are injective on their key sets (`NamesOk`), and both packets are well formed for the tables
    (`pktWf`: header / record value lists aligned with their layouts, every enum discriminant is a key of
    its name table, `Ipv4Addr` values `< 2^32`, `Ipv6Addr` values `< 2^128`, V9 scope kinds in `1..5`).
    Conclusion: equal JSON ⇒ equal header fields, set headers, template definitions, record indices, field
    enums and decoded field values; only the paddings and the `DataNumber` width tags may differ.
    `_partial`: the conclusion is about `jnorm = forgetWidths ∘ erasePads`, not `erasePads` alone (that
    statement is false, see `C16_full_fails`), and `pktWf` is a hypothesis here (it is established for every
    parse result separately: `C16_parse_results_wellformed`, `C16_generated_faithful`).
    `ip6Text` injectivity (zero-run compression, IPv4-mapped form) is PROVED (`B1.ip6Text_inj`), not assumed. -/
theorem C16_faithful_partial (c : Config) (nm : JNames) (hn : NamesOk nm) (p q : Packet)
    (hp : pktWf c nm p = true) (hq : pktWf c nm q = true) (h : toJ c nm p = toJ c nm q) : jnorm p = jnorm q :=
  toJ_inj hn hp hq h

/-- exact characterisation of the JSON's information content on well-formed packets -/
theorem C16_faithful_iff (c : Config) (nm : JNames) (hn : NamesOk nm) (p q : Packet)
    (hp : pktWf c nm p = true) (hq : pktWf c nm q = true) : toJ c nm p = toJ c nm q ↔ jnorm p = jnorm q := by
  constructor
  · exact toJ_inj hn hp hq
  · intro h
    rw [← toJ_jnorm c nm p, ← toJ_jnorm c nm q, h]

/-- per-layer versions (usable without a whole packet) -/
theorem C16_field_value_faithful (nm : JNames) (hp : NameInj nm.proto) (v w : FieldValue)
    (hv : fvWf nm v = true) (hw : fvWf nm w = true) (h : fieldValueJ nm v = fieldValueJ nm w) : normFv v = normFv w :=
  fieldValueJ_inj hp hv hw h

theorem C16_record_faithful (nm : JNames) (names : List (Nat × String)) (hp : NameInj nm.proto) (hn : NameInj names)
    (r s : Rec) (hr : recWf nm names r = true) (hs : recWf nm names s = true)
    (h : recJ nm names r = recJ nm names s) : normRec r = normRec s :=
  recJ_inj hp hn hr hs h

theorem C16_v9_body_faithful (c : Config) (nm : JNames) (hn : NamesOk nm) (a b : V9Body)
    (ha : v9BodyWf nm a = true) (hb : v9BodyWf nm b = true) (h : v9BodyJ c nm a = v9BodyJ c nm b) :
    numV9 (padV9 a) = numV9 (padV9 b) :=
  v9BodyJ_inj hn ha hb h

theorem C16_ipfix_body_faithful (c : Config) (nm : JNames) (hn : NamesOk nm) (a b : IpBody)
    (ha : ipBodyWf nm a = true) (hb : ipBodyWf nm b = true) (h : ipBodyJ c nm a = ipBodyJ c nm b) :
    numIp (padIp a) = numIp (padIp b) :=
  ipBodyJ_inj hn ha hb h

theorem C16_error_faithful (a b : ErrKind) (h : errKindJ a = errKindJ b) : a = b := errKindJ_inj h

theorem C16_layout_faithful (nm : JNames) (hp : NameInj nm.proto) (lay : Layout) (a b : List Nat)
    (ha : layoutWf nm lay a = true) (hb : layoutWf nm lay b = true) (h : layoutJ nm lay a = layoutJ nm lay b) : a = b :=
  layoutJ_inj hp ha hb h

/-- leaf printers -/
theorem C16_ip4Text_injective (m n : Nat) (hm : m < 2 ^ 32) (hn : n < 2 ^ 32) (h : ip4Text m = ip4Text n) : m = n :=
  ip4Text_inj hm hn h

theorem C16_ip6Text_injective (m n : Nat) (hm : m < 2 ^ 128) (hn : n < 2 ^ 128) (h : ip6Text m = ip6Text n) : m = n :=
  ip6Text_inj hm hn h

theorem C16_macText_injective (x y : Bytes) (h : macText x = macText y) : x = y := macText_inj h

theorem C16_index_keys_injective (j k : Nat) (h : toString j = toString k) : j = k := toString_nat_inj h

example : ip6Text 0 = "::" := by decide +kernel
example : ip6Text 1 = "::1" := by decide +kernel
example : ip6Text 0xffff0a000001 = "::ffff:10.0.0.1" := by decide +kernel
example : ip6Text 0x20010db8000000000000000000000001 = "2001:db8::1" := by decide +kernel
example : ip6Text 0x20010db8000000010000000000000001 = "2001:db8:0:1::1" := by decide +kernel
example : ip6Text 0x00010002000300040005000600070008 = "1:2:3:4:5:6:7:8" := by decide +kernel
example : ip4Text 0xc0a80001 = "192.168.0.1" := by decide +kernel
example : macText [0x00, 0x1b, 0x2c, 0xff, 0xa0, 0x09] = "00:1B:2C:FF:A0:09".toUTF8.data.toList := by decide +kernel

/-! ### the generated tables -/

/-- the name tables the driver uses, taken from the generated Rust-derived tables -/
def jsonNames : JNames :=
  { proto := Generated.protoNames, v9Field := Generated.v9FieldNames, ipField := Generated.ipFieldNames,
    scope := Generated.scopeNames, ipv4Fields := Generated.ipv4Fields }

def jsonCfg : Config := { t := Generated.tables, allowed := Generated.defaultAllowed }

theorem jsonNames_proto_inj : injTblB Generated.protoNames = true := by decide +kernel
theorem jsonNames_v9Field_inj : injTblB Generated.v9FieldNames = true := by decide +kernel
theorem jsonNames_ipField_inj : injTblB Generated.ipFieldNames = true := by decide +kernel

/-- side condition of `C16_faithful_partial` for the generated tables: `ProtocolTypes`, `V9Field`,
    `IPFixField` variant names are pairwise distinct (so the externally tagged enum names identify the
    variant) -/
theorem jsonNames_ok : NamesOk jsonNames :=
  ⟨nameInj_of_injTblB jsonNames_proto_inj, nameInj_of_injTblB jsonNames_v9Field_inj,
   nameInj_of_injTblB jsonNames_ipField_inj⟩

/-- `C16_faithful_partial` instantiated for the generated tables -/
theorem C16_generated_faithful_partial (p q : Packet)
    (hp : pktWf jsonCfg jsonNames p = true) (hq : pktWf jsonCfg jsonNames q = true)
    (h : toJ jsonCfg jsonNames p = toJ jsonCfg jsonNames q) : jnorm p = jnorm q :=
  C16_faithful_partial jsonCfg jsonNames jsonNames_ok p q hp hq h

/-! ### every parse result is well formed, so faithfulness applies to all parse results -/

/-- well-formedness is not an assumption about parse results: if the name tables have an entry for every
    discriminant the crate's conversions (`From<u8> for ProtocolTypes`, `ProtocolTypes::parse`,
    `V9Field::from`, `IPFixField::from`, `IPFixField::Enterprise`, known `ScopeFieldType`s) can produce and
    `Ipv4Addr` struct fields are at most four bytes wide (`TablesCover`), every packet returned by
    `parse_bytes` — for any parser state and any input — satisfies `pktWf`. -/
theorem C16_parse_results_wellformed (c : Config) (nm : JNames) (hc : TablesCover c nm) (st st' : PState)
    (buf : Bytes) (ps : List Packet) (h : parseBytes c st buf = (st', .done ps)) : ∀ p ∈ ps, pktWf c nm p = true :=
  parseBytes_wf hc st st' buf ps h

/-- FAITHFULNESS for parse results: any two packets returned by `parse_bytes` (by any two parser states on
    any two inputs) that serialise to the same JSON agree in everything except paddings and `DataNumber`
    width tags. -/
theorem C16_faithful_parse_results (c : Config) (nm : JNames) (hn : NamesOk nm) (hc : TablesCover c nm)
    (st1 st1' st2 st2' : PState) (buf1 buf2 : Bytes) (ps qs : List Packet)
    (h1 : parseBytes c st1 buf1 = (st1', .done ps)) (h2 : parseBytes c st2 buf2 = (st2', .done qs))
    (p q : Packet) (hp : p ∈ ps) (hq : q ∈ qs) (h : toJ c nm p = toJ c nm q) : jnorm p = jnorm q :=
  toJ_inj hn (parseBytes_wf hc _ _ _ _ h1 p hp) (parseBytes_wf hc _ _ _ _ h2 q hq) h

/-- a configuration over the generated tables (any allowed-version set, either setting of the
    `parse_unknown_fields` feature) -/
def jsonCfgOf (allowed : List Nat) (uf : Bool) : Config :=
  { t := Generated.tables, allowed := allowed, unknownFields := uf }

theorem jsonCover_protoFrom : ∀ x, Generated.tables.protoFromU8 x ∈ keysOf jsonNames.proto :=
  lookupD_mem (by decide +kernel)

theorem jsonCover_protoDiscs :
    Generated.protoDiscs.all (maskOf (keysOf jsonNames.proto)).testBit = true := by decide +kernel

theorem jsonCover_v9Field : ∀ x, Generated.tables.v9Field x ∈ keysOf jsonNames.v9Field :=
  lookupD_mem (by decide +kernel)

theorem jsonCover_ipField : ∀ x, Generated.tables.ipField x ∈ keysOf jsonNames.ipField :=
  lookupD_mem (by decide +kernel)

theorem jsonCover_ipEnt : Generated.tables.ipEnterprise ∈ keysOf jsonNames.ipField := by decide +kernel

theorem jsonCover_layouts :
    layoutOk jsonNames Generated.tables.v5Hdr = true ∧ layoutOk jsonNames Generated.tables.v5Rec = true ∧
    layoutOk jsonNames Generated.tables.v7Hdr = true ∧ layoutOk jsonNames Generated.tables.v7Rec = true ∧
    layoutOk jsonNames Generated.tables.v9Hdr = true ∧ layoutOk jsonNames Generated.tables.ipHdr = true := by
  decide +kernel

/-- the generated tables satisfy `TablesCover` (all side conditions by kernel evaluation) -/
theorem jsonCover (allowed : List Nat) (uf : Bool) : TablesCover (jsonCfgOf allowed uf) jsonNames where
  protoFrom := jsonCover_protoFrom
  protoParse := by
    intro x p h
    simp only [jsonCfgOf, Generated.tables] at h
    split at h
    · next hc =>
      simp only [Option.some.injEq] at h
      subst h
      have := jsonCover_protoDiscs
      simp only [List.all_eq_true, List.contains_iff_mem] at this hc
      exact mem_of_testBit_maskOf (this _ hc)
    · simp at h
  v9Field := jsonCover_v9Field
  ipField := jsonCover_ipField
  ipEnt := jsonCover_ipEnt
  scope := by
    intro x h
    simp only [jsonCfgOf, Generated.tables] at h ⊢
    simpa [Generated.scopeKnownDiscs] using h
  v5Hdr := jsonCover_layouts.1
  v5Rec := jsonCover_layouts.2.1
  v7Hdr := jsonCover_layouts.2.2.1
  v7Rec := jsonCover_layouts.2.2.2.1
  v9Hdr := jsonCover_layouts.2.2.2.2.1
  ipHdr := jsonCover_layouts.2.2.2.2.2

/-- C16 faithfulness for the crate as generated, with NO remaining hypothesis besides "these are parse
    results": two packets returned by `parse_bytes` with equal JSON are equal up to paddings and width tags. -/
theorem C16_generated_faithful (allowed : List Nat) (uf : Bool)
    (st1 st1' st2 st2' : PState) (buf1 buf2 : Bytes) (ps qs : List Packet)
    (h1 : parseBytes (jsonCfgOf allowed uf) st1 buf1 = (st1', .done ps))
    (h2 : parseBytes (jsonCfgOf allowed uf) st2 buf2 = (st2', .done qs))
    (p q : Packet) (hp : p ∈ ps) (hq : q ∈ qs)
    (h : toJ (jsonCfgOf allowed uf) jsonNames p = toJ (jsonCfgOf allowed uf) jsonNames q) : jnorm p = jnorm q :=
  C16_faithful_parse_results _ jsonNames jsonNames_ok (jsonCover allowed uf) _ _ _ _ _ _ _ _ h1 h2 p q hp hq h

/-- the member names of every fixed-layout struct object are pairwise distinct (with
    `C16_record_keys_in_template_order` for records: no JSON object produced by `toJ` for a parse result
    repeats a member name; all other objects have literal, distinct member names) -/
theorem C16_generated_layout_names_distinct :
    ∀ lay ∈ [Generated.tables.v5Hdr, Generated.tables.v5Rec, Generated.tables.v7Hdr, Generated.tables.v7Rec,
             Generated.tables.v9Hdr, Generated.tables.ipHdr], (lay.map (·.name)).Nodup := by
  decide +kernel

/-- non-vacuity of the parse-result theorems: a concrete buffer (a V5 header announcing zero records
    followed by one stray byte) on which `parse_bytes` returns a V5 packet and an error element -/
example : parseBytes (jsonCfgOf [5, 7, 9, 10] true) {}
      [0, 5, 0, 0, 0, 0, 3, 232, 101, 83, 241, 0, 0, 0, 0, 0, 0, 0, 0, 42, 0, 0, 0, 0, 9] =
    ({}, .done [.v5 [5, 0, 1000, 1700000000, 0, 42, 0, 0, 0] [], .error .incomplete [9]]) := by
  decide +kernel

/-! ### the full-strength statement fails: width tags are not recoverable -/

/-- injectivity modulo paddings only -/
def C16_full : Prop :=
  ∀ (c : Config) (nm : JNames), NamesOk nm → ∀ p q : Packet, pktWf c nm p = true → pktWf c nm q = true →
    toJ c nm p = toJ c nm q → erasePads p = erasePads q

def c16WitnessU8 : Packet :=
  .v9 [9, 1, 0, 0, 0, 0] [{ id := 256, len := 5, body := .data [[(0, 5, .num (.u8 5))]] [] }]
def c16WitnessU32 : Packet :=
  .v9 [9, 1, 0, 0, 0, 0] [{ id := 256, len := 5, body := .data [[(0, 5, .num (.u32 5))]] [] }]

/-- `DataNumber::U8(5)` and `DataNumber::U32(5)` have the same JSON (`5`): the untagged enum loses the
    width, so decoded values are recoverable from the JSON only up to `forgetWidths`. -/
theorem C16_full_fails : ¬ C16_full := by
  intro h
  have := h jsonCfg jsonNames jsonNames_ok c16WitnessU8 c16WitnessU32 (by decide +kernel) (by decide +kernel) (by rfl)
  revert this
  decide

/-! ### non-vacuity: concrete packets, evaluated with the generated tables -/

def c16V5Example : Packet := .v5 [5, 1, 1000, 1700000000, 0, 42, 0, 0, 0]
  [[0x0a000001, 0x0a000002, 0, 1, 2, 10, 1000, 100, 200, 1234, 80, 0, 0x18, 6, 6, 0, 64512, 64513, 24, 24, 0]]

example : pktWf jsonCfg jsonNames c16V5Example = true := by decide +kernel

example : toJ jsonCfg jsonNames c16V5Example =
  .obj [("V5", .obj [("header", .obj [("version", .num 5), ("count", .num 1), ("sys_up_time", .num 1000),
      ("unix_secs", .num 1700000000), ("unix_nsecs", .num 0), ("flow_sequence", .num 42), ("engine_type", .num 0),
      ("engine_id", .num 0), ("sampling_interval", .num 0)]),
    ("flowsets", .arr [.obj [("src_addr", strJ "10.0.0.1"), ("dst_addr", strJ "10.0.0.2"), ("next_hop", strJ "0.0.0.0"),
      ("input", .num 1), ("output", .num 2), ("d_pkts", .num 10), ("d_octets", .num 1000), ("first", .num 100),
      ("last", .num 200), ("src_port", .num 1234), ("dst_port", .num 80), ("pad1", .num 0), ("tcp_flags", .num 24),
      ("protocol_number", .num 6), ("protocol_type", strJ "Tcp"), ("tos", .num 0), ("src_as", .num 64512),
      ("dst_as", .num 64513), ("src_mask", .num 24), ("dst_mask", .num 24), ("pad2", .num 0)]])])] := by
  rfl

def c16V9Template : V9Template :=
  { id := 256, fieldCount := 3, fields := [{ typ := 8, len := 4 }, { typ := 4, len := 1 }, { typ := 1, len := 4 }] }

def c16V9Record : Rec := [(0, 8, .ip4 0xc0a80001), (1, 4, .proto 6), (2, 1, .num (.u32 1500))]

/-- a V9 packet with one template flowset and one data flowset (one record: source address, protocol,
    byte count), with non-empty paddings -/
def c16V9Example : Packet :=
  .v9 [9, 2, 5000, 1700000000, 7, 1]
    [{ id := 0, len := 20, body := .templates [c16V9Template] [] },
     { id := 256, len := 16, body := .data [c16V9Record] [0, 0, 0] }]

example : pktWf jsonCfg jsonNames c16V9Example = true := by decide +kernel

example : toJ jsonCfg jsonNames c16V9Example =
  .obj [("V9", .obj [("header", .obj [("version", .num 9), ("count", .num 2), ("sys_up_time", .num 5000),
      ("unix_secs", .num 1700000000), ("sequence_number", .num 7), ("source_id", .num 1)]),
    ("flowsets", .arr [
      .obj [("header", .obj [("flowset_id", .num 0), ("length", .num 20)]),
            ("body", .obj [("Template", .obj [("templates", .arr [.obj [("template_id", .num 256), ("field_count", .num 3),
              ("fields", .arr [
                .obj [("field_type_number", .num 8), ("field_type", strJ "Ipv4SrcAddr"), ("field_length", .num 4)],
                .obj [("field_type_number", .num 4), ("field_type", strJ "Protocol"), ("field_length", .num 1)],
                .obj [("field_type_number", .num 1), ("field_type", strJ "InBytes"), ("field_length", .num 4)]])]])])])],
      .obj [("header", .obj [("flowset_id", .num 256), ("length", .num 16)]),
            ("body", .obj [("Data", .obj [("fields", .arr [.obj [
              ("0", .arr [strJ "Ipv4SrcAddr", .obj [("Ip4Addr", strJ "192.168.0.1")]]),
              ("1", .arr [strJ "Protocol", .obj [("ProtocolType", strJ "Tcp")]]),
              ("2", .arr [strJ "InBytes", .obj [("DataNumber", .num 1500)]])]])])])]])])] := by
  rfl

/-- non-vacuity of `C16_record_keys_in_template_order`: the record of `c16V9Example` is what the model parser
    decodes from nine bytes against the example template -/
example : v9ParseRec jsonCfg c16V9Template.fields 0 [192, 168, 0, 1, 6, 0, 0, 5, 220] = some (c16V9Record, []) := by
  decide +kernel

/-- non-vacuity of `C16_ipfix_record_keys_in_template_order` -/
example : ipParseRec jsonCfg [{ typ := 8, len := 4, ent := none }, { typ := 4, len := 1, ent := none }] 0
      [192, 168, 0, 1, 6] = some ([[(0, 8, .ip4 0xc0a80001)], [(1, 4, .num (.u8 6))]], []) := by
  decide +kernel

/-- the padding of the data flowset is the only thing `erasePads` changes here, and the JSON is the same -/
example : erasePads c16V9Example ≠ c16V9Example ∧ toJ jsonCfg jsonNames (erasePads c16V9Example) = toJ jsonCfg jsonNames c16V9Example :=
  ⟨by decide +kernel, by rfl⟩

/-- the witnesses of `C16_full_fails` are well formed and identified by `jnorm` -/
example : pktWf jsonCfg jsonNames c16WitnessU8 = true ∧ jnorm c16WitnessU8 = jnorm c16WitnessU32 ∧ c16WitnessU8 ≠ c16WitnessU32 :=
  ⟨by decide +kernel, by decide +kernel, by decide +kernel⟩

/-- **C16.0** (regenerated from the source on every run) the library declares no mutable global or per-thread state
    (`static mut`, `thread_local!`, `OnceLock`/`OnceCell`/`lazy_static!`, `static … : Mutex|RwLock|Atomic…`), as the model assumes
    by making `parseBytes` a function of `(config, parser state, buffer)`: serialisation and parsing read no state outside the values they are given (determinism across parser instances). -/
theorem C16_no_global_state : Generated.noGlobals = true := generated_noGlobals


end Netflow.Props
