/-
  Props/C16b.lean — C16 at the TEXT level: "… produces well-formed JSON … records' fields in template order".

  JsonText.lean defines an order-preserving syntax tree `JTree`, a total RFC 8259 reader `parseJ`, the compact writer
  of serde_json `printTree`, and the ORDERED matcher `jmatchT` that the run-time oracle applies to the text the crate
  produced (`parseJ text = some tree` and `jmatchT … (toJ c nm p) tree = true`).  The theorems below tie them together:
  writer and reader round-trip on every tree whose number literals are valid; the matcher accepts the tree a value
  denotes (`J1.treeOf`; the float printer `fp` and the UTF-8 decoder `dec` are parameters, the serialiser's float printer
  is not modelled), compares member names in order, and determines values without floats and wildcard strings; every
  string of a parse result is valid UTF-8, so core's decoder inverts the encoder on it.  The statements to read first:
  `C16_text_roundtrip` (writer then reader), `C16_match_treeOf` / `C16_match_ordered` (the matcher), and
  `C16_parse_results_text` (all of it for every parse result).
-/
import NetflowModel.Lemmas.TextRoundTrip
import NetflowModel.Lemmas.Utf8
import NetflowModel.Props.C16
namespace Netflow.Props
open Netflow Netflow.JText Netflow.J1

/-! ### writer / reader round trip -/

/-- WELL-FORMEDNESS of the writer's output (grammar level): the compact writer followed by the RFC 8259 reader is the
    identity on every tree whose number literals are valid JSON numbers (`WfTree`; a literal is valid iff the
    reader's number scanner accepts exactly the whole literal).  Strings and member names are arbitrary character
    lists (quotes, backslashes, control characters, non-BMP characters …; `Char` excludes surrogates). -/
theorem C16_text_roundtrip (t : JTree) (h : WfTree t = true) : parseJ (printTree t) = some t :=
  parseJ_print t h

/-- the generalisation that the induction needs: in front of any continuation `rest` that cannot extend a number
    literal (`noExt`: empty, or not starting with a digit, `.`, `e`, `E`; inside arrays and objects the continuation
    starts with `,` `]` `}`) and with at least `need t` fuel, `parseVal` reads exactly the printed tree. -/
theorem C16_text_roundtrip_in_context (t : JTree) (h : WfTree t = true) (fuel : Nat) (rest : List Char)
    (hf : need t ≤ fuel) (hr : noExt rest = true) : parseVal fuel (printTree t ++ rest) = some (t, rest) :=
  parseVal_print t h fuel rest hf hr

/-- fuel sufficiency: `parseJ` runs `parseVal` with `2 * length + 2` -/
theorem C16_text_fuel_bound (t : JTree) : need t ≤ 2 * (printTree t).length + 1 := need_le t

/-- strings: reading the escaped characters of `s` followed by a closing quote gives back `s` (every branch of
    `escChar`, including `\u00XX` for control characters) -/
theorem C16_text_string_roundtrip (s rest acc : List Char) :
    parseStrBody (s.flatMap escChar ++ '"' :: rest) acc = some (acc.reverse ++ s, rest) :=
  parseStrBody_print s rest acc

/-- numbers: whatever `parseNum` reads from `cs` it also reads from `cs ++ rest` when `rest` cannot extend a number -/
theorem C16_text_number_in_context (cs lit r rest : List Char) (hr : noExt rest = true)
    (h : parseNum cs = some (lit, r)) : parseNum (cs ++ rest) = some (lit, r ++ rest) :=
  parseNum_append rest hr cs lit r h

/-- every integer literal `itoa` writes (any `Int`: u128 counters, negative i32 …) is a valid JSON number -/
theorem C16_text_intLit_valid (z : Int) : parseNum (intLit z) = some (intLit z, []) := by
  have := numOk_intLit z
  simpa [numOk] using this

/-- `WfTree` cannot be dropped: a tree with the "literal" `01` prints to text the reader rejects, and the empty
    literal prints to the empty text -/
theorem C16_text_roundtrip_needs_wf :
    parseJ (printTree (.arr [.num ['0', '1']])) = none ∧ parseJ (printTree (.num [])) = none := ⟨rfl, rfl⟩

/-- `noExt` cannot be dropped: in front of a digit the literal `1` is read as `15` -/
theorem C16_text_roundtrip_needs_noExt :
    parseVal 5 (printTree (.num ['1']) ++ ['5']) = some (.num ['1', '5'], []) := rfl

/-! non-vacuity: a tree with every constructor, escapes of every kind, a fraction/exponent literal -/

def c16bTree : JTree :=
  .obj [(['a', '"'], .arr [.num ['-', '1', '.', '5', 'e', '+', '3'], .null, .bool true, .bool false,
                          .str ['x', '"', '\\', '/', '\n', '\r', '\t', Char.ofNat 8, Char.ofNat 12, Char.ofNat 1,
                                Char.ofNat 31, Char.ofNat 0x7f, Char.ofNat 0xe9, Char.ofNat 0x1F600]]),
        ([], .obj []), (['k'], .arr []), (['a', '"'], .num ['0'])]

example : WfTree c16bTree = true := by decide +kernel

example : printTree c16bTree =
    ['{', '"', 'a', '\\', '"', '"', ':', '[', '-', '1', '.', '5', 'e', '+', '3', ',', 'n', 'u', 'l', 'l', ',',
     't', 'r', 'u', 'e', ',', 'f', 'a', 'l', 's', 'e', ',',
     '"', 'x', '\\', '"', '\\', '\\', '/', '\\', 'n', '\\', 'r', '\\', 't', '\\', 'b', '\\', 'f',
     '\\', 'u', '0', '0', '0', '1', '\\', 'u', '0', '0', '1', 'f', Char.ofNat 0x7f, Char.ofNat 0xe9, Char.ofNat 0x1F600,
     '"', ']', ',', '"', '"', ':', '{', '}', ',', '"', 'k', '"', ':', '[', ']', ',', '"', 'a', '\\', '"', '"', ':', '0', '}'] := by
  rfl

example : parseJ (printTree c16bTree) = some c16bTree := C16_text_roundtrip c16bTree (by decide +kernel)

/-- non-vacuity of `C16_text_roundtrip_in_context`: inside an array, 40 units of fuel -/
example : parseVal 40 (printTree c16bTree ++ [',', '1', ']']) = some (c16bTree, [',', '1', ']']) :=
  C16_text_roundtrip_in_context c16bTree (by decide +kernel) 40 [',', '1', ']'] (by decide +kernel) (by decide +kernel)

/-- the same by evaluation of the reader (it is fuel-structural) -/
example : parseJ (printTree c16bTree) = some c16bTree := by rfl

/-- the reader also accepts white space and the escapes the writer never produces (`\/`, `\u` with surrogate pairs,
    upper-case hex, capital `E`); they read back as a different text but the same kind of tree -/
example : parseJ [' ', '[', ' ', '1', 'E', '2', ' ', ',', '\n', '"', '\\', '/', '\\', 'u', '0', '0', 'E', '9',
                  '\\', 'u', 'D', '8', '3', 'D', '\\', 'u', 'D', 'E', '0', '0', '"', ' ', ']', '\t'] =
    some (.arr [.num ['1', 'E', '2'], .str ['/', Char.ofNat 0xe9, Char.ofNat 0x1F600]]) := by rfl

/-! what "well-formed" means: texts the reader rejects -/

/-- leading zero -/
example : parseJ ['[', '0', '1', ']'] = none := by rfl
/-- trailing garbage after the value -/
example : parseJ ['1', ' ', 'x'] = none := by rfl
example : parseJ ['[', ']', ']'] = none := by rfl
example : parseJ ['n', 'u', 'l', 'l', 'n', 'u', 'l', 'l'] = none := by rfl
/-- a raw control character inside a string -/
example : parseJ ['"', 'a', '\n', '"'] = none := by rfl
example : parseJ ['"', Char.ofNat 0x1f, '"'] = none := by rfl
/-- a lone high surrogate escape, a lone low surrogate escape, a high surrogate followed by a non-surrogate -/
example : parseJ ['"', '\\', 'u', 'd', '8', '0', '0', '"'] = none := by rfl
example : parseJ ['"', '\\', 'u', 'd', 'c', '0', '0', '"'] = none := by rfl
example : parseJ ['"', '\\', 'u', 'd', '8', '0', '0', '\\', 'u', '0', '0', '4', '1', '"'] = none := by rfl
/-- an unterminated string, an unknown escape, a short `\u` -/
example : parseJ ['"', 'a', 'b'] = none := by rfl
example : parseJ ['"', '\\', 'x', '"'] = none := by rfl
example : parseJ ['"', '\\', 'u', '1', '2', '"'] = none := by rfl
/-- numbers: bare minus, trailing dot, empty exponent, leading plus, hexadecimal -/
example : parseJ ['-'] = none := by rfl
example : parseJ ['1', '.'] = none := by rfl
example : parseJ ['1', 'e'] = none := by rfl
example : parseJ ['+', '1'] = none := by rfl
example : parseJ ['0', 'x', '1', '0'] = none := by rfl
/-- structure: trailing comma, missing colon, unquoted member name, unclosed array, empty text, NaN -/
example : parseJ ['[', '1', ',', ']'] = none := by rfl
example : parseJ ['{', '"', 'a', '"', '1', '}'] = none := by rfl
example : parseJ ['{', 'a', ':', '1', '}'] = none := by rfl
example : parseJ ['[', '1', ',', '2'] = none := by rfl
example : parseJ [] = none := by rfl
example : parseJ ['N', 'a', 'N'] = none := by rfl

/-! ### the tree a value denotes, and the matcher -/

/-- COMPLETENESS of the matcher: it accepts the tree a value denotes.  Hypotheses, on the leaves of `v` only
    (`Leaves`): for every finite float `bits` occurring in `v` the driver's float reader accepts what the float printer
    wrote (`fmatch bits (fp bits)`), and for every string `b` occurring in `v` the decoder inverts the UTF-8 encoder
    (`utf8Of (dec b) = b`; with `dec := J1.decUtf8` this says `b` is valid UTF-8, `J1.utf8Of_decUtf8`). -/
theorem C16_match_treeOf (isFinite : Nat → Bool) (fmatch : Nat → List Char → Bool) (fp : Nat → List Char)
    (dec : Bytes → List Char) (v : JVal)
    (h : Leaves (fun bits => isFinite bits = true → fmatch bits (fp bits) = true) (fun b => utf8Of (dec b) = b) v) :
    jmatchT isFinite fmatch v (treeOf isFinite fp dec v) = true :=
  jmatchT_treeOf isFinite fmatch fp dec v h

/-- the matcher is ORDERED: an object matches only an object with the same member names in the same order (hence the
    same number of members, duplicates included); an array matches only an array of the same length.  This is the
    "fields in template order" clause at the text level. -/
theorem C16_match_ordered (isFinite : Nat → Bool) (fmatch : Nat → List Char → Bool) :
    (∀ (kvs : List (String × JVal)) (t : JTree), jmatchT isFinite fmatch (.obj kvs) t = true →
      ∃ ms, t = .obj ms ∧ ms.map (·.1) = kvs.map (·.1.toList)) ∧
    (∀ (xs : List JVal) (t : JTree), jmatchT isFinite fmatch (.arr xs) t = true →
      ∃ ys, t = .arr ys ∧ ys.length = xs.length) := by
  constructor
  · intro kvs t h
    obtain ⟨ms, rfl, hm⟩ := jmatchT_obj_inv isFinite fmatch h
    exact ⟨ms, rfl, (goObj_spec isFinite fmatch kvs ms hm).1⟩
  · intro xs t h
    obtain ⟨ys, rfl, hm⟩ := jmatchT_arr_inv isFinite fmatch h
    exact ⟨ys, rfl, (goArr_spec isFinite fmatch xs ys hm).1⟩

/-- … and position by position: the k-th member (element) of the tree matches the k-th member (element) of the value -/
theorem C16_match_elementwise (isFinite : Nat → Bool) (fmatch : Nat → List Char → Bool) :
    (∀ (kvs : List (String × JVal)) (ms : List (List Char × JTree)),
      jmatchT isFinite fmatch (.obj kvs) (.obj ms) = true →
      ∀ (k : Nat) (kv : String × JVal) (m : List Char × JTree), kvs[k]? = some kv → ms[k]? = some m →
        m.1 = kv.1.toList ∧ jmatchT isFinite fmatch kv.2 m.2 = true) ∧
    (∀ (xs : List JVal) (ys : List JTree), jmatchT isFinite fmatch (.arr xs) (.arr ys) = true →
      ∀ (k : Nat) (x : JVal) (y : JTree), xs[k]? = some x → ys[k]? = some y → jmatchT isFinite fmatch x y = true) := by
  constructor
  · intro kvs ms h
    rw [jmatchT] at h
    exact (goObj_spec isFinite fmatch kvs ms h).2
  · intro xs ys h
    rw [jmatchT] at h
    exact (goArr_spec isFinite fmatch xs ys h).2

/-- THE TEXT DETERMINES THE VALUE: two values that match the same tree are equal.  `_partial`: for values without
    floats and without wildcard strings (`plain`).  With floats the statement depends on the unmodelled float reader
    `fmatch` (two bit patterns may accept the same literal, e.g. `0.0`/`-0.0` under a sloppy reader), and the wildcard
    `.anyStr` (nom's error messages) matches every string by design. -/
theorem C16_match_injective_partial (isFinite : Nat → Bool) (fmatch : Nat → List Char → Bool) (v w : JVal) (t : JTree)
    (hv : plain v = true) (hw : plain w = true)
    (h1 : jmatchT isFinite fmatch v t = true) (h2 : jmatchT isFinite fmatch w t = true) : v = w :=
  jmatchT_inj isFinite fmatch v w t hv hw h1 h2

/-- the unrestricted statement -/
def C16_match_injective_full : Prop :=
  ∀ (isFinite : Nat → Bool) (fmatch : Nat → List Char → Bool) (v w : JVal) (t : JTree),
    jmatchT isFinite fmatch v t = true → jmatchT isFinite fmatch w t = true → v = w

/-- … is false: the wildcard string and a concrete string match the same tree -/
theorem C16_match_injective_full_fails : ¬ C16_match_injective_full := by
  intro h
  have := h (fun _ => true) (fun _ _ => true) .anyStr (.str []) (.str []) (by rfl) (by rfl)
  cases this

/-- integer literals identify the integer (used by injectivity) -/
theorem C16_intLit_injective (a b : Int) (h : intLit a = intLit b) : a = b := intLit_inj h

/-! non-vacuity of the matcher theorems: a value with every constructor; the float `0` is "finite" and printed `0.0`,
    the float `1` is "not finite" and printed `null` -/

def c16bVal : JVal :=
  .obj [("k", .arr [.num (-5), .num 340282366920938463463374607431768211455, .f64 0, .f64 1,
                    .str [104, 105], .anyStr, .null, .obj []])]

def c16bFinite : Nat → Bool := fun b => b == 0
def c16bFp : Nat → List Char := fun _ => ['0', '.', '0']
def c16bFmatch : Nat → List Char → Bool := fun b lit => b == 0 && lit == ['0', '.', '0']

example : Leaves (fun bits => c16bFinite bits = true → c16bFmatch bits (c16bFp bits) = true)
    (fun b => utf8Of (decAscii b) = b) c16bVal :=
  leavesB_sound (fun bits => !c16bFinite bits || c16bFmatch bits (c16bFp bits)) (fun b => utf8Of (decAscii b) == b)
    c16bVal (by decide +kernel) |>.mono (fun b hb hf => by simpa [hf] using hb) (fun b hb => by simpa using hb)

example : plain (.obj [("k", .arr [.num (-5), .str [104, 105], .null, .obj []])]) = true := by decide +kernel

/-! ### the text of a value, the text of a parse result -/

/-- for ANY model value `v`: the tree it denotes is well formed, so the text the modelled writer prints for it is
    accepted by the reader and reads back as that very tree, and the ordered matcher accepts it.  Hypotheses on the
    leaves of `v` only: the float printer writes a valid JSON number that the float reader accepts, for the finite floats
    in `v`; the decoder inverts `utf8Of` on the strings in `v`. -/
theorem C16_value_text (isFinite : Nat → Bool) (fmatch : Nat → List Char → Bool) (fp : Nat → List Char)
    (dec : Bytes → List Char) (v : JVal)
    (h : Leaves (fun bits => isFinite bits = true → fmatch bits (fp bits) = true ∧ numOk (fp bits) = true)
      (fun b => utf8Of (dec b) = b) v) :
    WfTree (treeOf isFinite fp dec v) = true ∧
    parseJ (printTree (treeOf isFinite fp dec v)) = some (treeOf isFinite fp dec v) ∧
    jmatchT isFinite fmatch v (treeOf isFinite fp dec v) = true := by
  have hw : WfTree (treeOf isFinite fp dec v) = true :=
    WfTree_treeOf isFinite fp dec v (h.mono (fun _ hb hf => (hb hf).2) (fun _ _ => trivial))
  exact ⟨hw, parseJ_print _ hw,
    jmatchT_treeOf isFinite fmatch fp dec v (h.mono (fun _ hb hf => (hb hf).1) (fun _ hb => hb))⟩

/-- the model of `String::from_utf8_lossy` (`utf8Lossy`: Rust's `Utf8Chunks` state machine with the `E0/ED/F0/F4`
    second-byte ranges) only produces valid UTF-8 (core's `ByteArray.IsValidUTF8`), for every input -/
theorem C16_utf8Lossy_valid (bs : Bytes) : ValidUtf8 (utf8Lossy bs) := validUtf8_lossy bs

/-- `ValidUtf8` is exactly "some list of characters encodes to these bytes", and core's decoder finds it -/
theorem C16_validUtf8_iff (b : Bytes) : ValidUtf8 b ↔ ∃ s, utf8Of s = b := validUtf8_iff b

theorem C16_decUtf8_inverts (b : Bytes) (h : ValidUtf8 b) : utf8Of (decUtf8 b) = b := utf8Of_decUtf8 b h

/-- every string anywhere in the JSON value of every parse result is valid UTF-8: decoded string fields are
    `utf8Lossy` output, MAC addresses are ASCII, everything else (enum variant names, dotted quads, IPv6 texts) comes
    from a Lean `String`; float leaves are unconstrained -/
theorem C16_parse_results_strings_valid (c : Config) (nm : JNames) (st st' : PState) (buf : Bytes) (ps : List Packet)
    (h : parseBytes c st buf = (st', .done ps)) :
    ∀ p ∈ ps, Leaves (fun _ => True) ValidUtf8 (toJ c nm p) :=
  parseBytes_leaves c nm st st' buf ps h

/-- non-vacuity of `C16_value_text` (the value of the matcher examples above, ASCII decoder) -/
example : Leaves (fun bits => c16bFinite bits = true → c16bFmatch bits (c16bFp bits) = true ∧ numOk (c16bFp bits) = true)
    (fun b => utf8Of (decAscii b) = b) c16bVal :=
  leavesB_sound (fun bits => !c16bFinite bits || (c16bFmatch bits (c16bFp bits) && numOk (c16bFp bits)))
    (fun b => utf8Of (decAscii b) == b) c16bVal (by decide +kernel) |>.mono
      (fun b hb hf => by simpa [hf] using hb) (fun b hb => by simpa using hb)

/-- For every configuration, name tables, parser state and input, and every packet `p` that `parse_bytes`
    returns: the text the modelled writer prints for `toJ c nm p` is well-formed JSON (the reader accepts it and reads
    back the very tree of the value), and the ordered matcher accepts it — so the run-time oracle clause
    "`parseJ text = some tree` and `jmatchT (toJ c nm p) tree`" is met by the modelled serialiser on every parse
    result, member for member and in order.  Strings are decoded by core's UTF-8 decoder `decUtf8`; that every string
    of a parse result is valid UTF-8 is PROVED (`C16_parse_results_strings_valid`).
    The one hypothesis `hfp` is the specification of a component that is a PARAMETER of the model, not part of it: the
    float printer `fp` (ryu inside serde_json) writes a valid JSON number that the driver's float reader `fmatch`
    accepts, for every finite float.  (For values without finite floats it is vacuous.) -/
theorem C16_parse_results_text (c : Config) (nm : JNames) (st st' : PState) (buf : Bytes) (ps : List Packet)
    (hparse : parseBytes c st buf = (st', .done ps))
    (isFinite : Nat → Bool) (fmatch : Nat → List Char → Bool) (fp : Nat → List Char)
    (hfp : ∀ bits, isFinite bits = true → fmatch bits (fp bits) = true ∧ numOk (fp bits) = true) :
    ∀ p ∈ ps,
      parseJ (printTree (treeOf isFinite fp decUtf8 (toJ c nm p))) = some (treeOf isFinite fp decUtf8 (toJ c nm p)) ∧
      jmatchT isFinite fmatch (toJ c nm p) (treeOf isFinite fp decUtf8 (toJ c nm p)) = true := by
  intro p hp
  have hl := parseBytes_leaves c nm st st' buf ps hparse p hp
  have := C16_value_text isFinite fmatch fp decUtf8 (toJ c nm p)
    (hl.mono (fun b _ => hfp b) (fun b hb => utf8Of_decUtf8 b hb))
  exact ⟨this.2.1, this.2.2⟩

/-- strings the model takes from Lean `String`s (enum variant names, `Ipv4Addr`/`Ipv6Addr` Display texts) are valid -/
theorem C16_strJ_valid (s : String) : Leaves (fun _ => True) ValidUtf8 (strJ s) := lv_strJ s

/-! ### records' fields in template order, at the text level -/

/-- a record object read back from text: ANY tree that matches `recJ nm names r` is an object whose member names are the
    decimal indices of the record's entries, in the entries' order, nothing added, nothing dropped, nothing swapped -/
theorem C16_record_text_keys (isFinite : Nat → Bool) (fmatch : Nat → List Char → Bool) (nm : JNames)
    (names : List (Nat × String)) (r : Rec) (t : JTree) (h : jmatchT isFinite fmatch (recJ nm names r) t = true) :
    ∃ ms, t = .obj ms ∧ ms.map (·.1) = r.map (fun e => (toString e.1).toList) := by
  obtain ⟨ms, rfl, hk⟩ := (C16_match_ordered isFinite fmatch).1 _ t h
  refine ⟨ms, rfl, ?_⟩
  rw [hk, List.map_map]
  rfl

/-- V9: a record decoded against the template fields `fields`, serialised, and read back from text has the member names
    `"0", "1", …, "n-1"` (n = number of template fields) in this order — template order. -/
theorem C16_v9_record_text_keys_in_template_order (isFinite : Nat → Bool) (fmatch : Nat → List Char → Bool)
    (c : Config) (nm : JNames) (names : List (Nat × String)) (fields : List TField) (i : Bytes) (rec : Rec) (r : Bytes)
    (hrec : v9ParseRec c fields 0 i = some (rec, r)) (t : JTree)
    (h : jmatchT isFinite fmatch (recJ nm names rec) t = true) :
    ∃ ms, t = .obj ms ∧ ms.map (·.1) = (List.range fields.length).map (fun k => (toString k).toList) := by
  obtain ⟨ms, rfl, hk⟩ := C16_record_text_keys isFinite fmatch nm names rec _ h
  refine ⟨ms, rfl, ?_⟩
  have h1 := (C16_record_keys_in_template_order c nm names fields i rec r hrec).1
  rw [hk, ← h1, List.map_map]
  rfl

/-- the tree of a record object, concretely: member names in entry order -/
theorem C16_record_tree_keys (isFinite : Nat → Bool) (fp : Nat → List Char) (dec : Bytes → List Char) (nm : JNames)
    (names : List (Nat × String)) (r : Rec) :
    ∃ ms, treeOf isFinite fp dec (recJ nm names r) = .obj ms ∧ ms.map (·.1) = r.map (fun e => (toString e.1).toList) := by
  refine ⟨_, by rw [recJ, treeOf], ?_⟩
  rw [treeOfM_eq_map, List.map_map, List.map_map]
  rfl

/-- … and records' fields are in template order in the TEXT: in every V9 packet `parse_bytes` returns, all records of a
    `Data` flowset, serialised and read back from text (any tree the matcher accepts), are objects with the member names
    `"0", "1", …, "n-1"` in this order, for one `n` per flowset (the template's field count) -/
theorem C16_parse_results_text_keys (isFinite : Nat → Bool) (fmatch : Nat → List Char → Bool)
    (c : Config) (nm : JNames) (st st' : PState) (buf : Bytes) (ps : List Packet)
    (hparse : parseBytes c st buf = (st', .done ps)) :
    ∀ p ∈ ps, ∀ (hd : List Nat) (ss : List V9Set), p = .v9 hd ss → ∀ s ∈ ss, ∀ (recs : List Rec) (pad : Bytes),
      s.body = .data recs pad →
      ∃ n, ∀ rec ∈ recs, ∀ t, jmatchT isFinite fmatch (recJ nm nm.v9Field rec) t = true →
        ∃ ms, t = .obj ms ∧ ms.map (·.1) = (List.range n).map (fun k => (toString k).toList) := by
  intro p hp hd ss hpe s hs recs pad hb
  have hk := C16_parse_results_keys_in_template_order c st st' buf ps hparse p hp
  subst hpe
  have h1 := hk s hs
  rw [hb] at h1
  obtain ⟨n, hn⟩ := h1
  refine ⟨n, fun rec hrec t ht => ?_⟩
  obtain ⟨ms, rfl, hms⟩ := C16_record_text_keys isFinite fmatch nm nm.v9Field rec t ht
  refine ⟨ms, rfl, ?_⟩
  rw [hms, ← hn rec hrec, List.map_map]
  rfl

/-! non-vacuity of the parse-result theorems: a V9 packet with a template flowset (one field: `ApplicationName`, a string
    of 3 bytes) and a data flowset whose string is NOT valid UTF-8 (`a`, `0xFF`, `b`): `parse_bytes` returns one packet,
    the string is decoded lossily to `a U+FFFD b`, which is valid UTF-8 -/

def c16bPacketBytes : Bytes :=
  [0, 9, 0, 2, 0, 0, 0, 1, 0, 0, 0, 2, 0, 0, 0, 3, 0, 0, 0, 4,
   0, 0, 0, 12, 1, 0, 0, 1, 0, 96, 0, 3,
   1, 0, 0, 8, 0x61, 0xFF, 0x62, 0]

def c16bPacket : Packet :=
  .v9 [9, 2, 1, 2, 3, 4]
    [{ id := 0, len := 12, body := .templates [{ id := 256, fieldCount := 1, fields := [{ typ := 96, len := 3 }] }] [] },
     { id := 256, len := 8, body := .data [[(0, 96, .str [0x61, 0xEF, 0xBF, 0xBD, 0x62])]] [0] }]

theorem c16bPacket_parsed : (parseBytes jsonCfg {} c16bPacketBytes).2 = .done [c16bPacket] := by decide +kernel

example : (parseBytes jsonCfg {} c16bPacketBytes).2 = .done [c16bPacket] := c16bPacket_parsed

/-- `utf8Lossy` on ill-formed input: an overlong `E0 80`, a valid 4-byte sequence, a surrogate `ED A0 80`, and a lead
    byte beyond U+10FFFF -/
example : utf8Lossy [0xE0, 0x80, 0x41, 0xF0, 0x9F, 0x98, 0x80, 0xED, 0xA0, 0x80, 0xF4, 0x90] =
    [0xEF, 0xBF, 0xBD, 0xEF, 0xBF, 0xBD, 0x41, 0xF0, 0x9F, 0x98, 0x80, 0xEF, 0xBF, 0xBD, 0xEF, 0xBF, 0xBD,
     0xEF, 0xBF, 0xBD, 0xEF, 0xBF, 0xBD, 0xEF, 0xBF, 0xBD] := by decide +kernel

/-- the float-printer hypothesis `hfp` of the headline is satisfiable -/
example : ∀ bits, c16bFinite bits = true → c16bFmatch bits (c16bFp bits) = true ∧ numOk (c16bFp bits) = true := by
  intro bits h
  simp only [c16bFinite, beq_iff_eq] at h
  subst h
  exact ⟨by decide, by decide⟩

/-- the headline, instantiated on the concrete parse result above -/
example : ∃ st', parseBytes jsonCfg {} c16bPacketBytes = (st', .done [c16bPacket]) ∧
    jmatchT c16bFinite c16bFmatch (toJ jsonCfg jsonNames c16bPacket)
      (treeOf c16bFinite c16bFp decUtf8 (toJ jsonCfg jsonNames c16bPacket)) = true := by
  have h := c16bPacket_parsed
  refine ⟨(parseBytes jsonCfg {} c16bPacketBytes).1, Prod.ext rfl h, ?_⟩
  exact (C16_parse_results_text jsonCfg jsonNames {} _ c16bPacketBytes [c16bPacket] (Prod.ext rfl h)
    c16bFinite c16bFmatch c16bFp (by
      intro bits hb
      simp only [c16bFinite, beq_iff_eq] at hb
      subst hb
      exact ⟨by decide, by decide⟩) c16bPacket (by simp)).2

end Netflow.Props
