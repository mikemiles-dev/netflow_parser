/-
  Props/C16c.lean — C16, READ-BACK: "the header fields, template definitions and decoded field values in the JSON
  equal those of the decoded structure".

  Props/C16.lean proves faithfulness as INJECTIVITY of `toJ` (`C16_generated_faithful`); a serialiser that wrote
  `src_port` under the name `dst_port` would still be injective.  Here the JSON tree is read back by an independent,
  NAME-KEYED reader `readJ` (JsonRead.lean: members found by `lookup` of their name, enum variants by their tag,
  record entries by parsing the decimal member name; never by position in an object) and compared with the NORMAL
  FORM `normPkt` of the decoded packet (JsonRead.lean), which forgets exactly what the JSON cannot carry:
    * every `padding` (`#[serde(skip_serializing)]`),
    * the width tag of a `DataNumber` (`#[serde(untagged)]`): the normal form holds the integer,
    * error message strings (free text of nom; `JVal.anyStr` in the model),
  and keeps as TEXT what the JSON shows as text: `Ipv4Addr` / `Ipv6Addr` / MAC strings and the variant names of
  `ProtocolTypes`, `V9Field`, `IPFixField`, `ScopeFieldType`, `ScopeDataField` (`C16_normal_form_exact` lifts the text back to
  values with the injectivity lemmas of Lemmas/JsonFaithful.lean: equal normal forms ⇔ equal up to paddings and width tags).
-/
import NetflowModel.Lemmas.ReadBack
import NetflowModel.Props.C16
namespace Netflow.Props
open Netflow Netflow.JRead Netflow.B1 Netflow.P2

/-- READ-BACK, parametric in the tables: if the Rust field names of each derive(Nom) struct are pairwise distinct
    (`SchemaOk`), the packet has one value per struct field (`pktWf`, proved for parse results:
    `C16_parse_results_wellformed`) and its records have strictly ascending indices (proved for parse results:
    `C16_parse_results_keys_in_template_order`), the name-keyed reader returns the packet's normal form.
    All three hypotheses are discharged for parse results of the generated tables in `C16_read_back`. -/
theorem C16_read_back_of (c : Config) (nm : JNames) (hs : SchemaOk c) (p : Packet) (hw : pktWf c nm p = true)
    (hk : PktAll V9Asc IpAsc p) : readJ (schemaOf c) (toJ c nm p) = some (normPkt c nm p) :=
  readJ_toJ c nm hs p hw hk

/-- read-back for every parse result of any tables that satisfy `SchemaOk` and `TablesCover` -/
theorem C16_read_back_parse_results (c : Config) (nm : JNames) (hs : SchemaOk c) (hc : TablesCover c nm)
    (st st' : PState) (buf : Bytes) (ps : List Packet) (h : parseBytes c st buf = (st', .done ps)) :
    ∀ p ∈ ps, readJ (schemaOf c) (toJ c nm p) = some (normPkt c nm p) := fun p hp =>
  readJ_toJ c nm hs p (parseBytes_wf hc st st' buf ps h p hp) (pktAll_asc (parseBytes_keys c st st' buf ps h p hp))

/-- the schema the reader is given: the Rust field names of `V5Header`, `V5 FlowSet`, `V7Header`, `V7 FlowSet`,
    V9 `Header`, IPFIX `Header` (taken from the generated layouts; spelled out in `jsonSchema_eq`) -/
def jsonSchema : Schema := schemaOf jsonCfg

/-- the schema, literally -/
theorem jsonSchema_eq : jsonSchema =
    { v5Hdr := ["version", "count", "sys_up_time", "unix_secs", "unix_nsecs", "flow_sequence", "engine_type", "engine_id",
                "sampling_interval"],
      v5Rec := ["src_addr", "dst_addr", "next_hop", "input", "output", "d_pkts", "d_octets", "first", "last", "src_port",
                "dst_port", "pad1", "tcp_flags", "protocol_number", "protocol_type", "tos", "src_as", "dst_as", "src_mask",
                "dst_mask", "pad2"],
      v7Hdr := ["version", "count", "sys_up_time", "unix_secs", "unix_nsecs", "flow_sequence", "reserved"],
      v7Rec := ["src_addr", "dst_addr", "next_hop", "input", "output", "d_pkts", "d_octets", "first", "last", "src_port",
                "dst_port", "flags_fields_valid", "tcp_flags", "protocol_number", "protocol_type", "tos", "src_as",
                "dst_as", "src_mask", "dst_mask", "flags_fields_invalid", "router_src"],
      v9Hdr := ["version", "count", "sys_up_time", "unix_secs", "sequence_number", "source_id"],
      ipHdr := ["version", "length", "export_time", "sequence_number", "observation_domain_id"] } := rfl

theorem jsonSchema_of (allowed : List Nat) (uf : Bool) : schemaOf (jsonCfgOf allowed uf) = jsonSchema := rfl

/-- side condition of `C16_read_back_of` for the generated tables: no struct declares a field name twice -/
theorem jsonSchemaOk (allowed : List Nat) (uf : Bool) : SchemaOk (jsonCfgOf allowed uf) where
  v5Hdr := C16_generated_layout_names_distinct Generated.tables.v5Hdr (by simp)
  v5Rec := C16_generated_layout_names_distinct Generated.tables.v5Rec (by simp)
  v7Hdr := C16_generated_layout_names_distinct Generated.tables.v7Hdr (by simp)
  v7Rec := C16_generated_layout_names_distinct Generated.tables.v7Rec (by simp)
  v9Hdr := C16_generated_layout_names_distinct Generated.tables.v9Hdr (by simp)
  ipHdr := C16_generated_layout_names_distinct Generated.tables.ipHdr (by simp)

/-- **C16 READ-BACK.**  For every allowed-version set, either setting of `parse_unknown_fields`, every parser state
    and every buffer, every packet `p` that `parse_bytes` returns satisfies: the name-keyed reader applied to the JSON
    tree of `p` returns the normal form of `p` — every header field under its Rust name, every set header, every
    template definition, every record entry under its index with its field-enum name and its decoded value, every
    error element with its `remaining` bytes.  Text-valued leaves are compared as text (see `C16_normal_form_exact`). -/
theorem C16_read_back (allowed : List Nat) (uf : Bool) (st st' : PState) (buf : Bytes) (ps : List Packet)
    (h : parseBytes (jsonCfgOf allowed uf) st buf = (st', .done ps)) :
    ∀ p ∈ ps, readJ jsonSchema (toJ (jsonCfgOf allowed uf) jsonNames p) = some (normPkt (jsonCfgOf allowed uf) jsonNames p) :=
  C16_read_back_parse_results _ jsonNames (jsonSchemaOk allowed uf) (jsonCover allowed uf) st st' buf ps h

/-- `C16_read_back` for a V5 packet, with the normal form spelled out (V7, V9, IPFIX below) -/
theorem C16_read_back_v5 (allowed : List Nat) (uf : Bool) (st st' : PState) (buf : Bytes) (ps : List Packet)
    (h : parseBytes (jsonCfgOf allowed uf) st buf = (st', .done ps)) (hd : List Nat) (rs : List (List Nat))
    (hp : Packet.v5 hd rs ∈ ps) :
    readJ jsonSchema (toJ (jsonCfgOf allowed uf) jsonNames (.v5 hd rs)) =
      some (.v5 (normStruct jsonNames Generated.tables.v5Hdr hd) (rs.map (normStruct jsonNames Generated.tables.v5Rec))) :=
  C16_read_back allowed uf st st' buf ps h _ hp

/-- … for a V7 packet -/
theorem C16_read_back_v7 (allowed : List Nat) (uf : Bool) (st st' : PState) (buf : Bytes) (ps : List Packet)
    (h : parseBytes (jsonCfgOf allowed uf) st buf = (st', .done ps)) (hd : List Nat) (rs : List (List Nat))
    (hp : Packet.v7 hd rs ∈ ps) :
    readJ jsonSchema (toJ (jsonCfgOf allowed uf) jsonNames (.v7 hd rs)) =
      some (.v7 (normStruct jsonNames Generated.tables.v7Hdr hd) (rs.map (normStruct jsonNames Generated.tables.v7Rec))) :=
  C16_read_back allowed uf st st' buf ps h _ hp

/-- … for a V9 packet: the header and, per flowset, id, length and the normal form of the body -/
theorem C16_read_back_v9 (allowed : List Nat) (uf : Bool) (st st' : PState) (buf : Bytes) (ps : List Packet)
    (h : parseBytes (jsonCfgOf allowed uf) st buf = (st', .done ps)) (hd : List Nat) (ss : List V9Set)
    (hp : Packet.v9 hd ss ∈ ps) :
    readJ jsonSchema (toJ (jsonCfgOf allowed uf) jsonNames (.v9 hd ss)) =
      some (.v9 (normStruct jsonNames Generated.tables.v9Hdr hd)
        (ss.map fun s => { id := s.id, len := s.len, body := normV9Body (jsonCfgOf allowed uf) jsonNames s.body })) :=
  C16_read_back allowed uf st st' buf ps h _ hp

/-- … for an IPFIX message -/
theorem C16_read_back_ipfix (allowed : List Nat) (uf : Bool) (st st' : PState) (buf : Bytes) (ps : List Packet)
    (h : parseBytes (jsonCfgOf allowed uf) st buf = (st', .done ps)) (hd : List Nat) (ss : List IpSet)
    (hp : Packet.ipfix hd ss ∈ ps) :
    readJ jsonSchema (toJ (jsonCfgOf allowed uf) jsonNames (.ipfix hd ss)) =
      some (.ipfix (normStruct jsonNames Generated.tables.ipHdr hd)
        (ss.map fun s => { id := s.id, len := s.len, body := normIpBody (jsonCfgOf allowed uf) jsonNames s.body })) :=
  C16_read_back allowed uf st st' buf ps h _ hp

/-- error elements need no hypothesis at all: kind, version and both `remaining` byte strings are read back -/
theorem C16_read_back_error (c : Config) (nm : JNames) (sc : Schema) (k : ErrKind) (rem : Bytes) :
    readJ sc (toJ c nm (.error k rem)) = some (.error (normErr k) rem) := by
  simp [readJ, toJ, fieldWith, field, List.lookup, readErrKind_J]

/-- a derive(Nom) struct: each Rust field name looked up in the object gives the value decoded for that field -/
theorem C16_read_back_struct (nm : JNames) (lay : Layout) (vals : List Nat) (hn : (lay.map (·.name)).Nodup)
    (hl : vals.length = lay.length) :
    readStruct (lay.map (·.name)) (layoutJ nm lay vals) = some (normStruct nm lay vals) :=
  readStruct_J nm lay vals hn hl

/-- a decoded field value: the variant by its tag, the content by kind (no hypothesis) -/
theorem C16_read_back_field_value (nm : JNames) (v : FieldValue) :
    readFieldValue (fieldValueJ nm v) = some (normFieldValue nm v) :=
  readFieldValue_J nm v

/-- a record: every member name is a decimal index; the entries come back under their indices -/
theorem C16_read_back_record (nm : JNames) (names : List (Nat × String)) (r : Rec) (h : KeysAsc r) :
    readRec (recJ nm names r) = some (normRecN nm names r) :=
  readRec_J nm names r h

/-- a V9 flowset body whose records have ascending indices -/
theorem C16_read_back_v9_body (c : Config) (nm : JNames) (b : V9Body) (h : V9Asc b) :
    readV9Body (v9BodyJ c nm b) = some (normV9Body c nm b) :=
  readV9Body_J c nm b h

/-- an IPFIX set body whose records have ascending indices -/
theorem C16_read_back_ipfix_body (c : Config) (nm : JNames) (b : IpBody) (h : IpAsc b) :
    readIpBody (ipBodyJ c nm b) = some (normIpBody c nm b) :=
  readIpBody_J c nm b h

/-- template definitions need no hypothesis: id, counts and every (number, enum name, length[, enterprise]) -/
theorem C16_read_back_templates (c : Config) (nm : JNames) (ts : List V9Template) (pad : Bytes) :
    readV9Body (v9BodyJ c nm (.templates ts pad)) = some (normV9Body c nm (.templates ts pad)) :=
  readV9Body_J c nm _ trivial

/-- the same for an IPFIX template set -/
theorem C16_read_back_ipfix_template (c : Config) (nm : JNames) (t : IpTemplate) :
    readIpBody (ipBodyJ c nm (.template t)) = some (.template t.id t.fieldCount (t.fields.map (normIpTField c nm))) :=
  readIpBody_J c nm _ trivial

/-- decimal member names are read back as the index -/
theorem C16_index_key_read_back (n : Nat) : keyNat (toString n) = some n := keyNat_toString n

/-- `toJ` factors through the normal form: the JSON tree is a function of `normPkt p` alone (`writeN`, Lemmas/ReadBack.lean,
    is a writer of normal forms) — the normal form forgets nothing the JSON shows -/
theorem C16_toJ_factors (c : Config) (nm : JNames) (p : Packet) : writeN (normPkt c nm p) = toJ c nm p :=
  writeN_normPkt c nm p

/-- the normal form does not see paddings and `DataNumber` width tags (`B1.jnorm` erases both) -/
theorem C16_normal_form_ignores_pads_widths (c : Config) (nm : JNames) (p : Packet) :
    normPkt c nm (jnorm p) = normPkt c nm p :=
  normPkt_jnorm c nm p

/-- EXACTNESS of the normal form, text lifted back to values: for well-formed packets (every parse result is) and name
    tables without repeated variant names, two packets have the same normal form iff they agree in everything except
    paddings and width tags.  So comparing `Ipv4Addr` / `Ipv6Addr` / MAC / enum names as TEXT in `C16_read_back` loses
    nothing: `ip4Text`, `ip6Text`, `macText` and the name tables are injective (`B1.ip4Text_inj`, `B1.ip6Text_inj`,
    `B1.macText_inj`, `NamesOk`). -/
theorem C16_normal_form_exact (c : Config) (nm : JNames) (hn : NamesOk nm) (p q : Packet)
    (hp : pktWf c nm p = true) (hq : pktWf c nm q = true) : normPkt c nm p = normPkt c nm q ↔ jnorm p = jnorm q := by
  constructor
  · intro h
    apply toJ_inj hn hp hq
    rw [← writeN_normPkt, ← writeN_normPkt, h]
  · intro h
    rw [← normPkt_jnorm c nm p, ← normPkt_jnorm c nm q, h]

/-- exactness for the generated tables and parse results -/
theorem C16_generated_normal_form_exact (allowed : List Nat) (uf : Bool)
    (st1 st1' st2 st2' : PState) (buf1 buf2 : Bytes) (ps qs : List Packet)
    (h1 : parseBytes (jsonCfgOf allowed uf) st1 buf1 = (st1', .done ps))
    (h2 : parseBytes (jsonCfgOf allowed uf) st2 buf2 = (st2', .done qs))
    (p q : Packet) (hp : p ∈ ps) (hq : q ∈ qs) :
    normPkt (jsonCfgOf allowed uf) jsonNames p = normPkt (jsonCfgOf allowed uf) jsonNames q ↔ jnorm p = jnorm q :=
  C16_normal_form_exact _ jsonNames jsonNames_ok p q
    (parseBytes_wf (jsonCover allowed uf) _ _ _ _ h1 p hp) (parseBytes_wf (jsonCover allowed uf) _ _ _ _ h2 q hq)

/-- the JSON determines the normal form — obtained by READING the tree, not from injectivity of the writer -/
theorem C16_read_back_determines (allowed : List Nat) (uf : Bool)
    (st1 st1' st2 st2' : PState) (buf1 buf2 : Bytes) (ps qs : List Packet)
    (h1 : parseBytes (jsonCfgOf allowed uf) st1 buf1 = (st1', .done ps))
    (h2 : parseBytes (jsonCfgOf allowed uf) st2 buf2 = (st2', .done qs))
    (p q : Packet) (hp : p ∈ ps) (hq : q ∈ qs)
    (h : toJ (jsonCfgOf allowed uf) jsonNames p = toJ (jsonCfgOf allowed uf) jsonNames q) :
    normPkt (jsonCfgOf allowed uf) jsonNames p = normPkt (jsonCfgOf allowed uf) jsonNames q := by
  have e1 := C16_read_back allowed uf st1 st1' buf1 ps h1 p hp
  have e2 := C16_read_back allowed uf st2 st2' buf2 qs h2 q hq
  rw [h, e2] at e1
  exact (Option.some.inj e1).symm

/-- permuting the members of a struct object (distinct names) does not change what `readStruct` returns: every
    member is found by its name, wherever it stands -/
theorem C16_struct_order_irrelevant (names : List String) (kvs kvs' : List (String × JVal)) (hp : kvs.Perm kvs')
    (hn : (kvs.map (·.1)).Nodup) : readStruct names (.obj kvs) = readStruct names (.obj kvs') :=
  readStruct_perm names hp hn

/-- the same for any single member access of any object -/
theorem C16_member_order_irrelevant (kvs kvs' : List (String × JVal)) (hp : kvs.Perm kvs')
    (hn : (kvs.map (·.1)).Nodup) (k : String) : field k (.obj kvs) = field k (.obj kvs') :=
  field_perm hp hn k

/-- a record object whose members are written in ANY order (`r'` a permutation of the index-sorted `r`) is read as
    the index-sorted record: entries are placed by their decimal member name -/
theorem C16_record_order_irrelevant (nm : JNames) (names : List (Nat × String)) (r r' : Rec) (hp : r'.Perm r)
    (h : KeysAsc r) : readRec (recJ nm names r') = some (normRecN nm names r) :=
  readRec_perm nm names r r' hp h

/-- no tree that the writer produces for a packet with a DIFFERENT normal form is read as the normal form of `p`.
    In particular a writer that exchanged the values of two struct members, two record entries, two template fields, …
    (which yields the tree of the packet `q` with those values exchanged) is refuted by `C16_read_back` as soon as the two
    values differ. -/
theorem C16_swap_detected (c : Config) (nm : JNames) (hs : SchemaOk c) (p q : Packet) (hw : pktWf c nm q = true)
    (hk : PktAll V9Asc IpAsc q) (hne : normPkt c nm q ≠ normPkt c nm p) :
    readJ (schemaOf c) (toJ c nm q) ≠ some (normPkt c nm p) := by
  rw [readJ_toJ c nm hs q hw hk]
  intro h
  exact hne (Option.some.inj h)

/-- the V5 packet of Props/C16.lean (`src_port = 1234`, `dst_port = 80`) with the two port VALUES exchanged -/
def c16cV5PortsSwapped : Packet := .v5 [5, 1, 1000, 1700000000, 0, 42, 0, 0, 0]
  [[0x0a000001, 0x0a000002, 0, 1, 2, 10, 1000, 100, 200, 80, 1234, 0, 0x18, 6, 6, 0, 64512, 64513, 24, 24, 0]]

/-- the JSON tree of `c16V5Example` in which the members `src_port` and `dst_port` carry each other's VALUE
    (what a serialiser with the two fields mixed up would write) -/
def c16cTreeValuesSwapped : JVal :=
  .obj [("V5", .obj [("header", .obj [("version", .num 5), ("count", .num 1), ("sys_up_time", .num 1000),
      ("unix_secs", .num 1700000000), ("unix_nsecs", .num 0), ("flow_sequence", .num 42), ("engine_type", .num 0),
      ("engine_id", .num 0), ("sampling_interval", .num 0)]),
    ("flowsets", .arr [.obj [("src_addr", strJ "10.0.0.1"), ("dst_addr", strJ "10.0.0.2"), ("next_hop", strJ "0.0.0.0"),
      ("input", .num 1), ("output", .num 2), ("d_pkts", .num 10), ("d_octets", .num 1000), ("first", .num 100),
      ("last", .num 200), ("src_port", .num 80), ("dst_port", .num 1234), ("pad1", .num 0), ("tcp_flags", .num 24),
      ("protocol_number", .num 6), ("protocol_type", strJ "Tcp"), ("tos", .num 0), ("src_as", .num 64512),
      ("dst_as", .num 64513), ("src_mask", .num 24), ("dst_mask", .num 24), ("pad2", .num 0)]])])]

/-- the JSON tree of `c16V5Example` with the members `src_port` and `dst_port` (and `header` / `flowsets`, and
    `version` / `count`) written in the opposite ORDER, each still carrying its own value -/
def c16cTreeReordered : JVal :=
  .obj [("V5", .obj [
    ("flowsets", .arr [.obj [("src_addr", strJ "10.0.0.1"), ("dst_addr", strJ "10.0.0.2"), ("next_hop", strJ "0.0.0.0"),
      ("input", .num 1), ("output", .num 2), ("d_pkts", .num 10), ("d_octets", .num 1000), ("first", .num 100),
      ("last", .num 200), ("dst_port", .num 80), ("src_port", .num 1234), ("pad1", .num 0), ("tcp_flags", .num 24),
      ("protocol_number", .num 6), ("protocol_type", strJ "Tcp"), ("tos", .num 0), ("src_as", .num 64512),
      ("dst_as", .num 64513), ("src_mask", .num 24), ("dst_mask", .num 24), ("pad2", .num 0)]]),
    ("header", .obj [("count", .num 1), ("version", .num 5), ("sys_up_time", .num 1000),
      ("unix_secs", .num 1700000000), ("unix_nsecs", .num 0), ("flow_sequence", .num 42), ("engine_type", .num 0),
      ("engine_id", .num 0), ("sampling_interval", .num 0)])])]

theorem c16cPortsSwapped_ne :
    normPkt jsonCfg jsonNames c16cV5PortsSwapped ≠ normPkt jsonCfg jsonNames c16V5Example := by decide +kernel

/-- the true tree reads back as the normal form of the packet (instance of `C16_read_back_of`) -/
theorem C16_read_back_v5_example :
    readJ jsonSchema (toJ jsonCfg jsonNames c16V5Example) = some (normPkt jsonCfg jsonNames c16V5Example) :=
  C16_read_back_of jsonCfg jsonNames (jsonSchemaOk Generated.defaultAllowed true) c16V5Example (by decide +kernel) trivial

/-- VALUES exchanged between `src_port` and `dst_port`: the reader returns the normal form of the packet with the
    ports exchanged, which is NOT the normal form of the packet — the read-back theorem fails for such a writer -/
theorem C16_swap_values_v5_ports :
    readJ jsonSchema c16cTreeValuesSwapped = some (normPkt jsonCfg jsonNames c16cV5PortsSwapped) ∧
    readJ jsonSchema c16cTreeValuesSwapped ≠ some (normPkt jsonCfg jsonNames c16V5Example) := by
  have h : readJ jsonSchema c16cTreeValuesSwapped = some (normPkt jsonCfg jsonNames c16cV5PortsSwapped) := by
    decide +kernel
  exact ⟨h, fun e => c16cPortsSwapped_ne (Option.some.inj (h.symm.trans e))⟩

/-- ORDER exchanged (names travel with their values): the reader returns the same normal form as for the true tree -/
theorem C16_reorder_v5_ports :
    c16cTreeReordered ≠ toJ jsonCfg jsonNames c16V5Example ∧
    readJ jsonSchema c16cTreeReordered = some (normPkt jsonCfg jsonNames c16V5Example) := by
  refine ⟨?_, by decide +kernel⟩
  intro h
  simp [c16cTreeReordered, c16V5Example, toJ] at h

/-- a V9 export packet: one template set (id 256: source address, protocol, byte count) and one data set with one
    record and three bytes of padding -/
def c16cV9Buf : Bytes :=
  [0, 9, 0, 2, 0, 0, 19, 136, 101, 83, 241, 0, 0, 0, 0, 7, 0, 0, 0, 1,
   0, 0, 0, 20, 1, 0, 0, 3, 0, 8, 0, 4, 0, 4, 0, 1, 0, 1, 0, 4,
   1, 0, 0, 16, 192, 168, 0, 1, 6, 0, 0, 5, 220, 0, 0, 0]

/-- `parse_bytes` decodes it to the V9 packet `c16V9Example` of Props/C16.lean (hypothesis of `C16_read_back` met) -/
example : parseBytes (jsonCfgOf [5, 7, 9, 10] true) {} c16cV9Buf =
    ({ v9T := [(256, c16V9Template)] }, .done [c16V9Example]) := by
  decide +kernel

/-- … and its JSON tree reads back as: header fields by name, the template definition, the record keyed 0, 1, 2 with
    enum names and values (address and enum names as text, the `U32` as the integer 1500), no padding -/
example : readJ jsonSchema (toJ (jsonCfgOf [5, 7, 9, 10] true) jsonNames c16V9Example) =
    some (.v9 [("version", .nat 9), ("count", .nat 2), ("sys_up_time", .nat 5000), ("unix_secs", .nat 1700000000),
               ("sequence_number", .nat 7), ("source_id", .nat 1)]
      [{ id := 0, len := 20, body := .templates [{ id := 256, fieldCount := 3, fields :=
          [{ typ := 8, name := textOf "Ipv4SrcAddr", len := 4, ent := none },
           { typ := 4, name := textOf "Protocol", len := 1, ent := none },
           { typ := 1, name := textOf "InBytes", len := 4, ent := none }] }] },
       { id := 256, len := 16, body := .data
          [[(0, textOf "Ipv4SrcAddr", .ip4 (textOf "192.168.0.1")), (1, textOf "Protocol", .proto (textOf "Tcp")),
            (2, textOf "InBytes", .num 1500)]] }]) := by
  decide +kernel

/-- an IPFIX message: one template set (id 256: source address, protocol) and one data set with one record and one
    byte of padding; a decoded IPFIX record is a run of single-entry maps -/
def c16cIpfixBuf : Bytes :=
  [0, 10, 0, 42, 101, 83, 241, 0, 0, 0, 0, 7, 0, 0, 0, 1,
   0, 2, 0, 16, 1, 0, 0, 2, 0, 8, 0, 4, 0, 4, 0, 1,
   1, 0, 0, 10, 192, 168, 0, 1, 6, 0]

def c16cIpfixTemplate : IpTemplate :=
  { id := 256, fieldCount := 2, fields := [{ typ := 8, len := 4, ent := none }, { typ := 4, len := 1, ent := none }], pad := [] }

def c16cIpfixExample : Packet :=
  .ipfix [10, 42, 1700000000, 7, 1]
    [{ id := 2, len := 16, body := .template c16cIpfixTemplate },
     { id := 256, len := 10, body := .data [[(0, 8, .ip4 0xc0a80001)], [(1, 4, .num (.u8 6))]] [0] }]

example : (parseBytes (jsonCfgOf [5, 7, 9, 10] true) {} c16cIpfixBuf).2 = .done [c16cIpfixExample] := by
  decide +kernel

example : readJ jsonSchema (toJ (jsonCfgOf [5, 7, 9, 10] true) jsonNames c16cIpfixExample) =
    some (.ipfix [("version", .nat 10), ("length", .nat 42), ("export_time", .nat 1700000000), ("sequence_number", .nat 7),
                  ("observation_domain_id", .nat 1)]
      [{ id := 2, len := 16, body := .template 256 2
          [{ typ := 8, name := textOf "SourceIpv4address", len := 4, ent := none },
           { typ := 4, name := textOf "ProtocolIdentifier", len := 1, ent := none }] },
       { id := 256, len := 10, body := .data
          [[(0, textOf "SourceIpv4address", .ip4 (textOf "192.168.0.1"))], [(1, textOf "ProtocolIdentifier", .num 6)]] }]) := by
  decide +kernel

/-- the V5 packet followed by a stray byte of Props/C16.lean: the error element reads back with its `remaining` byte -/
example : readJ jsonSchema (toJ (jsonCfgOf [5, 7, 9, 10] true) jsonNames (.error .incomplete [9])) =
    some (.error .incomplete [9]) := by
  decide +kernel

/-- hypotheses of `C16_read_back_of` / `C16_swap_detected` / `C16_normal_form_exact` met by the example packets -/
example : SchemaOk jsonCfg ∧ pktWf jsonCfg jsonNames c16V9Example = true ∧ PktAll V9Asc IpAsc c16V9Example ∧
    pktWf jsonCfg jsonNames c16cIpfixExample = true ∧ PktAll V9Asc IpAsc c16cIpfixExample ∧
    normPkt jsonCfg jsonNames c16cV5PortsSwapped ≠ normPkt jsonCfg jsonNames c16V5Example := by
  refine ⟨jsonSchemaOk _ _, by decide +kernel, ?_, by decide +kernel, ?_, c16cPortsSwapped_ne⟩
  · intro s hs
    simp only [List.mem_cons, List.not_mem_nil, or_false] at hs
    rcases hs with rfl | rfl
    · trivial
    · intro r hr
      simp only [List.mem_cons, List.not_mem_nil, or_false] at hr
      subst hr
      simp [KeysAsc, c16V9Record]
  · intro s hs
    simp only [List.mem_cons, List.not_mem_nil, or_false] at hs
    rcases hs with rfl | rfl
    · trivial
    · intro r hr
      simp only [List.mem_cons, List.not_mem_nil, or_false] at hr
      rcases hr with rfl | rfl <;> simp [KeysAsc]

/-- `C16_record_order_irrelevant`, concretely: the record of `c16V9Example` written with its members in the order
    2, 0, 1 is read as the record in template order -/
example : readRec (recJ jsonNames jsonNames.v9Field [c16V9Record[2], c16V9Record[0], c16V9Record[1]]) =
    some (normRecN jsonNames jsonNames.v9Field c16V9Record) := by
  decide +kernel

/-- `C16_struct_order_irrelevant` / `C16_read_back_struct`: hypotheses met by the V9 header layout -/
example : (Generated.tables.v9Hdr.map (·.name)).Nodup ∧ [9, 2, 5000, 1700000000, 7, 1].length = Generated.tables.v9Hdr.length := by
  decide +kernel

/-- the width tag is not read back (it is not in the JSON): `U8(5)` and `U32(5)` have the same normal form -/
example : normPkt jsonCfg jsonNames c16WitnessU8 = normPkt jsonCfg jsonNames c16WitnessU32 ∧ c16WitnessU8 ≠ c16WitnessU32 := by
  decide +kernel

end Netflow.Props
