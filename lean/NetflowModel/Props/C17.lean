/-
  Props/C17.lean — property C17 (cargo feature `parse_unknown_fields`, in the model
  `Config.unknownFields`):

    "with the parse_unknown_fields feature turned off, every packet that contains only fields known
     to the library decodes, re-exports and converts exactly as in the default build, and a data
     record containing a field the library does not know is not reported as decoded data".

  The flag is read in exactly one place of the model, the `.unknown` arm of `parseValue`.
  "Known to the library": the field's library type is not `FType.unknown`
  (V9 `c.t.v9Ty (c.t.v9Field f.typ)`, IPFIX non-enterprise `c.t.ipTy (c.t.ipField f.typ)`;
  enterprise fields never go through `parseValue`).

  About the hypotheses of `C17_known_only_same`.  Known-only caches at the START of the call are not
  enough: a template set arriving in the same buffer can cache an unknown-typed template that a later
  data set uses (`C17_state_alone_insufficient`).  The theorem therefore also asks that no template
  REPORTED by the flag-on run is unknown-typed (`Findings.reportsUnknownTemplate`); nothing has to be
  assumed about the caches after the call.  One side condition on the tables is needed: the IPFIX set
  header occupies bytes (`0 < c.t.ipSetHdr.wireLen`, true of the generated tables by `decide`); it
  makes the `many0` no-progress error of `ipParseSets` unreachable, which is the only way an IPFIX
  message could fail AFTER some of its sets were processed without reporting them.

  NOT a theorem: "the crate compiles with the feature off" — that is checked at run time by building
  the crate with `--no-default-features`; nothing in this file says anything about it.
-/
import NetflowModel.Lemmas.Feature
import NetflowModel.Generated
import NetflowModel.Lemmas.GenTables
import NetflowModel.Lemmas.G1Arms
namespace Netflow.Props
open Netflow Netflow.B2

/-- a field of a type known to the library decodes identically in both builds -/
theorem C17_value_same (vc : ValueCfg) (ty : FType) (len : Nat) (i : Bytes) (h : ty ≠ .unknown) :
    parseValue { vc with unknownFields := false } ty len i = parseValue { vc with unknownFields := true } ty len i :=
  parseValue_known vc false true ty h len i

example : FType.unsigned ≠ .unknown ∧
    parseValue { dnArms := Generated.dnArms, protoParse := fun _ => none, protoToU8 := id, unknownFields := false }
      .unsigned 2 [1, 2, 3] = some (.num (.u16 258), [3]) := by decide +kernel

/-- with the feature off a field of unknown type never decodes -/
theorem C17_value_unknown_off (vc : ValueCfg) (len : Nat) (i : Bytes) :
    parseValue { vc with unknownFields := false } .unknown len i = none := rfl

/-- (for contrast) with the feature on it decodes like a `Vec` field: the raw bytes -/
theorem C17_value_unknown_on (vc : ValueCfg) (len : Nat) (i : Bytes) :
    parseValue { vc with unknownFields := true } .unknown len i = parseValue vc .vec len i := rfl

/-- V9: every field of the template known ⇒ the record decodes identically -/
theorem C17_v9_record_same (c : Config) (fs : List TField)
    (hk : ∀ f ∈ fs, c.t.v9Ty (c.t.v9Field f.typ) ≠ .unknown) (idx : Nat) (i : Bytes) :
    v9ParseRec { c with unknownFields := false } fs idx i = v9ParseRec { c with unknownFields := true } fs idx i :=
  v9ParseRec_known c false true fs hk idx i

/-- V9, feature off: a template with an unknown-typed field never yields a record -/
theorem C17_v9_record_unknown_off (c : Config) (fs : List TField)
    (hu : ∃ f ∈ fs, c.t.v9Ty (c.t.v9Field f.typ) = .unknown) (idx : Nat) (i : Bytes) :
    v9ParseRec { c with unknownFields := false } fs idx i = none :=
  v9ParseRec_unknown_off c fs hu idx i

/-- IPFIX: every non-enterprise field of the template known ⇒ the record decodes identically -/
theorem C17_ipfix_record_same (c : Config) (fs : List IpTField)
    (hk : ∀ f ∈ fs, f.ent = none → c.t.ipTy (c.t.ipField f.typ) ≠ .unknown) (idx : Nat) (i : Bytes) :
    ipParseRec { c with unknownFields := false } fs idx i = ipParseRec { c with unknownFields := true } fs idx i :=
  ipParseRec_known c false true fs hk idx i

/-- IPFIX, feature off: a template with an unknown-typed non-enterprise field never yields a record -/
theorem C17_ipfix_record_unknown_off (c : Config) (fs : List IpTField)
    (hu : ∃ f ∈ fs, f.ent = none ∧ c.t.ipTy (c.t.ipField f.typ) = .unknown) (idx : Nat) (i : Bytes) :
    ipParseRec { c with unknownFields := false } fs idx i = none :=
  ipParseRec_unknown_off c fs hu idx i

example : (∀ f ∈ [(⟨1, 4⟩ : TField), ⟨8, 4⟩], Generated.tables.v9Ty (Generated.tables.v9Field f.typ) ≠ .unknown) ∧
    (∃ f ∈ [(⟨1, 4⟩ : TField), ⟨600, 4⟩], Generated.tables.v9Ty (Generated.tables.v9Field f.typ) = .unknown) := by
  decide +kernel

/-- no cached template has a field of a type unknown to the library (the oracle's test) -/
def KnownOnly (c : Config) (st : PState) : Prop := Findings.usesUnknown c st = false

instance (c : Config) (st : PState) : Decidable (KnownOnly c st) := by unfold KnownOnly; infer_instance

/-- `KnownOnly` spelled out: exactly the caches `parseValue` is ever driven from (V9 data templates,
    IPFIX templates and options templates; V9 options data is decoded without `parseValue`) -/
theorem C17_knownOnly_iff (c : Config) (st : PState) :
    KnownOnly c st ↔
      (∀ e ∈ st.v9T, ∀ f ∈ e.2.fields, c.t.v9Ty (c.t.v9Field f.typ) ≠ .unknown) ∧
      (∀ e ∈ st.ipT, ∀ f ∈ e.2.fields, f.ent = none → c.t.ipTy (c.t.ipField f.typ) ≠ .unknown) ∧
      (∀ e ∈ st.ipO, ∀ f ∈ e.2.fields, f.ent = none → c.t.ipTy (c.t.ipField f.typ) ≠ .unknown) :=
  knownOnly_iff c st

/-- with known-only caches ONE V9 flowset (of any kind) parses identically: result and new caches -/
theorem C17_v9_set_same (c : Config) (st : PState) (hk : KnownOnly c st) (i : Bytes) :
    v9ParseSet { c with unknownFields := false } st i = v9ParseSet { c with unknownFields := true } st i :=
  v9ParseSet_same c false true st ((knownOnly_iff c st).1 hk) i

/-- with known-only caches ONE IPFIX set (of any kind) parses identically -/
theorem C17_ipfix_set_same (c : Config) (st : PState) (hk : KnownOnly c st) (i : Bytes) :
    ipParseSet { c with unknownFields := false } st i = ipParseSet { c with unknownFields := true } st i :=
  ipParseSet_same c false true st ((knownOnly_iff c st).1 hk) i

/-- V9, feature off: a data flowset whose template has an unknown-typed field is reported with no
    record at all, its whole body as padding (or fails like in the default build when the template's
    record size is 0) -/
theorem C17_v9_unknown_set_off (c : Config) (st : PState) (id : Nat) (body : Bytes) (t : V9Template)
    (h1 : id ≠ c.t.v9TemplateId) (h2 : id ≠ c.t.v9OptTemplateId) (hO : amLookup id st.v9O = none)
    (hT : amLookup id st.v9T = some t) (hu : ∃ f ∈ t.fields, c.t.v9Ty (c.t.v9Field f.typ) = .unknown) :
    v9ParseBody { c with unknownFields := false } st id body =
      if v9TotalSize t.fields = 0 then (st, .err) else (st, .ok (.data [] body)) :=
  v9ParseBody_unknown_off c st id body t h1 h2 hO hT hu

/-- IPFIX, feature off: a data set whose (options) template has an unknown-typed non-enterprise field
    is a nom error — the set, and every set after it in the message, is not reported -/
theorem C17_ipfix_unknown_set_off (c : Config) (st : PState) (id : Nat) (body : Bytes)
    (h1 : ¬ (id < c.t.ipSetMinRange ∧ id ≠ c.t.ipOptTemplateId)) (h2 : id ≠ c.t.ipOptTemplateId)
    (hu : (∃ t, amLookup id st.ipT = some t ∧
            ∃ f ∈ t.fields, f.ent = none ∧ c.t.ipTy (c.t.ipField f.typ) = .unknown) ∨
          (amLookup id st.ipT = none ∧ ∃ t, amLookup id st.ipO = some t ∧
            ∃ f ∈ t.fields, f.ent = none ∧ c.t.ipTy (c.t.ipField f.typ) = .unknown)) :
    ipParseBody { c with unknownFields := false } st id body = (st, .err) := by
  rcases hu with ⟨t, hT, hu⟩ | ⟨hT, t, hO, hu⟩
  · exact ipParseBody_unknown_off_t c st id body t h1 h2 hT hu
  · exact ipParseBody_unknown_off_o c st id body t h1 h2 hT hO hu

/-- non-vacuity of the set-level theorems: a known-only cache; a cache, set id and template meeting the
    hypotheses of `C17_v9_unknown_set_off` / `C17_ipfix_unknown_set_off` for the generated tables -/
example : KnownOnly { t := Generated.tables, allowed := [] } { v9T := [(256, ⟨256, 2, [⟨1, 4⟩, ⟨8, 4⟩]⟩)] } := by decide

example :
    let c : Config := { t := Generated.tables, allowed := [] }
    let st : PState := { v9T := [(256, ⟨256, 1, [⟨600, 4⟩]⟩)] }
    (256 ≠ c.t.v9TemplateId) ∧ (256 ≠ c.t.v9OptTemplateId) ∧ amLookup 256 st.v9O = none ∧
    amLookup 256 st.v9T = some ⟨256, 1, [⟨600, 4⟩]⟩ ∧
    (∃ f ∈ [(⟨600, 4⟩ : TField)], c.t.v9Ty (c.t.v9Field f.typ) = .unknown) ∧ v9TotalSize [⟨600, 4⟩] ≠ 0 := by
  decide +kernel

example :
    let c : Config := { t := Generated.tables, allowed := [] }
    let st : PState := { ipT := [(256, ⟨256, 1, [⟨600, 4, none⟩], []⟩)] }
    ¬ (256 < c.t.ipSetMinRange ∧ 256 ≠ c.t.ipOptTemplateId) ∧ (256 ≠ c.t.ipOptTemplateId) ∧
    amLookup 256 st.ipT = some ⟨256, 1, [⟨600, 4, none⟩], []⟩ ∧
    (∃ f ∈ [(⟨600, 4, none⟩ : IpTField)], f.ent = none ∧ c.t.ipTy (c.t.ipField f.typ) = .unknown) := by
  decide +kernel

/-- **C17, first half.**  If no unknown-typed template is cached before the call and none is
    announced by the packets the default build (`unknownFields := true`) returns, then the build
    without the feature returns exactly the same: same packets, same caches.
    (`hw` is a side condition on the tables, see the file header.) -/
theorem C17_known_only_same (c : Config) (hw : 0 < c.t.ipSetHdr.wireLen) (st : PState) (buf : Bytes)
    (st' : PState) (pkts : List Packet)
    (hst : Findings.usesUnknown c st = false)
    (hrun : parseBytes { c with unknownFields := true } st buf = (st', .done pkts))
    (hrep : Findings.reportsUnknownTemplate c pkts = false) :
    parseBytes { c with unknownFields := false } st buf = parseBytes { c with unknownFields := true } st buf := by
  rw [hrun]
  exact parseBytes_same c hw false true st buf st' pkts ((knownOnly_iff c st).1 hst) hrun
    (reports_false_pktKnown c pkts hrep)

/-- the same with the (unused) hypothesis that the caches after the call are known-only as well -/
theorem C17_known_only_same' (c : Config) (hw : 0 < c.t.ipSetHdr.wireLen) (st : PState) (buf : Bytes)
    (st' : PState) (pkts : List Packet)
    (hst : Findings.usesUnknown c st = false)
    (hrun : parseBytes { c with unknownFields := true } st buf = (st', .done pkts))
    (_hst' : Findings.usesUnknown c st' = false)
    (hrep : Findings.reportsUnknownTemplate c pkts = false) :
    parseBytes { c with unknownFields := false } st buf = parseBytes { c with unknownFields := true } st buf :=
  C17_known_only_same c hw st buf st' pkts hst hrun hrep

/-- the exporters do not read the flag -/
theorem C17_export_same (c : Config) (p : Packet) :
    exportPacket { c with unknownFields := false } p = exportPacket { c with unknownFields := true } p := by
  exact (exportPacket_flag c false p).trans (exportPacket_flag c true p).symm

/-- nor does the common view -/
theorem C17_common_same (c : Config) (p : Packet) :
    toCommon { c with unknownFields := false } p = toCommon { c with unknownFields := true } p := by
  exact (toCommon_flag c false p).trans (toCommon_flag c true p).symm

/-- consequently, under the hypotheses of `C17_known_only_same`, decoded packets, their re-export and
    their common view all coincide between the two builds -/
theorem C17_known_only_views_same (c : Config) (hw : 0 < c.t.ipSetHdr.wireLen) (st : PState) (buf : Bytes)
    (st' : PState) (pkts : List Packet)
    (hst : Findings.usesUnknown c st = false)
    (hrun : parseBytes { c with unknownFields := true } st buf = (st', .done pkts))
    (hrep : Findings.reportsUnknownTemplate c pkts = false) :
    parseBytes { c with unknownFields := false } st buf = (st', .done pkts) ∧
    pkts.map (exportPacket { c with unknownFields := false }) = pkts.map (exportPacket { c with unknownFields := true }) ∧
    pkts.map (toCommon { c with unknownFields := false }) = pkts.map (toCommon { c with unknownFields := true }) ∧
    commonFlat { c with unknownFields := false } pkts = commonFlat { c with unknownFields := true } pkts := by
  refine ⟨(C17_known_only_same c hw st buf st' pkts hst hrun hrep).trans hrun, ?_, ?_, ?_⟩
  · exact List.map_congr_left (fun p _ => C17_export_same c p)
  · exact List.map_congr_left (fun p _ => C17_common_same c p)
  · unfold commonFlat
    simp only [C17_common_same]

/-- **C17, second half.**  Whatever the caches and the buffer: with the feature off no decoded data
    record carries an entry whose field type is unknown to the library (enterprise entries, which are
    raw bytes in both builds, are exempt exactly as in the oracle predicate).  No side condition. -/
theorem C17_unknown_not_decoded (c : Config) (st : PState) (buf : Bytes) (st' : PState) (pkts : List Packet)
    (h : parseBytes { c with unknownFields := false } st buf = (st', .done pkts)) :
    Findings.noUnknownEntries c pkts = true :=
  pktClean_noUnknownEntries c pkts (parseBytesF_off_clean c _ st buf st' pkts h)

/-- the configuration the crate is built with (`b` = is the feature on) -/
def C17cfg (allowed : List Nat) (b : Bool) : Config := { t := Generated.tables, allowed := allowed, unknownFields := b }

/-- `C17_known_only_views_same` for the configuration the crate is built with -/
theorem C17_generated_known_only_same (allowed : List Nat) (st : PState) (buf : Bytes) (st' : PState) (pkts : List Packet)
    (hst : Findings.usesUnknown (C17cfg allowed true) st = false)
    (hrun : parseBytes (C17cfg allowed true) st buf = (st', .done pkts))
    (hrep : Findings.reportsUnknownTemplate (C17cfg allowed true) pkts = false) :
    parseBytes (C17cfg allowed false) st buf = (st', .done pkts) ∧
    pkts.map (exportPacket (C17cfg allowed false)) = pkts.map (exportPacket (C17cfg allowed true)) ∧
    pkts.map (toCommon (C17cfg allowed false)) = pkts.map (toCommon (C17cfg allowed true)) ∧
    commonFlat (C17cfg allowed false) pkts = commonFlat (C17cfg allowed true) pkts :=
  C17_known_only_views_same (C17cfg allowed true) generated_ipSetHdr_pos st buf st' pkts hst hrun hrep

/-- `C17_unknown_not_decoded` for that configuration -/
theorem C17_generated_unknown_not_decoded (allowed : List Nat) (st : PState) (buf : Bytes) (st' : PState)
    (pkts : List Packet) (h : parseBytes (C17cfg allowed false) st buf = (st', .done pkts)) :
    Findings.noUnknownEntries (C17cfg allowed false) pkts = true :=
  C17_unknown_not_decoded (C17cfg allowed false) st buf st' pkts h

/-- for the generated tables the enterprise exemption of `Findings.noUnknownEntries` exempts only
    entries produced by enterprise fields: no field NUMBER is mapped to the `Enterprise` variant, so
    a non-enterprise field never carries the discriminant `ipEnterprise` -/
theorem C17_generated_enterprise_disc (typ : Nat) :
    Generated.tables.ipField typ ≠ Generated.tables.ipEnterprise := by
  have hall : (Generated.ipFieldTbl.all fun e => e.2 != Generated.ipEnterprise) = true := by decide +kernel
  show Generated.lookupD Generated.ipFieldTbl Generated.ipFieldDefault typ ≠ Generated.ipEnterprise
  unfold Generated.lookupD
  cases hl : Generated.ipFieldTbl.lookup typ with
  | none => decide
  | some d =>
    have hm := lookup_mem hl
    rw [List.all_eq_true] at hall
    have := hall _ hm
    simpa using this

def c17Pkts : Outcome → List Packet
  | .done ps => ps
  | _ => []

def c17Hdr9 (count : UInt8) : Bytes := [0, 9, 0, count, 0, 0, 0, 1, 0, 0, 0, 2, 0, 0, 0, 3, 0, 0, 0, 4]

/-- V9: template 256 = [IN_BYTES(1)/4, IPV4_SRC_ADDR(8)/4], then one data record for it -/
def c17Known : Bytes :=
  c17Hdr9 2 ++ [0, 0, 0, 16, 1, 0, 0, 2, 0, 1, 0, 4, 0, 8, 0, 4] ++ [1, 0, 0, 12, 0, 0, 0, 42, 192, 168, 0, 1]

/-- V9: template 256 = [field number 600 / 4] (no such `V9Field`: type `Unknown`), then one record -/
def c17Unknown : Bytes :=
  c17Hdr9 2 ++ [0, 0, 0, 12, 1, 0, 0, 1, 2, 88, 0, 4] ++ [1, 0, 0, 8, 0xde, 0xad, 0xbe, 0xef]

/-- IPFIX: template 256 = [element 600 / 4] (type `Unknown`), then one record -/
def c17UnknownIp : Bytes :=
  [0, 10, 0, 36, 0, 0, 0, 1, 0, 0, 0, 2, 0, 0, 0, 3] ++ [0, 2, 0, 12, 1, 0, 0, 1, 2, 88, 0, 4] ++
    [1, 0, 0, 8, 0xde, 0xad, 0xbe, 0xef]

/-- non-vacuity of `C17_known_only_same`: its hypotheses hold for `c17Known` from empty caches, and
    the (identical) result really contains a decoded data record -/
example :
    Findings.usesUnknown (C17cfg [5, 7, 9, 10] true) {} = false ∧
    parseBytes (C17cfg [5, 7, 9, 10] true) {} c17Known =
      ({ v9T := [(256, ⟨256, 2, [⟨1, 4⟩, ⟨8, 4⟩]⟩)] },
       .done [.v9 [9, 2, 1, 2, 3, 4]
         [⟨0, 16, .templates [⟨256, 2, [⟨1, 4⟩, ⟨8, 4⟩]⟩] []⟩,
          ⟨256, 12, .data [[(0, 1, .num (.u32 42)), (1, 8, .ip4 3232235521)]] []⟩]]) ∧
    Findings.reportsUnknownTemplate (C17cfg [5, 7, 9, 10] true)
      (c17Pkts (parseBytes (C17cfg [5, 7, 9, 10] true) {} c17Known).2) = false ∧
    parseBytes (C17cfg [5, 7, 9, 10] false) {} c17Known = parseBytes (C17cfg [5, 7, 9, 10] true) {} c17Known := by
  decide +kernel

/-- known-only caches before the call are NOT enough (why `C17_known_only_same` also looks at the
    templates reported by the call): from empty caches `c17Unknown` decodes differently.  Feature on:
    the record is there, its field as raw bytes; feature off: the data flowset has no record. -/
theorem C17_state_alone_insufficient :
    Findings.usesUnknown (C17cfg [5, 7, 9, 10] true) {} = false ∧
    (parseBytes (C17cfg [5, 7, 9, 10] true) {} c17Unknown).2 =
      .done [.v9 [9, 2, 1, 2, 3, 4]
        [⟨0, 12, .templates [⟨256, 1, [⟨600, 4⟩]⟩] []⟩, ⟨256, 8, .data [[(0, 284, .vec [0xde, 0xad, 0xbe, 0xef])]] []⟩]] ∧
    (parseBytes (C17cfg [5, 7, 9, 10] false) {} c17Unknown).2 =
      .done [.v9 [9, 2, 1, 2, 3, 4]
        [⟨0, 12, .templates [⟨256, 1, [⟨600, 4⟩]⟩] []⟩, ⟨256, 8, .data [] [0xde, 0xad, 0xbe, 0xef]⟩]] ∧
    Generated.tables.v9Ty (Generated.tables.v9Field 600) = .unknown := by
  decide +kernel

/-- the oracle predicates on that witness: the flag-on output reports an unknown-typed template and
    carries an unknown-typed entry, the flag-off output carries none (`C17_unknown_not_decoded`) -/
example :
    Findings.reportsUnknownTemplate (C17cfg [5, 7, 9, 10] true)
      (c17Pkts (parseBytes (C17cfg [5, 7, 9, 10] true) {} c17Unknown).2) = true ∧
    Findings.noUnknownEntries (C17cfg [5, 7, 9, 10] true)
      (c17Pkts (parseBytes (C17cfg [5, 7, 9, 10] true) {} c17Unknown).2) = false ∧
    Findings.noUnknownEntries (C17cfg [5, 7, 9, 10] false)
      (c17Pkts (parseBytes (C17cfg [5, 7, 9, 10] false) {} c17Unknown).2) = true := by
  rw [C17_state_alone_insufficient.2.1, C17_state_alone_insufficient.2.2.1]
  decide +kernel

/-- IPFIX witness: feature on, the record of the unknown-typed template is decoded as raw bytes;
    feature off, the data set is not reported at all (the message ends after the template set) -/
example :
    (parseBytes (C17cfg [5, 7, 9, 10] true) {} c17UnknownIp).2 =
      .done [.ipfix [10, 36, 1, 2, 3]
        [⟨2, 12, .template ⟨256, 1, [⟨600, 4, none⟩], []⟩⟩, ⟨256, 8, .data [[(0, 504, .vec [0xde, 0xad, 0xbe, 0xef])]] []⟩]] ∧
    (parseBytes (C17cfg [5, 7, 9, 10] false) {} c17UnknownIp).2 =
      .done [.ipfix [10, 36, 1, 2, 3] [⟨2, 12, .template ⟨256, 1, [⟨600, 4, none⟩], []⟩⟩]] ∧
    Generated.tables.ipTy (Generated.tables.ipField 600) = .unknown := by
  decide +kernel

/-- **C17.G** (regenerated on every run) the value decoder of the model IS the interpretation (`Arms.lean`) of the arms of
    `FieldValue::from_field_type` as `tools/translate.py` reads them from data_number.rs now: in particular the `Unknown` arm is the only one that depends on the cargo feature (`.unknownGated`). -/
theorem C17_value_arms_generated (c : ValueCfg) (ty : FType) (len : Nat) (i : Bytes) :
    parseValue c ty len i = parseValueBy Generated.valueArms c ty len i :=
  G1.parseValue_eq_generated c ty len i

end Netflow.Props
