/-
  Props/C17b.lean — C17, two clauses of the runtime oracle.

  1. `Findings.noRecordsOfUnknownTemplates c before after pkts` (flag off: a data set governed by a template
     with an unknown-typed field reports no record; the governing template is tracked by the predicate
     itself from the caches `before` through the template sets REPORTED in `pkts`).  It holds for EVERY
     state and buffer.  A V9 packet that fails midway caches templates that are never reported, but that
     does not break the statement: a failing packet ENDS the call (`parseBytesF` returns
     `[… , .error e buf]`), so nothing is decoded after it within the call, and at the next call the
     predicate starts again from the real caches.  What the predicate must NOT be given is a stale `before`
     (`C17_stale_before_fails` : with the caches of one call earlier it is false on the model).

  2. The V9 caches never depend on the flag: both builds see the same packet boundaries.
     Side condition on the tables: the IPFIX set header occupies bytes (`0 < c.t.ipSetHdr.wireLen`, as in
     `C17_known_only_same`; true of the generated tables).  Without it an IPFIX message could fail in one
     build only (the `many0` no-progress error), and the builds would stop at different packets.
-/
import NetflowModel.Lemmas.Oracles
import NetflowModel.Props.C17
namespace Netflow.Props
open Netflow Netflow.C1x

/-- **C17 (oracle clause).**  With the feature off, whatever the caches `st` and the buffer: the packets
    returned satisfy `Findings.noRecordsOfUnknownTemplates` started from `st`.  No hypothesis (the caches
    need not even be key-sorted: the predicate's bookkeeping only ever has to be right where it HAS an
    entry, see `C1x.Corr`). -/
theorem C17_no_records_of_unknown_templates (c : Config) (st st' : PState) (buf : Bytes) (pkts : List Packet)
    (h : parseBytes { c with unknownFields := false } st buf = (st', .done pkts)) :
    Findings.noRecordsOfUnknownTemplates c st st' pkts = true := by
  rw [noRecords_eq]
  exact (parseBytes_run h).noRecords _ true (corr_init c st)

/-- for well-formed (key-sorted) caches — every reachable state is (`C06_state_wf`).  The hypothesis is not used. -/
theorem C17_no_records_of_unknown_templates_wf (c : Config) (st st' : PState) (buf : Bytes) (pkts : List Packet)
    (_hwf : StateWf st)
    (h : parseBytes { c with unknownFields := false } st buf = (st', .done pkts)) :
    Findings.noRecordsOfUnknownTemplates c st st' pkts = true :=
  C17_no_records_of_unknown_templates c st st' buf pkts h

/-- the predicate evaluated with the configuration of the build under test (the predicate reads only the
    tables) -/
theorem C17_no_records_of_unknown_templates_off (c : Config) (st st' : PState) (buf : Bytes) (pkts : List Packet)
    (h : parseBytes { c with unknownFields := false } st buf = (st', .done pkts)) :
    Findings.noRecordsOfUnknownTemplates { c with unknownFields := false } st st' pkts = true :=
  C17_no_records_of_unknown_templates c st st' buf pkts h

/-- the caches after a history of `parse_bytes` calls on one parser -/
def c17Run (c : Config) (st : PState) (bufs : List Bytes) : PState :=
  bufs.foldl (fun s b => (parseBytes c s b).1) st

/-- along any history of calls (from any start state): the predicate holds of every call when `before`
    is what the previous calls left in the caches -/
theorem C17_no_records_of_unknown_templates_history (c : Config) (st0 : PState) (bufs : List Bytes) (buf : Bytes)
    (st' : PState) (pkts : List Packet)
    (h : parseBytes { c with unknownFields := false } (c17Run { c with unknownFields := false } st0 bufs) buf =
      (st', .done pkts)) :
    Findings.noRecordsOfUnknownTemplates c (c17Run { c with unknownFields := false } st0 bufs) st' pkts = true :=
  C17_no_records_of_unknown_templates c _ st' buf pkts h

/-- both builds see the same packet boundaries: whether the packet at the head of `buf` is accepted,
    rejected or not allowed, and where the next one starts, is the same in the two builds — from ANY two
    states that agree on the V9 caches (`stepKind` forgets the decoded packet, keeps the rest). -/
theorem C17_packet_boundary_same (c : Config) (hw : 0 < c.t.ipSetHdr.wireLen) (s1 s2 : PState) (buf : Bytes)
    (h : AgreeV9 s1 s2) :
    stepKind (parsePacket { c with unknownFields := false } s1 buf).2 =
      stepKind (parsePacket { c with unknownFields := true } s2 buf).2 ∧
    AgreeV9 (parsePacket { c with unknownFields := false } s1 buf).1 (parsePacket { c with unknownFields := true } s2 buf).1 :=
  ⟨(parsePacket_kind c hw false true s1 s2 buf h).2, (parsePacket_kind c hw false true s1 s2 buf h).1⟩

/-- an IPFIX message is consumed by `take(length - 16)` whatever happens inside: acceptance and the rest
    are a function of the bytes alone (`ipfixKind`), for every state and both values of the flag; and the
    message never touches the V9 caches -/
theorem C17_ipfix_boundary_same (c : Config) (hw : 0 < c.t.ipSetHdr.wireLen) (s1 s2 : PState) (i : Bytes) :
    resKind (parseIpfix { c with unknownFields := false } s1 i).2 = ipfixKind c i ∧
    resKind (parseIpfix { c with unknownFields := true } s2 i).2 = ipfixKind c i ∧
    AgreeV9 (parseIpfix { c with unknownFields := false } s1 i).1 s1 ∧
    AgreeV9 (parseIpfix { c with unknownFields := true } s2 i).1 s2 :=
  ⟨parseIpfix_kind (B2.flag c false) hw s1 i, parseIpfix_kind (B2.flag c true) hw s2 i,
   parseIpfix_v9_frame _ s1 i, parseIpfix_v9_frame _ s2 i⟩

/-- **C17 (oracle clause `v9Same`)**, general form: from start states that agree on the two V9 caches (their
    IPFIX caches may differ — they do once the flag-off build has dropped sets), one call leaves V9 caches
    that agree again. -/
theorem C17_v9_caches_same_from (c : Config) (hw : 0 < c.t.ipSetHdr.wireLen) (s1 s2 : PState) (buf : Bytes)
    (h : s1.v9T = s2.v9T ∧ s1.v9O = s2.v9O) :
    (parseBytes { c with unknownFields := false } s1 buf).1.v9T = (parseBytes { c with unknownFields := true } s2 buf).1.v9T ∧
    (parseBytes { c with unknownFields := false } s1 buf).1.v9O = (parseBytes { c with unknownFields := true } s2 buf).1.v9O :=
  parseBytesF_v9_agree c hw false true _ s1 s2 buf h

/-- **C17 (oracle clause `v9Same`)**: same start state, every buffer. -/
theorem C17_v9_caches_same (c : Config) (hw : 0 < c.t.ipSetHdr.wireLen) (st : PState) (buf : Bytes) :
    (parseBytes { c with unknownFields := false } st buf).1.v9T = (parseBytes { c with unknownFields := true } st buf).1.v9T ∧
    (parseBytes { c with unknownFields := false } st buf).1.v9O = (parseBytes { c with unknownFields := true } st buf).1.v9O :=
  C17_v9_caches_same_from c hw st st buf ⟨rfl, rfl⟩

/-- … and so do the V9 caches after any history of calls, from V9-agreeing start states -/
theorem C17_v9_caches_same_history (c : Config) (hw : 0 < c.t.ipSetHdr.wireLen) (bufs : List Bytes) :
    ∀ (s1 s2 : PState), (s1.v9T = s2.v9T ∧ s1.v9O = s2.v9O) →
      (c17Run { c with unknownFields := false } s1 bufs).v9T = (c17Run { c with unknownFields := true } s2 bufs).v9T ∧
      (c17Run { c with unknownFields := false } s1 bufs).v9O = (c17Run { c with unknownFields := true } s2 bufs).v9O := by
  intro s1 s2 h
  exact foldl_rel (R := fun a b => a.v9T = b.v9T ∧ a.v9O = b.v9O) bufs s1 s2
    (fun s t b _ hst => C17_v9_caches_same_from c hw s t b hst) h

/-- the three clauses for the configuration the crate is built with -/
theorem C17_generated_no_records_of_unknown_templates (allowed : List Nat) (st st' : PState) (buf : Bytes)
    (pkts : List Packet) (h : parseBytes (C17cfg allowed false) st buf = (st', .done pkts)) :
    Findings.noRecordsOfUnknownTemplates (C17cfg allowed false) st st' pkts = true :=
  C17_no_records_of_unknown_templates (C17cfg allowed false) st st' buf pkts h

theorem C17_generated_v9_caches_same (allowed : List Nat) (st : PState) (buf : Bytes) :
    (parseBytes (C17cfg allowed false) st buf).1.v9T = (parseBytes (C17cfg allowed true) st buf).1.v9T ∧
    (parseBytes (C17cfg allowed false) st buf).1.v9O = (parseBytes (C17cfg allowed true) st buf).1.v9O :=
  C17_v9_caches_same (C17cfg allowed true) generated_ipSetHdr_pos st buf

theorem C17_generated_v9_caches_same_history (allowed : List Nat) (bufs : List Bytes) (st : PState) :
    (c17Run (C17cfg allowed false) st bufs).v9T = (c17Run (C17cfg allowed true) st bufs).v9T ∧
    (c17Run (C17cfg allowed false) st bufs).v9O = (c17Run (C17cfg allowed true) st bufs).v9O :=
  C17_v9_caches_same_history (C17cfg allowed true) generated_ipSetHdr_pos bufs st st ⟨rfl, rfl⟩

/-- V9 template flowsets for id 256: field 600 / 4 (type `Unknown`) resp. IN_BYTES / 4 -/
def c17bTU : Bytes := [0, 0, 0, 12, 1, 0, 0, 1, 2, 88, 0, 4]
def c17bTK : Bytes := [0, 0, 0, 12, 1, 0, 0, 1, 0, 1, 0, 4]
/-- data flowset for 256, one 4-byte record -/
def c17bD256 : Bytes := [1, 0, 0, 8, 0xde, 0xad, 0xbe, 0xef]
/-- data flowset for 999 (never defined) -/
def c17bD999 : Bytes := [3, 231, 0, 8, 1, 2, 3, 4]

/-- two V9 packets in ONE buffer: [template 256 unknown-typed][data 256], then [template 256 known][data 256] -/
def c17bTwo : Bytes := c17Hdr9 2 ++ c17bTU ++ c17bD256 ++ c17Hdr9 2 ++ c17bTK ++ c17bD256

/-- the predicate is not trivially true, and it follows the templates through the call: on `c17bTwo` the
    flag-off output has no record under the unknown-typed template and one under its redefinition, and
    satisfies the predicate; the flag-on output (a record under the unknown-typed template) violates it -/
example :
    (parseBytes (C17cfg [5, 7, 9, 10] false) {} c17bTwo).2 =
      .done [.v9 [9, 2, 1, 2, 3, 4] [⟨0, 12, .templates [⟨256, 1, [⟨600, 4⟩]⟩] []⟩, ⟨256, 8, .data [] [0xde, 0xad, 0xbe, 0xef]⟩],
             .v9 [9, 2, 1, 2, 3, 4] [⟨0, 12, .templates [⟨256, 1, [⟨1, 4⟩]⟩] []⟩,
                                      ⟨256, 8, .data [[(0, 1, .num (.u32 3735928559))]] []⟩]] ∧
    Findings.noRecordsOfUnknownTemplates (C17cfg [5, 7, 9, 10] false) {} {}
      (c17Pkts (parseBytes (C17cfg [5, 7, 9, 10] false) {} c17bTwo).2) = true ∧
    Findings.noRecordsOfUnknownTemplates (C17cfg [5, 7, 9, 10] false) {} {}
      (c17Pkts (parseBytes (C17cfg [5, 7, 9, 10] true) {} c17bTwo).2) = false := by
  decide +kernel

/-- from a NON-empty start state that already caches an unknown-typed template (V9 and IPFIX): the data
    flowset alone; `before` matters (with `before := {}` nothing would be demanded) -/
example :
    let st : PState := { v9T := [(256, ⟨256, 1, [⟨600, 4⟩]⟩)], ipT := [(256, ⟨256, 1, [⟨600, 4, none⟩], []⟩)] }
    StateWf st ∧
    (parseBytes (C17cfg [5, 7, 9, 10] false) st (c17Hdr9 1 ++ c17bD256)).2 =
      .done [.v9 [9, 1, 1, 2, 3, 4] [⟨256, 8, .data [] [0xde, 0xad, 0xbe, 0xef]⟩]] ∧
    Findings.noRecordsOfUnknownTemplates (C17cfg [5, 7, 9, 10] false) st st
      (c17Pkts (parseBytes (C17cfg [5, 7, 9, 10] true) st (c17Hdr9 1 ++ c17bD256)).2) = false ∧
    (parseBytes (C17cfg [5, 7, 9, 10] false) st ([0, 10, 0, 24, 0, 0, 0, 1, 0, 0, 0, 2, 0, 0, 0, 3] ++ c17bD256)).2 =
      .done [.ipfix [10, 24, 1, 2, 3] []] := by
  refine ⟨by simp [StateWf, amSorted], ?_⟩
  decide +kernel

/-- three calls, played through.  Call 1 reports template 256 (unknown-typed).  Call 2 is a
    V9 packet [template 256 (known)] [data 999 — never defined]: it fails, is reported as the final error
    element, and leaves the KNOWN template cached without ever reporting it.  Call 3 [data 256] decodes a
    record.  The predicate holds of every call when `before` is the real cache … -/
example :
    let cOff := C17cfg [5, 7, 9, 10] false
    let b1 := c17Hdr9 1 ++ c17bTU
    let b2 := c17Hdr9 2 ++ c17bTK ++ c17bD999
    let b3 := c17Hdr9 1 ++ c17bD256
    let s1 := (parseBytes cOff {} b1).1
    let s2 := (parseBytes cOff s1 b2).1
    c17Pkts (parseBytes cOff s1 b2).2 = [.error (.partialParse 9 (b2.drop 2)) b2] ∧
    s1.v9T = [(256, ⟨256, 1, [⟨600, 4⟩]⟩)] ∧ s2.v9T = [(256, ⟨256, 1, [⟨1, 4⟩]⟩)] ∧
    (parseBytes cOff s2 b3).2 = .done [.v9 [9, 1, 1, 2, 3, 4] [⟨256, 8, .data [[(0, 1, .num (.u32 3735928559))]] []⟩]] ∧
    Findings.noRecordsOfUnknownTemplates cOff {} s1 (c17Pkts (parseBytes cOff {} b1).2) = true ∧
    Findings.noRecordsOfUnknownTemplates cOff s1 s2 (c17Pkts (parseBytes cOff s1 b2).2) = true ∧
    Findings.noRecordsOfUnknownTemplates cOff s2 s2 (c17Pkts (parseBytes cOff s2 b3).2) = true := by
  decide +kernel

/-- … but NOT when `before` is stale (here: the caches of one call earlier, i.e. what a tracker fed only by
    REPORTED templates would believe): the runtime oracle must pass the caches as they are when the call
    starts. -/
theorem C17_stale_before_fails :
    let cOff := C17cfg [5, 7, 9, 10] false
    let s1 := (parseBytes cOff {} (c17Hdr9 1 ++ c17bTU)).1
    let s2 := (parseBytes cOff s1 (c17Hdr9 2 ++ c17bTK ++ c17bD999)).1
    Findings.noRecordsOfUnknownTemplates cOff s1 s2 (c17Pkts (parseBytes cOff s2 (c17Hdr9 1 ++ c17bD256)).2) = false := by
  decide +kernel

/-- IPFIX message [template 256 unknown-typed][data 256][template 257], then a V9 packet [template 300] -/
def c17bMixed : Bytes :=
  [0, 10, 0, 48, 0, 0, 0, 1, 0, 0, 0, 2, 0, 0, 0, 3] ++ [0, 2, 0, 12, 1, 0, 0, 1, 2, 88, 0, 4] ++ c17bD256 ++
    [0, 2, 0, 12, 1, 1, 0, 1, 0, 1, 0, 4] ++ c17Hdr9 1 ++ [0, 0, 0, 12, 1, 44, 0, 1, 0, 1, 0, 4]

/-- `C17_v9_caches_same` is about a situation that really occurs: on `c17bMixed` the flag-off build drops the
    IPFIX sets behind the undecodable one (its IPFIX caches lack template 257), both builds nevertheless go
    on with the V9 packet at the same offset and end with the same V9 caches; and the flag-off output
    satisfies the predicate of part 1 -/
example :
    (parseBytes (C17cfg [5, 7, 9, 10] false) {} c17bMixed).1 =
      { v9T := [(300, ⟨300, 1, [⟨1, 4⟩]⟩)], ipT := [(256, ⟨256, 1, [⟨600, 4, none⟩], []⟩)] } ∧
    (parseBytes (C17cfg [5, 7, 9, 10] true) {} c17bMixed).1 =
      { v9T := [(300, ⟨300, 1, [⟨1, 4⟩]⟩)],
        ipT := [(256, ⟨256, 1, [⟨600, 4, none⟩], []⟩), (257, ⟨257, 1, [⟨1, 4, none⟩], []⟩)] } ∧
    (c17Pkts (parseBytes (C17cfg [5, 7, 9, 10] false) {} c17bMixed).2).length = 2 ∧
    (c17Pkts (parseBytes (C17cfg [5, 7, 9, 10] true) {} c17bMixed).2).length = 2 ∧
    Findings.noRecordsOfUnknownTemplates (C17cfg [5, 7, 9, 10] false) {} {}
      (c17Pkts (parseBytes (C17cfg [5, 7, 9, 10] false) {} c17bMixed).2) = true := by
  decide +kernel

/-- the hypothesis of `C17_v9_caches_same_from`, met with different IPFIX caches: the two states the builds
    are in after `c17bMixed` -/
example :
    let s1 := (parseBytes (C17cfg [5, 7, 9, 10] false) {} c17bMixed).1
    let s2 := (parseBytes (C17cfg [5, 7, 9, 10] true) {} c17bMixed).1
    (s1.v9T = s2.v9T ∧ s1.v9O = s2.v9O) ∧ s1.ipT ≠ s2.ipT := by
  decide +kernel

/-- side condition of part 2 for the generated tables -/
example : 0 < Generated.tables.ipSetHdr.wireLen := generated_ipSetHdr_pos

end Netflow.Props
