/-
  Props/Ctl.lean — the property theorems restated for the CONTROL SKELETON REGENERATED FROM THE SOURCE.

  `parseBytesK Generated.ctl` is the model whose constants, comparison operators, dispatch-arm orders and flags were
  read from src/lib.rs, v9.rs, ipfix.rs, v5.rs, v7.rs by tools/translate.py (GeneratedCtl.lean, rewritten on every run).
  `Cnn_ctl_model` says it is the hand-written model of the other theorem files; the corollaries restate headline
  theorems of the properties whose subject is that control code for it.  An edit of the source that changes one of
  the extracted items (e.g. `saturating_sub(4)` → `(3)`, `<` → `<=` in the IPFIX set classifier, the two
  `contains_key` arms swapped, the allowed-version gate behind the dispatch) regenerates a different `Ctl`; these
  theorems then no longer check, whatever the generators happen to hit.
-/
import NetflowModel.Lemmas.G2Ctl
import NetflowModel.Props.C01
import NetflowModel.Props.C02
import NetflowModel.Props.C06
import NetflowModel.Props.C07
import NetflowModel.Props.C11
import NetflowModel.Props.C12
import NetflowModel.Props.C14
namespace Netflow.Props
open Netflow Netflow.G2 Preds

/-- the skeleton read from the source is the modelled one: all 29 extracted items at once -/
theorem Ctl_skeleton_is_modelled : Generated.ctl = Ctl.std := by decide +kernel

/-- the regenerated skeleton, run as a parser, IS the hand-written model (every config, state, buffer) -/
theorem Ctl_model (c : Config) (st : PState) (buf : Bytes) :
    parseBytesK Generated.ctl c st buf = parseBytes c st buf := parseBytes_ctl c st buf

theorem C01_ctl_model (c : Config) (st : PState) (buf : Bytes) :
    parseBytesK Generated.ctl c st buf = parseBytes c st buf := Ctl_model c st buf

/-- **C01** for the regenerated skeleton: every call returns (no panic outcome, no fuel exhaustion), after any history -/
theorem C01_ctl_returns (c : Config) (hist : List Bytes) (buf : Bytes) :
    ∃ pkts, (parseBytesK Generated.ctl c (hist.foldl (fun st b => (parseBytesK Generated.ctl c st b).1) {}) buf).2 = .done pkts := by
  rw [parseBytesK_gk]
  exact C01_returns_after_history c hist buf

/-- **C02** for the regenerated skeleton and the regenerated tables -/
theorem C02_ctl (allowed : List Nat) (uf : Bool) (st st' : PState) (buf : Bytes) (pkts : List Packet)
    (h : parseBytesK Generated.ctl { t := Generated.tables, allowed := allowed, unknownFields := uf } st buf = (st', .done pkts)) :
    decomposes { t := Generated.tables, allowed := allowed, unknownFields := uf } buf pkts = true := by
  rw [parseBytes_ctl] at h
  exact C02_generated allowed uf st st' buf pkts h

/-- **C06** (never evicted) for the regenerated skeleton, over a whole history of calls -/
theorem C06_ctl_never_evicted (c : Config) (st : PState) (hist : List Bytes) (id : Nat) :
    (KnownV9 st id → KnownV9 (hist.foldl (fun s b => (parseBytesK Generated.ctl c s b).1) st) id) ∧
    (KnownIp st id → KnownIp (hist.foldl (fun s b => (parseBytesK Generated.ctl c s b).1) st) id) := by
  rw [parseBytesK_gk]
  exact C06_never_evicted c st hist id

/-- **C07** for the regenerated skeleton: records only for templates the parser holds -/
theorem C07_ctl_records_only_for_known (c : Config) (st st' : PState) (buf : Bytes) (pkts : List Packet)
    (h : parseBytesK Generated.ctl c st buf = (st', .done pkts)) : ∀ p ∈ pkts, DataKnown c st' p := by
  rw [parseBytes_ctl] at h
  exact C07_records_only_for_known c st st' buf pkts h

/-- **C11** for the regenerated skeleton -/
theorem C11_ctl_chain (c : Config) (hf : c.t.framingOk = true) (st : PState) (ps : List Bytes)
    (h : chainOk c st ps = true) :
    parseBytesK Generated.ctl c st ps.flatten = ((foldCalls c st ps).1, .done (foldCalls c st ps).2) := by
  rw [parseBytes_ctl]
  exact C11_chain c hf st ps h

/-- **C12** for the regenerated skeleton (gate before dispatch is one of the extracted items) -/
theorem C12_ctl_filter (c : Config) (hf : c.t.framingOk = true) (S A : List Nat) (hA : AllowsAll A)
    (st stA : PState) (buf : Bytes) (pktsA : List Packet)
    (h : parseBytesK Generated.ctl (c.withAllowed A) st buf = (stA, .done pktsA)) :
    parseBytesK Generated.ctl (c.withAllowed S) st buf =
      (stateAfter (c.withAllowed A) (buf.length + 1) (takeAllowed (c.withAllowed A) S (buf.length + 1) buf pktsA).length st buf,
       .done (takeAllowed (c.withAllowed A) S (buf.length + 1) buf pktsA)) := by
  rw [parseBytes_ctl] at h ⊢
  exact C12_filter c hf S A hA st stA buf pktsA h

/-- the same per layer, under the name of each property whose subject that layer is (C04/C09: V9 packet, C05/C10: IPFIX message,
    C14: one packet, C01/C15/C17: the whole call) -/
theorem C04_ctl_model (c : Config) (st : PState) (i : Bytes) : parseV9K Generated.ctl c st i = parseV9 c st i := parseV9_ctl c st i
theorem C09_ctl_model (c : Config) (st : PState) (i : Bytes) : parseV9K Generated.ctl c st i = parseV9 c st i := C04_ctl_model c st i
theorem C05_ctl_model (c : Config) (st : PState) (i : Bytes) : parseIpfixK Generated.ctl c st i = parseIpfix c st i := parseIpfix_ctl c st i
theorem C10_ctl_model (c : Config) (st : PState) (i : Bytes) : parseIpfixK Generated.ctl c st i = parseIpfix c st i := C05_ctl_model c st i
theorem C14_ctl_model (c : Config) (st : PState) (buf : Bytes) :
    parsePacketK Generated.ctl c st buf = parsePacket c st buf := parsePacket_ctl c st buf
theorem C15_ctl_model (c : Config) (st : PState) (buf : Bytes) :
    parseBytesK Generated.ctl c st buf = parseBytes c st buf := Ctl_model c st buf
theorem C17_ctl_model (c : Config) (st : PState) (buf : Bytes) :
    parseBytesK Generated.ctl c st buf = parseBytes c st buf := Ctl_model c st buf

/-- non-vacuity: the regenerated skeleton decodes a concrete V9 template + data packet -/
example :
    (parseBytesK Generated.ctl { t := Generated.tables, allowed := [9] } {}
      [0, 9, 0, 2, 0, 0, 0, 1, 0, 0, 0, 2, 0, 0, 0, 3, 0, 0, 0, 4,
       0, 0, 0, 12, 1, 0, 0, 1, 0, 1, 0, 2,
       1, 0, 0, 8, 0xAB, 0xCD, 0x12, 0x34]).2 =
      .done [.v9 [9, 2, 1, 2, 3, 4]
        [{ id := 0, len := 12, body := .templates [{ id := 256, fieldCount := 1, fields := [{ typ := 1, len := 2 }] }] [] },
         { id := 256, len := 8, body := .data [[(0, 1, .num (.u16 0xABCD))], [(0, 1, .num (.u16 0x1234))]] [] }]] := by
  decide +kernel

/-! ### the extracted items matter: with one of them changed, the K-model violates the property (concrete witnesses)

Each theorem takes `Ctl.std` with ONE item replaced by the value a plausible edit of the source would produce and exhibits a
packet on which the property's statement fails for `parseBytesK`. -/

/-- a V9 packet that only announces template 256 -/
def ctlV9Tpl : Bytes :=
  [0, 9, 0, 1, 0, 0, 0, 1, 0, 0, 0, 2, 0, 0, 0, 3, 0, 0, 0, 4, 0, 0, 0, 12, 1, 0, 0, 1, 0, 1, 0, 2]

/-- **C12 / C06** need the gate BEFORE the dispatch: with `gateFirst := false` a packet of a refused version teaches its template
    (the caches change although nothing is reported) -/
theorem Ctl_gate_order_matters :
    (parseBytesK { Ctl.std with gateFirst := false } { t := Generated.tables, allowed := [5] } {} ctlV9Tpl).2 = .done [] ∧
    (parseBytesK { Ctl.std with gateFirst := false } { t := Generated.tables, allowed := [5] } {} ctlV9Tpl).1 ≠ {} ∧
    (parseBytesK Ctl.std { t := Generated.tables, allowed := [5] } {} ctlV9Tpl).1 = {} := by decide +kernel

/-- a V9 template of total size zero, then data for it -/
def ctlV9Zero : Bytes :=
  [0, 9, 0, 2, 0, 0, 0, 1, 0, 0, 0, 2, 0, 0, 0, 3, 0, 0, 0, 4, 0, 0, 0, 12, 1, 0, 0, 1, 0, 1, 0, 0, 1, 0, 0, 8, 1, 2, 3, 4]

/-- **C01** needs the zero-size guard: with `v9ZeroIsErr := false` (the behaviour before /repo's fix bf87dd4) the call panics -/
theorem Ctl_zero_guard_matters :
    (parseBytesK { Ctl.std with v9ZeroIsErr := false } { t := Generated.tables, allowed := [9] } {} ctlV9Zero).2 = .panic [] ∧
    ∃ pkts, (parseBytesK Ctl.std { t := Generated.tables, allowed := [9] } {} ctlV9Zero).2 = .done pkts := by
  constructor
  · decide +kernel
  · exact ⟨_, rfl⟩

/-- an IPFIX message whose only set has the RESERVED id 255 and a template-shaped body -/
def ctlIp255 : Bytes :=
  [0, 10, 0, 28, 0, 0, 0, 1, 0, 0, 0, 2, 0, 0, 0, 3, 0, 255, 0, 12, 1, 0, 0, 1, 0, 1, 0, 4]

/-- **C06 / C07** need `<` in the IPFIX set classifier: with `<=` a set with id 255 — a data-set id for which nothing is
    cached — is read as a template set and changes the caches -/
theorem Ctl_set_classifier_matters :
    (parseBytesK { Ctl.std with ipTmplCmp := .le } { t := Generated.tables, allowed := [10] } {} ctlIp255).1 ≠ {} ∧
    (parseBytesK Ctl.std { t := Generated.tables, allowed := [10] } {} ctlIp255).1 = {} := by decide +kernel

end Netflow.Props
