/-
  Props/ExportGen.lean — C09 / C10 (and the export clause of C01) for the exporters REGENERATED FROM THE SOURCE.

  `Generated.v9ExportProg` / `Generated.ipExportProg` are `V9::to_be_bytes` / `IPFix::to_be_bytes` translated statement by
  statement by tools/translate_export.py on this run (integer widths inferred from the declared Rust field types).
  `Export_*_is_modelled`: run on the tree view of ANY model packet they compute exactly what the hand-written exporters of
  Export.lean compute; the corollaries restate the C09 / C10 round-trip theorems for them.  A change of the emission order,
  a dropped or added field, a dropped padding, another integer type in a struct, a lost `?` … regenerates a different program
  and these theorems no longer check.
-/
import NetflowModel.Lemmas.G3Export
import NetflowModel.Props.C01
import NetflowModel.Props.C09
import NetflowModel.Props.C10
namespace Netflow.Props
open Netflow Netflow.G3 Netflow.A7 Preds

/-- the V9 exporter read from the source IS the modelled exporter, for every header and flowset list -/
theorem Export_v9_is_modelled (c : Config) (ht : c.t = Generated.tables) (h : List Nat) (sets : List V9Set) :
    runL c.vc Generated.v9ExportProg [("self", treeOfV9 c h sets)] = exportV9 c h sets :=
  v9_prog c (by rw [ht]; rfl) (by rw [ht]; rfl) h sets

/-- the IPFIX exporter read from the source IS the modelled exporter -/
theorem Export_ipfix_is_modelled (c : Config) (ht : c.t = Generated.tables) (h : List Nat) (sets : List IpSet) :
    runL c.vc Generated.ipExportProg [("self", treeOfIpfix c h sets)] = exportIpfix c h sets :=
  ipfix_prog c (by rw [ht]; rfl) (by rw [ht]; rfl) h sets

/-- **C09** for the regenerated exporter: parse-then-export of an accepted V9 packet whose governing templates are
    lossless returns the bytes the packet occupied (PARTIAL exactly as `C09_partial`: same hypothesis) -/
theorem C09_export_generated_partial (c : Config) (ht : c.t = Generated.tables)
    (st st' : PState) (i : Bytes) (h : List Nat) (ss : List V9Set) (rest : Bytes)
    (hp : parseV9 c st i = (st', .ok (.v9 h ss, rest)))
    (hl : V9Lossless c st ss = true) :
    runL c.vc Generated.v9ExportProg [("self", treeOfV9 c h ss)] = .ok (toBE 2 9 ++ i.take (i.length - rest.length)) := by
  rw [Export_v9_is_modelled c ht]
  exact C09_partial_generated c ht st st' i h ss rest hp hl

/-- **C10** for the regenerated exporter (PARTIAL exactly as `C10_partial`) -/
theorem C10_export_generated_partial (c : Config) (ht : c.t = Generated.tables)
    (st st' : PState) (i : Bytes) (h : List Nat) (ss : List IpSet) (rest : Bytes)
    (hp : parseIpfix c st i = (st', .ok (.ipfix h ss, rest)))
    (hl : IpLossless c st h ss = true) :
    runL c.vc Generated.ipExportProg [("self", treeOfIpfix c h ss)] = .ok (toBE 2 10 ++ i.take (i.length - rest.length)) := by
  rw [Export_ipfix_is_modelled c ht]
  exact C10_partial_generated c ht st st' i h ss rest hp hl

/-- **C01** (export clause) for the regenerated exporters: no parse result makes them panic -/
theorem C01_export_generated_no_panic (allowed : List Nat) (uf : Bool) (st : PState) (buf : Bytes) (pkts : List Packet)
    (h : (parseBytes { t := Generated.tables, allowed := allowed, unknownFields := uf } st buf).2 = .done pkts) :
    (∀ hd ss, Packet.v9 hd ss ∈ pkts →
      runL (Config.vc { t := Generated.tables, allowed := allowed, unknownFields := uf }) Generated.v9ExportProg
        [("self", treeOfV9 { t := Generated.tables, allowed := allowed, unknownFields := uf } hd ss)] ≠ .panic) ∧
    (∀ hd ss, Packet.ipfix hd ss ∈ pkts →
      runL (Config.vc { t := Generated.tables, allowed := allowed, unknownFields := uf }) Generated.ipExportProg
        [("self", treeOfIpfix { t := Generated.tables, allowed := allowed, unknownFields := uf } hd ss)] ≠ .panic) := by
  have key := C01_export_no_panic_generated allowed uf st buf pkts h
  constructor
  · intro hd ss hm hpanic
    rw [Export_v9_is_modelled _ rfl] at hpanic
    exact key _ hm (by simp [exportPacket, hpanic])
  · intro hd ss hm hpanic
    rw [Export_ipfix_is_modelled _ rfl] at hpanic
    exact key _ hm (by simp [exportPacket, hpanic])

/-- non-vacuity: the regenerated V9 program re-emits a concrete template + data packet byte for byte -/
example :
    runL (Config.vc { t := Generated.tables, allowed := [9] }) Generated.v9ExportProg
      [("self", treeOfV9 { t := Generated.tables, allowed := [9] } [9, 2, 1, 2, 3, 4]
        [{ id := 0, len := 12, body := .templates [{ id := 256, fieldCount := 1, fields := [{ typ := 1, len := 2 }] }] [] },
         { id := 256, len := 8, body := .data [[(0, 1, .num (.u16 0xABCD))], [(0, 1, .num (.u16 0x1234))]] [] }])] =
      .ok [0, 9, 0, 2, 0, 0, 0, 1, 0, 0, 0, 2, 0, 0, 0, 3, 0, 0, 0, 4,
           0, 0, 0, 12, 1, 0, 0, 1, 0, 1, 0, 2,
           1, 0, 0, 8, 0xAB, 0xCD, 0x12, 0x34] := by
  rw [Export_v9_is_modelled _ rfl]
  decide +kernel

end Netflow.Props
