/-
  Props/H1.lean — the per-call property theorems lifted to ARBITRARY HISTORIES of calls on one parser
  value in which the caller may change the public field `allowed_versions` between calls
  (`H1.Call`, `H1.runHistory`, `H1.stateBefore`, Lemmas/History.lean), plus one cross-cutting corollary
  about the JSON text (C16).

  Every history theorem is the corresponding per-call theorem applied at the cache state the history has
  reached (`H1.outcome_eq`, `H1.stateBefore_succ`): the per-call theorems are quantified over the start state AND over the
  configuration, and nothing but the four caches is carried from one call to the next
  (`C06_no_global_state`), so what earlier calls allowed or refused matters only through the caches.
-/
import NetflowModel.Lemmas.History
import NetflowModel.Props.C01
import NetflowModel.Props.C06
import NetflowModel.Props.C07b
import NetflowModel.Props.C12
import NetflowModel.Props.C14
import NetflowModel.Props.C16b
namespace Netflow.Props
open Netflow Preds Netflow.H1 Netflow.C1x

/-- **C01 over histories**: whatever the start caches, whatever the allowed sets of the individual calls,
    every call of the history returns a list (`.done _`): no panic, no exhausted loop.  (`C01_returns` has no
    side condition on the tables, so none is needed here.) -/
theorem C01_history_returns (t : Tables) (uf : Bool) (st : PState) (hist : List Call) :
    ∀ o ∈ (runHistory t uf st hist).2, ∃ pkts, o = .done pkts :=
  outcomes_all (Q := fun o => ∃ pkts, o = .done pkts) t uf (fun call s => C01_returns (cfgOf t uf call) s call.buf) st hist

/-- indexed form: the k-th call returns -/
theorem C01_history_returns_at (t : Tables) (uf : Bool) (st : PState) (hist : List Call) (k : Nat) (call : Call)
    (hk : hist[k]? = some call) : ∃ pkts, (runHistory t uf st hist).2[k]? = some (.done pkts) := by
  obtain ⟨pkts, hp⟩ := C01_returns (cfgOf t uf call) (stateBefore t uf st hist k) call.buf
  exact ⟨pkts, by rw [outcome_eq t uf st hist k call hk, hp]⟩

/-- for the tables generated from the Rust source, from the fresh parser -/
theorem C01_history_returns_generated (uf : Bool) (hist : List Call) :
    ∀ o ∈ (runHistory Generated.tables uf {} hist).2, ∃ pkts, o = .done pkts :=
  C01_history_returns Generated.tables uf {} hist

/-- one outcome per call -/
theorem C01_history_one_outcome_per_call (t : Tables) (uf : Bool) (st : PState) (hist : List Call) :
    (runHistory t uf st hist).2.length = hist.length := runHistory_length t uf st hist

/-- **C02 over histories**: the list returned by the k-th call is a left-to-right decomposition of the k-th
    buffer, where "silent stop" is judged by the allowed set in force DURING THAT CALL. -/
theorem C02_history (t : Tables) (hf : t.framingOk = true) (uf : Bool) (st : PState) (hist : List Call) (k : Nat)
    (call : Call) (hk : hist[k]? = some call) :
    ∃ pkts, (runHistory t uf st hist).2[k]? = some (.done pkts) ∧
      decomposes (cfgOf t uf call) call.buf pkts = true := by
  obtain ⟨pkts, hp⟩ := C01_returns (cfgOf t uf call) (stateBefore t uf st hist k) call.buf
  exact ⟨pkts, by rw [outcome_eq t uf st hist k call hk, hp], C02 (cfgOf t uf call) hf _ _ _ _ (Prod.ext rfl hp)⟩

/-- `C02_history` for the generated tables (framing holds: `C02_generated_framing`) -/
theorem C02_history_generated (uf : Bool) (st : PState) (hist : List Call) (k : Nat) (call : Call)
    (hk : hist[k]? = some call) :
    ∃ pkts, (runHistory Generated.tables uf st hist).2[k]? = some (.done pkts) ∧
      decomposes { t := Generated.tables, allowed := call.allowed, unknownFields := uf } call.buf pkts = true :=
  C02_history Generated.tables C02_generated_framing uf st hist k call hk

/-- **C06 over histories**: `StateWf` (strictly sorted keys in all four maps) holds at the start of every call
    and at the end of the history. -/
theorem C06_history_wf (t : Tables) (uf : Bool) (st : PState) (hist : List Call) (h : StateWf st) :
    (∀ k, StateWf (stateBefore t uf st hist k)) ∧ StateWf (runHistory t uf st hist).1 := by
  have hk : ∀ k, StateWf (stateBefore t uf st hist k) := fun k =>
    stateBefore_inv (I := StateWf) t uf (fun call s hs => C06_state_wf (cfgOf t uf call) s call.buf hs) st hist k h
  exact ⟨hk, by rw [runHistory_final]; exact hk _⟩

/-- from the fresh parser -/
theorem C06_history_wf_from_empty (t : Tables) (uf : Bool) (hist : List Call) :
    (∀ k, StateWf (stateBefore t uf {} hist k)) ∧ StateWf (runHistory t uf {} hist).1 :=
  C06_history_wf t uf {} hist C06_state_wf_empty

/-- **C06 over histories, refused call**: if the FIRST version word of the k-th buffer is not in the k-th
    call's allowed set, that call returns `[]` and leaves all four caches as they were — whatever the rest of
    the buffer is, and whatever earlier or later calls allow.  (Lifting of `C06_disallowed_frame`.) -/
theorem C06_history_disallowed_frame (t : Tables) (uf : Bool) (st : PState) (hist : List Call) (k : Nat) (call : Call)
    (v : Nat) (hk : hist[k]? = some call) (hv : versionOf call.buf = some v) (ha : call.allowed.contains v = false) :
    stateBefore t uf st hist (k + 1) = stateBefore t uf st hist k ∧
    (runHistory t uf st hist).2[k]? = some (.done []) := by
  have e := C06_disallowed_frame (cfgOf t uf call) (stateBefore t uf st hist k) call.buf v hv ha
  exact ⟨by rw [stateBefore_succ t uf st hist k call hk, e], by rw [outcome_eq t uf st hist k call hk, e]⟩

/-- **C12 over histories**: let `S_k` be the allowed set of the k-th call and `s_k = stateBefore … k`.  The
    all-allowed run of the k-th buffer FROM `s_k` returns some list `pktsA`; the k-th call returns exactly
    `takeAllowed … S_k … pktsA` and ends in the cache state the all-allowed run had after that many packet steps.
    What earlier calls allowed or refused enters only through `s_k`. -/
theorem C12_history (t : Tables) (hf : t.framingOk = true) (uf : Bool) (A : List Nat) (hA : AllowsAll A)
    (st : PState) (hist : List Call) (k : Nat) (call : Call) (hk : hist[k]? = some call) :
    ∃ stA pktsA,
      parseBytes { t := t, allowed := A, unknownFields := uf } (stateBefore t uf st hist k) call.buf = (stA, .done pktsA) ∧
      (runHistory t uf st hist).2[k]? =
        some (.done (takeAllowed { t := t, allowed := A, unknownFields := uf } call.allowed (call.buf.length + 1) call.buf pktsA)) ∧
      stateBefore t uf st hist (k + 1) =
        stateAfter { t := t, allowed := A, unknownFields := uf } (call.buf.length + 1)
          (takeAllowed { t := t, allowed := A, unknownFields := uf } call.allowed (call.buf.length + 1) call.buf pktsA).length
          (stateBefore t uf st hist k) call.buf := by
  obtain ⟨pktsA, hpA⟩ := C01_returns { t := t, allowed := A, unknownFields := uf } (stateBefore t uf st hist k) call.buf
  have hall : parseBytes { t := t, allowed := A, unknownFields := uf } (stateBefore t uf st hist k) call.buf = (_, .done pktsA) :=
    Prod.ext rfl hpA
  have hflt : parseBytes (cfgOf t uf call) (stateBefore t uf st hist k) call.buf = _ :=
    C12_filter { t := t, allowed := [], unknownFields := uf } hf call.allowed A hA _ _ call.buf pktsA hall
  exact ⟨_, pktsA, hall, by rw [outcome_eq t uf st hist k call hk, hflt], by rw [stateBefore_succ t uf st hist k call hk, hflt]⟩

/-- `C12_history` for the generated tables -/
theorem C12_history_generated (uf : Bool) (A : List Nat) (hA : AllowsAll A)
    (st : PState) (hist : List Call) (k : Nat) (call : Call) (hk : hist[k]? = some call) :
    ∃ stA pktsA,
      parseBytes { t := Generated.tables, allowed := A, unknownFields := uf } (stateBefore Generated.tables uf st hist k) call.buf =
        (stA, .done pktsA) ∧
      (runHistory Generated.tables uf st hist).2[k]? =
        some (.done (takeAllowed { t := Generated.tables, allowed := A, unknownFields := uf } call.allowed
          (call.buf.length + 1) call.buf pktsA)) ∧
      stateBefore Generated.tables uf st hist (k + 1) =
        stateAfter { t := Generated.tables, allowed := A, unknownFields := uf } (call.buf.length + 1)
          (takeAllowed { t := Generated.tables, allowed := A, unknownFields := uf } call.allowed
            (call.buf.length + 1) call.buf pktsA).length
          (stateBefore Generated.tables uf st hist k) call.buf :=
  C12_history Generated.tables C02_generated_framing uf A hA st hist k call hk

/-- **C12 over histories, a refused packet teaches nothing**: if the first version word of the k-th buffer is
    not in `S_k`, the caches at the start of call `k+1` are the caches at the start of call `k` — a refused
    packet never changes the caches, whatever it contains (a template definition in particular) and whatever
    the caller allows later. -/
theorem C12_history_refused_teaches_nothing (t : Tables) (uf : Bool) (st : PState) (hist : List Call) (k : Nat)
    (call : Call) (v : Nat) (hk : hist[k]? = some call) (hv : versionOf call.buf = some v)
    (ha : call.allowed.contains v = false) :
    stateBefore t uf st hist (k + 1) = stateBefore t uf st hist k :=
  (C06_history_disallowed_frame t uf st hist k call v hk hv ha).1

/-- … and a run of refused calls of any length: if every call from position `k` to position `k + n - 1` is
    refused at its first version word, the caches at the start of call `k + n` are those at the start of call `k` -/
theorem C12_history_refused_run_teaches_nothing (t : Tables) (uf : Bool) (st : PState) (hist : List Call) (k n : Nat)
    (h : ∀ j, j < n → ∃ call v, hist[k + j]? = some call ∧ versionOf call.buf = some v ∧ call.allowed.contains v = false) :
    stateBefore t uf st hist (k + n) = stateBefore t uf st hist k := by
  induction n with
  | zero => rfl
  | succ n ih =>
    obtain ⟨call, v, hk, hv, ha⟩ := h n (Nat.lt_succ_self n)
    have := C12_history_refused_teaches_nothing t uf st hist (k + n) call v hk hv ha
    rw [← Nat.add_assoc, this]
    exact ih (fun j hj => h j (Nat.lt_succ_of_lt hj))

/-- **C07 over histories, V9**: suppose template id `tid` is unknown to V9 at the start of call `k` (more
    generally: after the accepted packets `pre` in front of the packet of interest, see below), call `k` is REFUSED
    at its first version word (so whatever it carried — e.g. a template flowset defining `tid` — is not learned),
    and call `k+1`, under ANY allowed set that contains the version word of `p`, receives the buffer
    `pre.flatten ++ p` of the shape `C07_noRecordsFor_v9_notDefined` covers: `pre` a chain of self-delimiting accepted
    packets, `p` one V9 packet whose flowsets are `front` (decoding in turn, none defining `tid`) followed by a
    flowset whose header carries the data id `tid`.  Then call `k+1` reports `p` as the final `Partial` error
    element, `noRecordsFor tid 9` holds of its result, and its final caches are those reached after `front`.
    All hypotheses are about `stateBefore … k`, the state BEFORE the refused call. -/
theorem C07_history_refused_template_stays_unknown_v9 (t : Tables) (hf : t.framingOk = true) (uf : Bool)
    (st : PState) (hist : List Call) (k : Nat) (callk call' : Call) (vk : Nat)
    (hk : hist[k]? = some callk) (hvk : versionOf callk.buf = some vk) (hrk : callk.allowed.contains vk = false)
    (hk1 : hist[k + 1]? = some call')
    (st2 : PState) (pre : List Bytes) (p body : Bytes) (ss : List V9Set) (tid : Nat)
    (hbuf : call'.buf = pre.flatten ++ p)
    (hpre : chainOk (cfgOf t uf call') (stateBefore t uf st hist k) pre = true)
    (hp : V9UnknownAt (cfgOf t uf call') (foldCalls (cfgOf t uf call') (stateBefore t uf st hist k) pre).1 p body tid st2 ss)
    (hunk : ¬ KnownV9 (foldCalls (cfgOf t uf call') (stateBefore t uf st hist k) pre).1 tid)
    (hdef : ∀ s ∈ ss, v9Defines tid s = false) :
    (runHistory t uf st hist).2[k + 1]? =
      some (.done ((foldCalls (cfgOf t uf call') (stateBefore t uf st hist k) pre).2 ++ [.error (.partialParse 9 body) p])) ∧
    noRecordsFor tid 9 ((foldCalls (cfgOf t uf call') (stateBefore t uf st hist k) pre).2 ++ [.error (.partialParse 9 body) p]) = true ∧
    stateBefore t uf st hist (k + 2) = st2 := by
  have hsame := C12_history_refused_teaches_nothing t uf st hist k callk vk hk hvk hrk
  obtain ⟨e1, e2⟩ := C07_noRecordsFor_v9_notDefined (cfgOf t uf call') hf (stateBefore t uf st hist k) st2 pre p body ss tid hpre hp hunk hdef
  exact ⟨by rw [outcome_eq t uf st hist (k + 1) call' hk1, hsame, hbuf, e1], e2,
    by rw [stateBefore_succ t uf st hist (k + 1) call' hk1, hsame, hbuf, e1]⟩

/-- **C07 over histories, IPFIX**: the same with an IPFIX message `p` in the shape `C07_noRecordsFor_ipfix_notDefined`
    covers; the message is reported with exactly the sets of `front`, none of id `tid`. -/
theorem C07_history_refused_template_stays_unknown_ipfix (t : Tables) (hf : t.framingOk = true) (uf : Bool)
    (st : PState) (hist : List Call) (k : Nat) (callk call' : Call) (vk : Nat)
    (hk : hist[k]? = some callk) (hvk : versionOf callk.buf = some vk) (hrk : callk.allowed.contains vk = false)
    (hk1 : hist[k + 1]? = some call')
    (st2 : PState) (pre : List Bytes) (p : Bytes) (hd : List Nat) (ss : List IpSet) (tid : Nat)
    (hbuf : call'.buf = pre.flatten ++ p)
    (hpre : chainOk (cfgOf t uf call') (stateBefore t uf st hist k) pre = true)
    (hp : IpUnknownAt (cfgOf t uf call') (foldCalls (cfgOf t uf call') (stateBefore t uf st hist k) pre).1 p hd tid st2 ss)
    (hunk : ¬ KnownIp (foldCalls (cfgOf t uf call') (stateBefore t uf st hist k) pre).1 tid)
    (hdef : ∀ s ∈ ss, ipDefines tid s = false) :
    (runHistory t uf st hist).2[k + 1]? =
      some (.done ((foldCalls (cfgOf t uf call') (stateBefore t uf st hist k) pre).2 ++ [.ipfix hd ss])) ∧
    noRecordsFor tid 10 ((foldCalls (cfgOf t uf call') (stateBefore t uf st hist k) pre).2 ++ [.ipfix hd ss]) = true ∧
    stateBefore t uf st hist (k + 2) = st2 := by
  have hsame := C12_history_refused_teaches_nothing t uf st hist k callk vk hk hvk hrk
  obtain ⟨e1, e2⟩ := C07_noRecordsFor_ipfix_notDefined (cfgOf t uf call') hf (stateBefore t uf st hist k) st2 pre p hd ss tid hpre hp hunk hdef
  exact ⟨by rw [outcome_eq t uf st hist (k + 1) call' hk1, hsame, hbuf, e1], e2,
    by rw [stateBefore_succ t uf st hist (k + 1) call' hk1, hsame, hbuf, e1]⟩

/-- generated tables, the plain reading of the property — V9: `tid` unknown to V9 at the start of call `k`;
    call `k` refused; call `k+1` (any allowed set containing 9) is ONE V9 packet whose first flowset is a data
    flowset for `tid`.  Then call `k+1` returns exactly the `Partial` error element and the caches are still
    those of the start of call `k`. -/
theorem C07_history_refused_template_stays_unknown_v9_generated (uf : Bool)
    (st : PState) (hist : List Call) (k : Nat) (callk call' : Call) (vk : Nat)
    (hk : hist[k]? = some callk) (hvk : versionOf callk.buf = some vk) (hrk : callk.allowed.contains vk = false)
    (hk1 : hist[k + 1]? = some call') (ha : call'.allowed.contains 9 = true)
    (body : Bytes) (hd : List Nat) (b : Bytes) (sh : List Nat) (r1 : Bytes) (tid : Nat)
    (hbuf : call'.buf = [0, 9] ++ body)
    (hh : parseLayout Generated.tables.protoFromU8 Generated.tables.v9Hdr body = some (hd, b))
    (hcount : 0 < Generated.tables.v9Hdr.get "count" hd)
    (hs : parseLayout Generated.tables.protoFromU8 Generated.tables.v9SetHdr b = some (sh, r1))
    (hid : Generated.tables.v9SetHdr.get "flowset_id" sh = tid)
    (h1 : tid ≠ 0) (h2 : tid ≠ 1)
    (hunk : ¬ KnownV9 (stateBefore Generated.tables uf st hist k) tid) :
    (runHistory Generated.tables uf st hist).2[k + 1]? = some (.done [.error (.partialParse 9 body) ([0, 9] ++ body)]) ∧
    noRecordsFor tid 9 [.error (.partialParse 9 body) ([0, 9] ++ body)] = true ∧
    stateBefore Generated.tables uf st hist (k + 2) = stateBefore Generated.tables uf st hist k := by
  have := C07_history_refused_template_stays_unknown_v9 Generated.tables C02_generated_framing uf st hist k callk call' vk
    hk hvk hrk hk1 (stateBefore Generated.tables uf st hist k) [] ([0, 9] ++ body) body [] tid
    (by simpa using hbuf) rfl
    ⟨9, hd, [], b, sh, r1, by simp [beU, beNat], ha, show Generated.tables.dispatch.lookup 9 = some 9 by decide, by simpa using hh, rfl, by simpa using hcount, hs, hid, h1, h2⟩
    hunk (by simp)
  simpa [foldCalls] using this

/-- generated tables — IPFIX: `tid ≥ 256` unknown to IPFIX at the start of call `k`; call `k` refused; call `k+1`
    (any allowed set containing 10) is ONE complete IPFIX message whose first set is a data set for `tid`.  Then
    call `k+1` returns the message with NO set, and the caches are still those of the start of call `k`. -/
theorem C07_history_refused_template_stays_unknown_ipfix_generated (uf : Bool)
    (st : PState) (hist : List Call) (k : Nat) (callk call' : Call) (vk : Nat)
    (hk : hist[k]? = some callk) (hvk : versionOf callk.buf = some vk) (hrk : callk.allowed.contains vk = false)
    (hk1 : hist[k + 1]? = some call') (ha : call'.allowed.contains 10 = true)
    (body : Bytes) (hd : List Nat) (r b : Bytes) (sh : List Nat) (r1 : Bytes) (tid : Nat)
    (hbuf : call'.buf = [0, 10] ++ body)
    (hh : parseLayout Generated.tables.protoFromU8 Generated.tables.ipHdr body = some (hd, r))
    (ht : takeN (Generated.tables.ipHdr.get "length" hd - 16) r = some (b, []))
    (hs : parseLayout Generated.tables.protoFromU8 Generated.tables.ipSetHdr b = some (sh, r1))
    (hid : Generated.tables.ipSetHdr.get "header_id" sh = tid)
    (h1 : 256 ≤ tid)
    (hunk : ¬ KnownIp (stateBefore Generated.tables uf st hist k) tid) :
    (runHistory Generated.tables uf st hist).2[k + 1]? = some (.done [.ipfix hd []]) ∧
    noRecordsFor tid 10 [.ipfix hd []] = true ∧
    stateBefore Generated.tables uf st hist (k + 2) = stateBefore Generated.tables uf st hist k := by
  have h2 : tid ≠ Generated.tables.ipOptTemplateId := by
    have : Generated.tables.ipOptTemplateId = 3 := rfl
    omega
  have h1' : Generated.tables.ipSetMinRange ≤ tid := by
    have : Generated.tables.ipSetMinRange = 255 := rfl
    omega
  have := C07_history_refused_template_stays_unknown_ipfix Generated.tables C02_generated_framing uf st hist k callk call' vk
    hk hvk hrk hk1 (stateBefore Generated.tables uf st hist k) [] ([0, 10] ++ body) hd [] tid
    (by simpa using hbuf) rfl
    ⟨10, body, r, [], b, sh, r1, by simp [beU, beNat], ha, show Generated.tables.dispatch.lookup 10 = some 10 by decide, hh, by simpa using ht, rfl, hs, hid, h1', h2⟩
    hunk (by simp)
  simpa [foldCalls] using this

/-- **C07 over histories, shape-free form** (lifting of `C07_no_set_for_unknown`): whatever the k-th buffer
    looks like and whatever the allowed sets are — if a data id is unknown to its protocol when the k-th call
    RETURNS (`stateBefore … (k+1)`), no packet returned by the k-th call contains a flowset / set with that id. -/
theorem C07_history_no_set_for_unknown (t : Tables) (uf : Bool) (st : PState) (hist : List Call) (k : Nat) (call : Call)
    (pkts : List Packet) (tid : Nat) (hk : hist[k]? = some call)
    (ho : (runHistory t uf st hist).2[k]? = some (.done pkts)) :
    (tid ≠ t.v9TemplateId → tid ≠ t.v9OptTemplateId → ¬ KnownV9 (stateBefore t uf st hist (k + 1)) tid →
      ∀ hd ss, Packet.v9 hd ss ∈ pkts → ∀ s ∈ ss, s.id ≠ tid) ∧
    (t.ipSetMinRange ≤ tid → tid ≠ t.ipOptTemplateId → ¬ KnownIp (stateBefore t uf st hist (k + 1)) tid →
      ∀ hd ss, Packet.ipfix hd ss ∈ pkts → ∀ s ∈ ss, s.id ≠ tid) := by
  rw [outcome_eq t uf st hist k call hk, Option.some.injEq] at ho
  exact C07_no_set_for_unknown (cfgOf t uf call) _ _ _ pkts tid
    (Prod.ext (stateBefore_succ t uf st hist k call hk).symm ho)

/-- **C14 over histories**: `C14_truncated` with `st := stateBefore … k` and the k-th call's configuration.
    If the k-th buffer is a chain `qs` of accepted packets followed by a packet `p` cut strictly inside
    (`0 < j < |p|`, for V9 not on a flowset boundary) — "accepted" and "complete" judged in the cache state the
    history has reached and under the k-th allowed set — then the k-th call reports the chain's packets and, last,
    an error whose remaining bytes are exactly the truncated packet; and for a V5 / V7 / IPFIX packet the caches
    after the truncated call (`stateBefore … (k+1)`) are the caches after the complete prefix (`st1`). -/
theorem C14_history (t : Tables) (hf : t.framingOk = true) (uf : Bool) (st : PState) (hist : List Call) (k : Nat)
    (call : Call) (hk : hist[k]? = some call)
    (st1 st' : PState) (qs : List Bytes) (out : List Packet) (p : Bytes) (pkt : Packet) (j : Nat)
    (hbuf : call.buf = qs.flatten ++ p.take j)
    (hq : chainOk (cfgOf t uf call) (stateBefore t uf st hist k) qs = true)
    (hpre : parseBytes (cfgOf t uf call) (stateBefore t uf st hist k) qs.flatten = (st1, .done out))
    (h : parsePacket (cfgOf t uf call) st1 p = (st', .ok pkt []))
    (hj0 : 0 < j) (hj : j < p.length) (hb : j ∉ v9Boundaries (cfgOf t uf call) pkt) :
    ∃ e, (runHistory t uf st hist).2[k]? = some (.done (out ++ [.error e (p.take j)])) ∧
      ((j < 2 ∧ e = .incomplete) ∨
       (2 ≤ j ∧ ∃ v, versionOf p = some v ∧ e = .partialParse v ((p.take j).drop 2))) ∧
      (pkt.isV9 = false → stateBefore t uf st hist (k + 1) = st1) := by
  obtain ⟨st2, e, h1, h2, h3⟩ := C14_truncated (cfgOf t uf call) hf _ st1 st' qs out p pkt hq hpre h j hj0 hj hb
  exact ⟨e, by rw [outcome_eq t uf st hist k call hk, hbuf, h1], h2,
    fun hv => by rw [stateBefore_succ t uf st hist k call hk, hbuf, h1]; exact h3 hv⟩

theorem C14_history_generated (uf : Bool) (st : PState) (hist : List Call) (k : Nat)
    (call : Call) (hk : hist[k]? = some call)
    (st1 st' : PState) (qs : List Bytes) (out : List Packet) (p : Bytes) (pkt : Packet) (j : Nat)
    (hbuf : call.buf = qs.flatten ++ p.take j)
    (hq : chainOk (cfgOf Generated.tables uf call) (stateBefore Generated.tables uf st hist k) qs = true)
    (hpre : parseBytes (cfgOf Generated.tables uf call) (stateBefore Generated.tables uf st hist k) qs.flatten = (st1, .done out))
    (h : parsePacket (cfgOf Generated.tables uf call) st1 p = (st', .ok pkt []))
    (hj0 : 0 < j) (hj : j < p.length) (hb : j ∉ v9Boundaries (cfgOf Generated.tables uf call) pkt) :
    ∃ e, (runHistory Generated.tables uf st hist).2[k]? = some (.done (out ++ [.error e (p.take j)])) ∧
      (pkt.isV9 = false → stateBefore Generated.tables uf st hist (k + 1) = st1) := by
  obtain ⟨e, h1, _, h3⟩ := C14_history Generated.tables C02_generated_framing uf st hist k call hk st1 st' qs out p pkt j
    hbuf hq hpre h hj0 hj hb
  exact ⟨e, h1, h3⟩

open Netflow.B1 Netflow.JText Netflow.J1

/-- **C16, the text determines the decoded value.**  Take two packets `p`, `q` from ANY two parse results
    (any cache states, any buffers, any two allowed sets — e.g. two calls of one history) whose JSON values
    are `plain`.  If one and the same JSON tree `t` — what the RFC 8259 reader makes of a text — is accepted
    by the ordered matcher for both, then `p` and `q` agree in everything except paddings and `DataNumber`
    width tags (`jnorm`).  Combines `C16_match_injective_partial` (the tree determines the JSON value) with
    faithfulness of `toJ` on parse results (`C16_parse_results_wellformed` + `C16_generated_faithful_partial`).
    `_partial`: the hypotheses `plain` exclude packets with a float leaf (two float bit patterns can print the
    same: NaN / ±∞ all print `null`, see `C16_text_determines_value_full_fails`) and packets with the
    error-message wildcard, i.e. `Incomplete` / `Partial` error elements (`errKindJ` puts `.anyStr` there);
    `UnknownVersion` error elements are plain. -/
theorem C16_text_determines_value_partial (a1 a2 : List Nat) (uf : Bool)
    (st1 st1' st2 st2' : PState) (buf1 buf2 : Bytes) (ps qs : List Packet)
    (h1 : parseBytes (jsonCfgOf a1 uf) st1 buf1 = (st1', .done ps))
    (h2 : parseBytes (jsonCfgOf a2 uf) st2 buf2 = (st2', .done qs))
    (p q : Packet) (hp : p ∈ ps) (hq : q ∈ qs)
    (isFinite : Nat → Bool) (fmatch : Nat → List Char → Bool) (t : JTree)
    (hpp : plain (toJ (jsonCfgOf a1 uf) jsonNames p) = true)
    (hqp : plain (toJ (jsonCfgOf a2 uf) jsonNames q) = true)
    (hm1 : jmatchT isFinite fmatch (toJ (jsonCfgOf a1 uf) jsonNames p) t = true)
    (hm2 : jmatchT isFinite fmatch (toJ (jsonCfgOf a2 uf) jsonNames q) t = true) : jnorm p = jnorm q := by
  have e := C16_match_injective_partial isFinite fmatch _ _ t hpp hqp hm1 hm2
  rw [toJ_tables (jsonCfgOf a2 uf) (jsonCfgOf a1 uf) rfl] at e
  have w1 := C16_parse_results_wellformed _ jsonNames (jsonCover a1 uf) _ _ _ _ h1 p hp
  have w2 := C16_parse_results_wellformed _ jsonNames (jsonCover a2 uf) _ _ _ _ h2 q hq
  rw [pktWf_tables (jsonCfgOf a2 uf) (jsonCfgOf a1 uf) rfl] at w2
  exact C16_faithful_partial (jsonCfgOf a1 uf) jsonNames jsonNames_ok p q w1 w2 e

/-- the same in terms of the TEXT the modelled writer prints (`C16_parse_results_text`: the reader reads that
    text back as the tree of the value, and the matcher accepts it): two plain parse results with the same
    printed text agree up to paddings and width tags.  `hfp` is the specification of the unmodelled float
    printer / reader pair, exactly as in `C16_parse_results_text` (vacuous with `isFinite := fun _ => false`). -/
theorem C16_text_equal_text_partial (a1 a2 : List Nat) (uf : Bool)
    (st1 st1' st2 st2' : PState) (buf1 buf2 : Bytes) (ps qs : List Packet)
    (h1 : parseBytes (jsonCfgOf a1 uf) st1 buf1 = (st1', .done ps))
    (h2 : parseBytes (jsonCfgOf a2 uf) st2 buf2 = (st2', .done qs))
    (p q : Packet) (hp : p ∈ ps) (hq : q ∈ qs)
    (isFinite : Nat → Bool) (fmatch : Nat → List Char → Bool) (fp : Nat → List Char)
    (hfp : ∀ bits, isFinite bits = true → fmatch bits (fp bits) = true ∧ numOk (fp bits) = true)
    (hpp : plain (toJ (jsonCfgOf a1 uf) jsonNames p) = true)
    (hqp : plain (toJ (jsonCfgOf a2 uf) jsonNames q) = true)
    (htext : printTree (treeOf isFinite fp decUtf8 (toJ (jsonCfgOf a1 uf) jsonNames p)) =
             printTree (treeOf isFinite fp decUtf8 (toJ (jsonCfgOf a2 uf) jsonNames q))) : jnorm p = jnorm q := by
  obtain ⟨r1, m1⟩ := C16_parse_results_text _ jsonNames _ _ _ _ h1 isFinite fmatch fp hfp p hp
  obtain ⟨r2, m2⟩ := C16_parse_results_text _ jsonNames _ _ _ _ h2 isFinite fmatch fp hfp q hq
  rw [htext, r2, Option.some.injEq] at r1
  rw [r1] at m2
  exact C16_text_determines_value_partial a1 a2 uf st1 st1' st2 st2' buf1 buf2 ps qs h1 h2 p q hp hq isFinite fmatch _
    hpp hqp m1 m2

/-- the full-strength statement: no `plain` restriction -/
def C16_text_determines_value_full : Prop :=
  ∀ (a1 a2 : List Nat) (uf : Bool) (st1 st1' st2 st2' : PState) (buf1 buf2 : Bytes) (ps qs : List Packet),
    parseBytes (jsonCfgOf a1 uf) st1 buf1 = (st1', .done ps) →
    parseBytes (jsonCfgOf a2 uf) st2 buf2 = (st2', .done qs) →
    ∀ (p q : Packet), p ∈ ps → q ∈ qs →
    ∀ (isFinite : Nat → Bool) (fmatch : Nat → List Char → Bool) (t : JTree),
      jmatchT isFinite fmatch (toJ (jsonCfgOf a1 uf) jsonNames p) t = true →
      jmatchT isFinite fmatch (toJ (jsonCfgOf a2 uf) jsonNames q) t = true → jnorm p = jnorm q

/-- IEEE-754 binary64: the exponent field is not all ones -/
def h1IsFinite : Nat → Bool := fun b => b / 4503599627370496 % 2048 != 2047

/-- one IPFIX message: template 256 = [absoluteError(320) / 8 bytes, a `float64`], one data record = +∞ -/
def h1BufInf : Bytes :=
  [0,10, 0,40, 0,0,0,1, 0,0,0,2, 0,0,0,3,  0,2, 0,12, 1,0, 0,1, 1,64, 0,8,  1,0, 0,12, 0x7F,0xF0,0,0,0,0,0,0]
/-- the same with a quiet NaN -/
def h1BufNaN : Bytes :=
  [0,10, 0,40, 0,0,0,1, 0,0,0,2, 0,0,0,3,  0,2, 0,12, 1,0, 0,1, 1,64, 0,8,  1,0, 0,12, 0x7F,0xF8,0,0,0,0,0,0]

def h1PktFloat (bits : Nat) : Packet :=
  .ipfix [10, 40, 1, 2, 3]
    [{ id := 2, len := 12, body := .template { id := 256, fieldCount := 1, fields := [{ typ := 320, len := 8, ent := none }], pad := [] } },
     { id := 256, len := 12, body := .data [[(0, 320, .f64 bits)]] [] }]

/-- the caches after either message -/
def h1StFloat : PState :=
  { ipT := [(256, { id := 256, fieldCount := 1, fields := [{ typ := 320, len := 8, ent := none }], pad := [] })] }

/-- the JSON tree both serialise to: the float member is `null` -/
def h1FloatTree : JTree :=
  treeOf h1IsFinite (fun _ => []) decAscii (toJ (jsonCfgOf [10] true) jsonNames (h1PktFloat 9218868437227405312))

theorem h1Float_facts :
    parseBytes (jsonCfgOf [10] true) {} h1BufInf = (h1StFloat, .done [h1PktFloat 9218868437227405312]) ∧
    parseBytes (jsonCfgOf [10] true) {} h1BufNaN = (h1StFloat, .done [h1PktFloat 9221120237041090560]) ∧
    h1IsFinite 9218868437227405312 = false ∧ h1IsFinite 9221120237041090560 = false ∧ h1IsFinite 4607182418800017408 = true ∧
    jnorm (h1PktFloat 9218868437227405312) ≠ jnorm (h1PktFloat 9221120237041090560) := by
  decide +kernel

/-- the full statement is FALSE, of the model and of the crate: serde_json writes `null` for every non-finite
    float, so a record holding +∞ and a record holding NaN have the same JSON text although the decoded values
    differ.  (Needs no sloppy float reader: the witness uses the reader that accepts nothing.)

    The other non-`plain` leaf, the error-message wildcard `.anyStr`, does NOT give a counterexample inside the
    model: the model's `ErrKind` does not carry nom's message text at all (`.incomplete`, `.partialParse v rem`),
    so "two error packets whose messages differ" are one and the same model value; everything the model does
    carry of an error element (kind, version, both `remaining` byte lists) is printed and is recovered
    (`C16_error_faithful`).  So the only genuine loss beyond paddings and width tags is the float one. -/
theorem C16_text_determines_value_full_fails : ¬ C16_text_determines_value_full := by
  intro h
  have hm : jmatchT h1IsFinite (fun _ _ => false) (toJ (jsonCfgOf [10] true) jsonNames (h1PktFloat 9218868437227405312))
        h1FloatTree = true ∧
      jmatchT h1IsFinite (fun _ _ => false) (toJ (jsonCfgOf [10] true) jsonNames (h1PktFloat 9221120237041090560))
        h1FloatTree = true := by decide +kernel
  exact h1Float_facts.2.2.2.2.2 (h [10] [10] true {} h1StFloat {} h1StFloat h1BufInf h1BufNaN
    [h1PktFloat 9218868437227405312] [h1PktFloat 9221120237041090560]
    h1Float_facts.1 h1Float_facts.2.1 _ _ (List.mem_singleton.2 rfl) (List.mem_singleton.2 rfl)
    h1IsFinite (fun _ _ => false) h1FloatTree hm.1 hm.2)


/-- a V9 packet with ONE data flowset for template 256 (4 bytes: 10.0.0.1); `c12V9` (Props/C12) is the V9
    packet DEFINING template 256 = [IPV4_SRC_ADDR / 4], `c12V5` an empty V5 packet -/
def h1D9 : Bytes := [0,9, 0,1, 0,0,0,1, 0,0,0,2, 0,0,0,3, 0,0,0,4,  1,0, 0,8, 10,0,0,1]

/-- a three-call history:
    call 0, allowed {5}   : the V9 template packet — REFUSED;
    call 1, allowed {5,9} : V9 data for that template id;
    call 2, allowed {}    : a V5 packet — refused. -/
def h1Hist : List Call := [⟨[5], c12V9⟩, ⟨[5, 9], h1D9⟩, ⟨[], c12V5⟩]

/-- what the model returns on it: nothing, then the data packet as a `Partial` error (template 256 was never
    learned), then nothing; the caches are empty at the end -/
example : runHistory Generated.tables true {} h1Hist =
    ({}, [.done [], .done [.error (.partialParse 9 (h1D9.drop 2)) h1D9], .done []]) := by decide +kernel

/-- contrast: had call 0 allowed version 9, call 1 would decode a record -/
example : (runHistory Generated.tables true {} [⟨[9], c12V9⟩, ⟨[5, 9], h1D9⟩, ⟨[], c12V5⟩]).2[1]? =
    some (.done [.v9 [9, 1, 1, 2, 3, 4] [⟨256, 8, .data [[(0, 8, .ip4 167772161)]] []⟩]]) := by decide +kernel

/-- hypotheses `hist[k]? = some call` of `C01_history_returns_at`, `C02_history`, `C12_history`, `C14_history`, … -/
example : h1Hist[1]? = some ⟨[5, 9], h1D9⟩ := rfl

/-- hypotheses of `C06_history_disallowed_frame` / `C12_history_refused_teaches_nothing` at k = 0 and k = 2 -/
example : h1Hist[0]? = some ⟨[5], c12V9⟩ ∧ versionOf c12V9 = some 9 ∧ ([5] : List Nat).contains 9 = false ∧
    h1Hist[2]? = some ⟨[], c12V5⟩ ∧ versionOf c12V5 = some 5 ∧ ([] : List Nat).contains 5 = false := by decide

/-- … and the theorem instantiated: the caches before call 1 are the caches before call 0 -/
example : stateBefore Generated.tables true {} h1Hist 1 = stateBefore Generated.tables true {} h1Hist 0 :=
  C12_history_refused_teaches_nothing Generated.tables true {} h1Hist 0 ⟨[5], c12V9⟩ 9 rfl (by decide) (by decide)

/-- hypothesis of `C12_history_refused_run_teaches_nothing` (k = 0, n = 1) -/
example : ∀ j, j < 1 → ∃ call v, h1Hist[0 + j]? = some call ∧ versionOf call.buf = some v ∧ call.allowed.contains v = false := by
  intro j hj
  have : j = 0 := by omega
  subst this
  exact ⟨⟨[5], c12V9⟩, 9, rfl, by decide, by decide⟩

/-- `C06_history_wf`: a non-empty canonical start state -/
example : StateWf { v9T := [(256, ⟨256, 1, [⟨8, 4⟩]⟩)] } := by simp [StateWf, amSorted]

/-- `C07_history_refused_template_stays_unknown_v9_generated` on `h1Hist` (k = 0, tid = 256): every
    hypothesis is met, and the conclusion is what the evaluation above shows -/
example :
    (runHistory Generated.tables true {} h1Hist).2[0 + 1]? = some (.done [.error (.partialParse 9 (h1D9.drop 2)) ([0, 9] ++ h1D9.drop 2)]) ∧
    noRecordsFor 256 9 [.error (.partialParse 9 (h1D9.drop 2)) ([0, 9] ++ h1D9.drop 2)] = true ∧
    stateBefore Generated.tables true {} h1Hist (0 + 2) = stateBefore Generated.tables true {} h1Hist 0 :=
  C07_history_refused_template_stays_unknown_v9_generated true {} h1Hist 0 ⟨[5], c12V9⟩ ⟨[5, 9], h1D9⟩ 9
    rfl (by decide) (by decide) rfl (by decide) (h1D9.drop 2) [9, 1, 1, 2, 3, 4] [1,0, 0,8, 10,0,0,1] [256, 8] [10, 0, 0, 1] 256
    rfl (by decide +kernel) (by decide +kernel) (by decide +kernel) (by decide +kernel) (by decide) (by decide)
    (by simp [KnownV9, amLookup])

/-- the IPFIX twin: call 0 (allowed {5}) is the IPFIX message defining template 256 — refused; call 1 (allowed
    {10}) is a data message for 256: reported with no set (`C11ex.ipT`, `C11ex.ipD`, Props/C11) -/
def h1HistIp : List Call := [⟨[5], C11ex.ipT⟩, ⟨[10], C11ex.ipD⟩]

example :
    (runHistory Generated.tables true {} h1HistIp).2[0 + 1]? = some (.done [.ipfix [10, 28, 2, 2, 1] []]) ∧
    noRecordsFor 256 10 [.ipfix [10, 28, 2, 2, 1] []] = true ∧
    stateBefore Generated.tables true {} h1HistIp (0 + 2) = stateBefore Generated.tables true {} h1HistIp 0 :=
  C07_history_refused_template_stays_unknown_ipfix_generated true {} h1HistIp 0 ⟨[5], C11ex.ipT⟩ ⟨[10], C11ex.ipD⟩ 10
    rfl (by decide) (by decide) rfl (by decide) (C11ex.ipD.drop 2) [10, 28, 2, 2, 1] [1,0, 0,12, 10,0,0,1, 10,0,0,2]
    [1,0, 0,12, 10,0,0,1, 10,0,0,2] [256, 12] [10,0,0,1, 10,0,0,2] 256
    rfl (by decide +kernel) (by decide +kernel) (by decide +kernel) (by decide +kernel) (by decide)
    (by simp [KnownIp, amLookup])

/-- the GENERAL V9 theorem with a non-empty chain `pre` and a non-empty `front`: call 0 (allowed {5}) is the
    V9 packet defining 256 — refused; call 1 (allowed {5,9}) is a V5 packet followed by a V9 packet with the
    flowsets [template 257] [data 257] [data 256] -/
def h1T257 : Bytes := [0,0, 0,12, 1,1, 0,1, 0,1, 0,3]
def h1D257 : Bytes := [1,1, 0,8, 1,2,3,0]
def h1D256 : Bytes := [1,0, 0,8, 1,2,3,0]
def h1Body9 : Bytes := [0,3, 0,0,0,1, 0,0,0,2, 0,0,0,3, 0,0,0,4] ++ h1T257 ++ h1D257 ++ h1D256
def h1Hist2 : List Call := [⟨[5], c12V9⟩, ⟨[5, 9], [c12V5].flatten ++ ([0, 9] ++ h1Body9)⟩]

example :
    (runHistory Generated.tables true {} h1Hist2).2[0 + 1]? =
      some (.done ([.v5 [5, 0, 1, 2, 3, 4, 5, 6, 7] []] ++ [.error (.partialParse 9 h1Body9) ([0, 9] ++ h1Body9)])) ∧
    stateBefore Generated.tables true {} h1Hist2 (0 + 2) = { v9T := [(257, ⟨257, 1, [⟨1, 3⟩]⟩)] } := by
  have hf : foldCalls (cfgOf Generated.tables true ⟨[5, 9], [c12V5].flatten ++ ([0, 9] ++ h1Body9)⟩)
      (stateBefore Generated.tables true {} h1Hist2 0) [c12V5] = ({}, [.v5 [5, 0, 1, 2, 3, 4, 5, 6, 7] []]) := by decide +kernel
  have := C07_history_refused_template_stays_unknown_v9 Generated.tables C02_generated_framing true {} h1Hist2 0
    ⟨[5], c12V9⟩ ⟨[5, 9], [c12V5].flatten ++ ([0, 9] ++ h1Body9)⟩ 9 rfl (by decide) (by decide) rfl
    { v9T := [(257, ⟨257, 1, [⟨1, 3⟩]⟩)] } [c12V5] ([0, 9] ++ h1Body9) h1Body9
    [⟨0, 12, .templates [⟨257, 1, [⟨1, 3⟩]⟩] []⟩, ⟨257, 8, .data [[(0, 1, .num (.u24 66051))]] [0]⟩] 256
    rfl (by decide +kernel)
    ⟨9, [9, 3, 1, 2, 3, 4], [h1T257, h1D257], h1D256, [256, 8], [1, 2, 3, 0], by rw [hf]; decide +kernel⟩
    (by rw [hf]; simp [KnownV9, amLookup]) (by decide)
  rw [hf] at this
  exact ⟨this.1, this.2.2⟩

/-- `C07_history_no_set_for_unknown`: hypotheses met at call 1 of `h1Hist` -/
example : (runHistory Generated.tables true {} h1Hist).2[1]? = some (.done [.error (.partialParse 9 (h1D9.drop 2)) h1D9]) ∧
    ¬ KnownV9 (stateBefore Generated.tables true {} h1Hist (1 + 1)) 256 :=
  ⟨by decide +kernel, by
    have : stateBefore Generated.tables true {} h1Hist (1 + 1) = {} := by decide +kernel
    rw [this]; simp [KnownV9, amLookup]⟩

/-- `C12_history`: a history in which the filter cuts INSIDE a buffer, from a non-empty cache state.
    call 0 (allowed {9}) learns template 256; call 1 (allowed {5}) gets V5 ++ V9-data ++ V5 and reports the first
    V5 packet only; call 2 (allowed {5,9}) gets the same buffer and reports all three, the record decoded. -/
def h1Hist3 : List Call := [⟨[9], c12V9⟩, ⟨[5], c12V5 ++ h1D9 ++ c12V5⟩, ⟨[5, 9], c12V5 ++ h1D9 ++ c12V5⟩]

example : (runHistory Generated.tables true {} h1Hist3).2 =
    [.done [.v9 [9, 1, 1, 2, 3, 4] [⟨0, 12, .templates [⟨256, 1, [⟨8, 4⟩]⟩] []⟩]],
     .done [.v5 [5, 0, 1, 2, 3, 4, 5, 6, 7] []],
     .done [.v5 [5, 0, 1, 2, 3, 4, 5, 6, 7] [], .v9 [9, 1, 1, 2, 3, 4] [⟨256, 8, .data [[(0, 8, .ip4 167772161)]] []⟩],
            .v5 [5, 0, 1, 2, 3, 4, 5, 6, 7] []]] := by decide +kernel

/-- the all-allowed run of call 1's buffer from the state before call 1, with the concrete all-allowing list, and
    `takeAllowed` cutting it to what call 1 returned (hypotheses `hA`, `hk` of `C12_history`: `allowsAll_range`, `rfl`) -/
example :
    (parseBytes { t := Generated.tables, allowed := List.range 65536, unknownFields := true }
      (stateBefore Generated.tables true {} h1Hist3 1) (c12V5 ++ h1D9 ++ c12V5)).2 =
      .done [.v5 [5, 0, 1, 2, 3, 4, 5, 6, 7] [], .v9 [9, 1, 1, 2, 3, 4] [⟨256, 8, .data [[(0, 8, .ip4 167772161)]] []⟩],
             .v5 [5, 0, 1, 2, 3, 4, 5, 6, 7] []] ∧
    takeAllowed { t := Generated.tables, allowed := List.range 65536, unknownFields := true } [5] 77 (c12V5 ++ h1D9 ++ c12V5)
      [.v5 [5, 0, 1, 2, 3, 4, 5, 6, 7] [], .v9 [9, 1, 1, 2, 3, 4] [⟨256, 8, .data [[(0, 8, .ip4 167772161)]] []⟩],
       .v5 [5, 0, 1, 2, 3, 4, 5, 6, 7] []] = [.v5 [5, 0, 1, 2, 3, 4, 5, 6, 7] []] := by
  -- `List.range'` produces its elements on demand; `List.range` builds all 65536 before `contains` sees the first
  rw [List.range_eq_range']
  decide +kernel

/-- `C14_history_generated`: call 0 (allowed {5}) a refused V9 packet; call 1 (allowed {5,7,9,10}) the chain
    [V5, IPFIX template] followed by the IPFIX data message cut one byte before its end.  The caches after call 1
    are those after the complete prefix: template 256 known, nothing else. -/
def h1Hist4 : List Call := [⟨[5], c12V9⟩, ⟨[5, 7, 9, 10], [C11ex.v5p, C11ex.ipT].flatten ++ C11ex.ipD.take 27⟩]

/-- what `C14_history_generated` asks of call 1 of `h1Hist4`: the prefix is a chain, the call on the prefix, the complete
    last packet (evaluated together: they share `foldCalls`) -/
theorem h1Hist4_facts :
    chainOk (cfgOf Generated.tables true ⟨[5, 7, 9, 10], [C11ex.v5p, C11ex.ipT].flatten ++ C11ex.ipD.take 27⟩)
      (stateBefore Generated.tables true {} h1Hist4 1) [C11ex.v5p, C11ex.ipT] = true ∧
    parseBytes (cfgOf Generated.tables true ⟨[5, 7, 9, 10], [C11ex.v5p, C11ex.ipT].flatten ++ C11ex.ipD.take 27⟩)
        (stateBefore Generated.tables true {} h1Hist4 1) [C11ex.v5p, C11ex.ipT].flatten =
      ((foldCalls C11ex.cfg {} [C11ex.v5p, C11ex.ipT]).1, .done (foldCalls C11ex.cfg {} [C11ex.v5p, C11ex.ipT]).2) ∧
    parsePacket (cfgOf Generated.tables true ⟨[5, 7, 9, 10], [C11ex.v5p, C11ex.ipT].flatten ++ C11ex.ipD.take 27⟩)
        (foldCalls C11ex.cfg {} [C11ex.v5p, C11ex.ipT]).1 C11ex.ipD =
      ((foldCalls C11ex.cfg {} [C11ex.v5p, C11ex.ipT]).1,
       .ok (.ipfix [10, 28, 2, 2, 1] [{ id := 256, len := 12, body := .data [[(0, 8, .ip4 167772161)], [(1, 12, .ip4 167772162)]] [] }]) []) := by
  decide +kernel

/-- the theorem applied to call 1 (the packet cut short is an IPFIX message, so the second clause's `isV9 = false` is `true = true`) -/
example : ∃ e, (runHistory Generated.tables true {} h1Hist4).2[1]? =
      some (.done ((foldCalls C11ex.cfg {} [C11ex.v5p, C11ex.ipT]).2 ++ [.error e (C11ex.ipD.take 27)])) ∧
    (true = true → stateBefore Generated.tables true {} h1Hist4 (1 + 1) = (foldCalls C11ex.cfg {} [C11ex.v5p, C11ex.ipT]).1) := by
  obtain ⟨e, h1, h2⟩ :=
    C14_history_generated true {} h1Hist4 1 ⟨[5, 7, 9, 10], [C11ex.v5p, C11ex.ipT].flatten ++ C11ex.ipD.take 27⟩ rfl
      (foldCalls C11ex.cfg {} [C11ex.v5p, C11ex.ipT]).1 (foldCalls C11ex.cfg {} [C11ex.v5p, C11ex.ipT]).1
      [C11ex.v5p, C11ex.ipT] (foldCalls C11ex.cfg {} [C11ex.v5p, C11ex.ipT]).2 C11ex.ipD
      (.ipfix [10, 28, 2, 2, 1] [{ id := 256, len := 12, body := .data [[(0, 8, .ip4 167772161)], [(1, 12, .ip4 167772162)]] [] }])
      27 rfl h1Hist4_facts.1 h1Hist4_facts.2.1 h1Hist4_facts.2.2 (by decide) (by decide) (by decide)
  exact ⟨e, h1, fun _ => h2 rfl⟩

/-- `C16_text_determines_value_partial`: two DIFFERENT packets from two parse results under two different allowed
    sets (the padding byte differs) that are plain and match one and the same tree — so the theorem applies, and
    indeed they agree after `jnorm` -/
def h1PadPkt (pad : UInt8) : Packet := .v9 [9, 1, 1, 2, 3, 4] [⟨256, 8, .data [[(0, 1, .num (.u24 66051))]] [pad]⟩]
def h1PadSt : PState := { v9T := [(256, ⟨256, 1, [⟨1, 3⟩]⟩)] }
def h1PadBuf (pad : UInt8) : Bytes := [0,9, 0,1, 0,0,0,1, 0,0,0,2, 0,0,0,3, 0,0,0,4,  1,0, 0,8, 1,2,3, pad]

theorem h1Pad_facts :
    parseBytes (jsonCfgOf [9] true) h1PadSt (h1PadBuf 0) = (h1PadSt, .done [h1PadPkt 0]) ∧
    parseBytes (jsonCfgOf [5, 9] true) h1PadSt (h1PadBuf 7) = (h1PadSt, .done [h1PadPkt 7]) ∧
    h1PadPkt 0 ≠ h1PadPkt 7 ∧
    plain (toJ (jsonCfgOf [9] true) jsonNames (h1PadPkt 0)) = true ∧
    plain (toJ (jsonCfgOf [5, 9] true) jsonNames (h1PadPkt 7)) = true ∧
    jmatchT (fun _ => false) (fun _ _ => false) (toJ (jsonCfgOf [9] true) jsonNames (h1PadPkt 0))
      (treeOf (fun _ => false) (fun _ => []) decAscii (toJ (jsonCfgOf [9] true) jsonNames (h1PadPkt 0))) = true ∧
    jmatchT (fun _ => false) (fun _ _ => false) (toJ (jsonCfgOf [5, 9] true) jsonNames (h1PadPkt 7))
      (treeOf (fun _ => false) (fun _ => []) decAscii (toJ (jsonCfgOf [9] true) jsonNames (h1PadPkt 0))) = true := by
  decide +kernel

example :
    parseBytes (jsonCfgOf [9] true) h1PadSt (h1PadBuf 0) = (h1PadSt, .done [h1PadPkt 0]) ∧
    parseBytes (jsonCfgOf [5, 9] true) h1PadSt (h1PadBuf 7) = (h1PadSt, .done [h1PadPkt 7]) ∧
    h1PadPkt 0 ≠ h1PadPkt 7 ∧
    plain (toJ (jsonCfgOf [9] true) jsonNames (h1PadPkt 0)) = true ∧
    plain (toJ (jsonCfgOf [5, 9] true) jsonNames (h1PadPkt 7)) = true ∧
    jmatchT (fun _ => false) (fun _ _ => false) (toJ (jsonCfgOf [9] true) jsonNames (h1PadPkt 0))
      (treeOf (fun _ => false) (fun _ => []) decAscii (toJ (jsonCfgOf [9] true) jsonNames (h1PadPkt 0))) = true ∧
    jmatchT (fun _ => false) (fun _ _ => false) (toJ (jsonCfgOf [5, 9] true) jsonNames (h1PadPkt 7))
      (treeOf (fun _ => false) (fun _ => []) decAscii (toJ (jsonCfgOf [9] true) jsonNames (h1PadPkt 0))) = true := h1Pad_facts

example : jnorm (h1PadPkt 0) = jnorm (h1PadPkt 7) :=
  C16_text_determines_value_partial [9] [5, 9] true h1PadSt h1PadSt h1PadSt h1PadSt (h1PadBuf 0) (h1PadBuf 7)
    [h1PadPkt 0] [h1PadPkt 7] h1Pad_facts.1 h1Pad_facts.2.1 _ _ (List.mem_singleton.2 rfl) (List.mem_singleton.2 rfl)
    (fun _ => false) (fun _ _ => false)
    (treeOf (fun _ => false) (fun _ => []) decAscii (toJ (jsonCfgOf [9] true) jsonNames (h1PadPkt 0)))
    h1Pad_facts.2.2.2.1 h1Pad_facts.2.2.2.2.1 h1Pad_facts.2.2.2.2.2.1 h1Pad_facts.2.2.2.2.2.2

/-- hypothesis `hfp` of `C16_text_equal_text_partial` is satisfiable (vacuously, for the reader that calls no
    float finite — irrelevant for plain values; a non-trivial instance is in Props/C16b) -/
example : ∀ bits, (fun _ : Nat => false) bits = true →
    (fun (_ : Nat) (_ : List Char) => false) bits ((fun _ : Nat => ([] : List Char)) bits) = true ∧
      numOk ((fun _ : Nat => ([] : List Char)) bits) = true := by
  intro bits h; simp at h

/-- the witnesses of `C16_text_determines_value_full_fails`: both are parse results, both match the same tree
    (float member `null`), and they differ after `jnorm` -/
example :
    parseBytes (jsonCfgOf [10] true) {} h1BufInf = (h1StFloat, .done [h1PktFloat 9218868437227405312]) ∧
    parseBytes (jsonCfgOf [10] true) {} h1BufNaN = (h1StFloat, .done [h1PktFloat 9221120237041090560]) ∧
    h1IsFinite 9218868437227405312 = false ∧ h1IsFinite 9221120237041090560 = false ∧ h1IsFinite 4607182418800017408 = true ∧
    jnorm (h1PktFloat 9218868437227405312) ≠ jnorm (h1PktFloat 9221120237041090560) := h1Float_facts

end Netflow.Props
