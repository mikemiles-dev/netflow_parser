/-
  Props/NomGen.lean — C04 / C05 / C06: the TEMPLATE-RECORD parsers are the ones the source declares.

  `Generated.nomStructs` lists, field by field, what nom-derive generates for the nine template-record structs of v9.rs / ipfix.rs
  (read by tools/translate_nom.py on this run: field order, integer widths, `Value`, `Count` expressions, the `Cond`/`PostExec` pair of the
  enterprise number, `Vec<T>` = many0, `Vec<u8>` = rest).  `structP` interprets such a table with the model's own `beU` / `countP` / `many0`.
  The theorems say that for the regenerated table the interpretation IS the hand-written parser (as a function, for every input), in the
  tree view the exporter programs use.  Swapping two fields of `TemplateField`, widening `template_id`, `options_length / 4` → `/ 2`,
  `> 32767` → `>=`, dropping the `PostExec` … regenerate a different table and these theorems stop checking.
  In `lookup_at (j := n)` the index is the position of the struct in `Generated.nomStructs`; each proof then follows the parser's own
  chain of `beU` / `countP` / `many0` steps, one `rcases` per step.
-/
import NetflowModel.Lemmas.G4Nom
namespace Netflow.Props
open Netflow Netflow.G4

/-- V9 field specifier and scope field specifier -/
theorem C04_nom_v9_field (k : Nat) :
    structP Generated.nomStructs (k + 1) "v9::TemplateField" = pmap treeOfTField parseTField ∧
    structP Generated.nomStructs (k + 1) "v9::OptionsTemplateScopeField" = pmap treeOfTField parseTField := by
  have h (sub : String → P ETree) (i : Bytes) :
      (match runFields sub [.be "field_type_number" 2, .value "field_type", .be "field_length" 2] [] i with
       | none => none | some (env, r) => some (ETree.struct env, r)) = pmap treeOfTField parseTField i := by
    simp only [runFields, pmap_apply, parseTField]
    rcases beU 2 i with _ | ⟨t, r⟩
    · rfl
    dsimp only
    rcases beU 2 r with _ | ⟨l, r'⟩ <;> rfl
  constructor <;> funext i
  · exact (structP_of_lookup (lookup_at (j := 5) rfl) k i).trans (h _ i)
  · exact (structP_of_lookup (lookup_at (j := 4) rfl) k i).trans (h _ i)

/-- V9 template record -/
theorem C04_nom_v9_template (k : Nat) :
    structP Generated.nomStructs (k + 2) "v9::Template" = pmap treeOfV9Template parseV9Template := by
  funext i
  rw [structP_of_lookup (lookup_at (j := 2) rfl)]
  simp only [runFields, (C04_nom_v9_field k).1, pmap_apply, parseV9Template, countP_pmap, CountExpr.eval, envNum,
    List.nil_append, List.cons_append, List.lookup, String.reduceBEq]
  rcases beU 2 i with _ | ⟨id, r⟩
  · rfl
  dsimp only
  rcases beU 2 r with _ | ⟨fc, r1⟩
  · rfl
  dsimp only
  rcases countP parseTField fc r1 with _ | ⟨fs, r2⟩ <;> rfl

/-- V9 options template record -/
theorem C04_nom_v9_opt_template (k : Nat) :
    structP Generated.nomStructs (k + 2) "v9::OptionsTemplate" = pmap treeOfV9OptTemplate parseV9OptTemplate := by
  funext i
  rw [structP_of_lookup (lookup_at (j := 3) rfl)]
  simp only [runFields, (C04_nom_v9_field k).1, (C04_nom_v9_field k).2, pmap_apply, parseV9OptTemplate, countP_pmap,
    CountExpr.eval, envNum, List.nil_append, List.cons_append, List.lookup, String.reduceBEq]
  rcases beU 2 i with _ | ⟨id, r⟩
  · rfl
  dsimp only
  rcases beU 2 r with _ | ⟨sl, r1⟩
  · rfl
  dsimp only
  rcases beU 2 r1 with _ | ⟨ol, r2⟩
  · rfl
  dsimp only
  rcases countP parseTField (sl / 4) r2 with _ | ⟨ss, r3⟩
  · rfl
  dsimp only
  rcases countP parseTField (ol / 4) r3 with _ | ⟨os, r4⟩ <;> rfl

/-- `v9::Templates` = `many0(Template::parse)` then the rest as padding: exactly what `v9ParseBody` does for flowset id 0 -/
theorem v9templates_struct (k : Nat) (i : Bytes) :
    structP Generated.nomStructs (k + 2 + 1) "v9::Templates" i =
      (loopToOpt (many0 parseV9Template i)).map fun x =>
        (.struct [("templates", .list (x.1.map treeOfV9Template)), ("padding", .bytes x.2)], []) :=
  many0_rest_struct (lookup_at (j := 0) rfl) (C04_nom_v9_template k) i

/-- the body of a V9 template flowset, as `FlowSetBody::parse` hands it to `Templates::parse`: the regenerated struct parser returns
    exactly the template list and padding that `v9ParseBody` reports and caches -/
theorem C04_nom_v9_template_flowset (c : Config) (st : PState) (body : Bytes) (k : Nat) :
    (match structP Generated.nomStructs (k + 3) "v9::Templates" body with
     | some (t, _) => some t
     | none => none) =
    (match v9ParseBody c st c.t.v9TemplateId body with
     | (_, .ok b) => some (match treeOfV9Body b with | .variant _ t => t | t => t)
     | _ => none) := by
  rw [show k + 3 = k + 2 + 1 from rfl, v9templates_struct]
  simp only [v9ParseBody, if_true]
  rcases many0 parseV9Template body with ⟨ts, pad⟩ | _ | _ <;> rfl

/-- **C06** side: what that flowset teaches the cache is `insertV9Templates` of exactly the records the regenerated parser returns -/
theorem C06_nom_v9_templates_cached (c : Config) (st : PState) (body : Bytes) (ts : List V9Template) (pad : Bytes)
    (h : many0 parseV9Template body = .ok (ts, pad)) :
    structP Generated.nomStructs 3 "v9::Templates" body =
      some (.struct [("templates", .list (ts.map treeOfV9Template)), ("padding", .bytes pad)], []) ∧
    v9ParseBody c st c.t.v9TemplateId body = (insertV9Templates st ts, .ok (.templates ts pad)) := by
  constructor
  · rw [show 3 = 0 + 2 + 1 from rfl, v9templates_struct 0, h]
    rfl
  · simp only [v9ParseBody, if_true, h]

/-- IPFIX field specifier, with the enterprise bit: `Cond = number > 32767`, the PostExec clears the bit in the stored number -/
theorem C05_nom_ipfix_field (k : Nat) :
    structP Generated.nomStructs (k + 1) "ipfix::TemplateField" = pmap treeOfIpTField parseIpTField := by
  funext i
  rw [structP_of_lookup (lookup_at (j := 8) rfl)]
  simp only [runFields, pmap_apply, parseIpTField, envNum, List.nil_append, List.cons_append, List.lookup, String.reduceBEq]
  rcases beU 2 i with _ | ⟨t, r⟩
  · rfl
  dsimp only
  rcases beU 2 r with _ | ⟨l, r1⟩
  · rfl
  dsimp only
  by_cases hc : t > 32767
  · simp only [Cmp.eval, hc, decide_true, if_true]
    rcases beU 4 r1 with _ | ⟨e, r2⟩
    · rfl
    · simp only [envSetNum, List.map_cons, List.map_nil, String.reduceBEq, ↓reduceIte, Bool.false_eq_true]
      rfl
  · simp only [Cmp.eval, hc, decide_false, Bool.false_eq_true, if_false]
    rfl

/-- IPFIX template record (greedy field list, `field_count` not used to delimit) -/
theorem C05_nom_ipfix_template (k : Nat) (i : Bytes) :
    structP Generated.nomStructs (k + 2) "ipfix::Template" i =
      (match parseIpTemplate i with | .ok t => some (treeOfIpTemplate t, []) | _ => none) := by
  rw [structP_of_lookup (lookup_at (j := 6) rfl)]
  simp only [runFields, C05_nom_ipfix_field k, many0_pmap, parseIpTemplate]
  rcases beU 2 i with _ | ⟨id, r⟩
  · rfl
  dsimp only
  rcases beU 2 r with _ | ⟨fc, r1⟩
  · rfl
  dsimp only
  rcases many0 parseIpTField r1 with ⟨fs, pad⟩ | _ | _ <;> rfl

/-- IPFIX options template record (`scope_field_count.saturating_add(field_count.checked_sub(scope).unwrap_or(field_count))` fields) -/
theorem C05_nom_ipfix_opt_template (k : Nat) (i : Bytes) :
    structP Generated.nomStructs (k + 2) "ipfix::OptionsTemplate" i =
      (match parseIpOptTemplate i with | .ok t => some (treeOfIpOptTemplate t, []) | _ => none) := by
  rw [structP_of_lookup (lookup_at (j := 7) rfl)]
  simp only [runFields, C05_nom_ipfix_field k, countP_pmap, parseIpOptTemplate, CountExpr.eval, envNum, List.nil_append,
    List.cons_append, List.lookup, String.reduceBEq]
  rcases beU 2 i with _ | ⟨id, r⟩
  · rfl
  dsimp only
  rcases beU 2 r with _ | ⟨fc, r1⟩
  · rfl
  dsimp only
  rcases beU 2 r1 with _ | ⟨sc, r2⟩
  · rfl
  dsimp only
  rcases countP parseIpTField (if sc ≤ fc then fc else min (sc + fc) 65535) r2 with _ | ⟨fs, pad⟩ <;> rfl

/-- non-vacuity: the regenerated programs parse a concrete V9 template record and an IPFIX enterprise field specifier -/
example :
    structP Generated.nomStructs 2 "v9::Template" [1, 0, 0, 2, 0, 1, 0, 4, 0, 7, 0, 2, 9] =
      some (.struct [("template_id", .num 256), ("field_count", .num 2),
                     ("fields", .list [.struct [("field_type_number", .num 1), ("field_length", .num 4)],
                                       .struct [("field_type_number", .num 7), ("field_length", .num 2)]])], [9]) ∧
    structP Generated.nomStructs 1 "ipfix::TemplateField" [0x80, 5, 0, 4, 0, 0, 0x72, 0x79] =
      some (.struct [("field_type_number", .num 5), ("field_length", .num 4), ("enterprise_number", .some (.num 29305))], []) := by
  have h1 : parseV9Template [1, 0, 0, 2, 0, 1, 0, 4, 0, 7, 0, 2, 9] =
      some ({ id := 256, fieldCount := 2, fields := [⟨1, 4⟩, ⟨7, 2⟩] }, [9]) := by decide +kernel
  have h2 : parseIpTField [0x80, 5, 0, 4, 0, 0, 0x72, 0x79] = some ({ typ := 5, len := 4, ent := some 29305 }, []) := by
    decide +kernel
  constructor
  · rw [show (2 : Nat) = 0 + 2 from rfl, C04_nom_v9_template 0, pmap_apply, h1]; rfl
  · rw [show (1 : Nat) = 0 + 1 from rfl, C05_nom_ipfix_field 0, pmap_apply, h2]; rfl

end Netflow.Props

-- this one is stated in `Netflow.G4`, next to `many0_rest_struct`, whose instance it is
namespace Netflow.G4
open Netflow Props

theorem v9opttemplates_struct (k : Nat) (i : Bytes) :
    structP tbl (k + 3) "v9::OptionsTemplates" i =
      (match many0 parseV9OptTemplate i with
       | .ok (ts, pad) => some (.struct [("templates", .list (ts.map treeOfV9OptTemplate)), ("padding", .bytes pad)], [])
       | _ => none) := by
  rw [show k + 3 = k + 2 + 1 from rfl,
    many0_rest_struct (lookup_at (j := 1) rfl) (C04_nom_v9_opt_template k) i]
  rcases many0 parseV9OptTemplate i with ⟨ts, pad⟩ | _ | _ <;> rfl

end Netflow.G4
