/-
  Props/SerdeGen.lean — C16: the JSON member schema REGENERATED FROM THE SOURCE is the one the modelled serialiser writes.

  `Generated.serdeSchema` is read by tools/translate_serde.py from every `derive(Serialize)` struct / enum of lib.rs, v9.rs, ipfix.rs,
  data_number.rs on this run: member order, `skip_serializing`, `skip_serializing_if = "Option::is_none"`, `untagged`.
  `JsonSchema.modelSchema` is the table the lemmas of JsonSchema.lean tie to the hand-written `toJ` (for symbolic packets: every lemma
  there holds for every value).  `Serde_schema_is_modelled` is the equality; `Serde_always_generated` carries every member lemma of
  JsonSchema.lean over to the regenerated table, and the `C16_…_generated` corollaries spell that out for four of them (V9 packet,
  V9 template flowset, IPFIX field specifier, error element); the others stay in JsonSchema.lean.  In `mem_modelled_at (i := n)` the
  index is the position of the type in `modelSchema`.  A renamed, reordered, newly skipped or no longer skipped member changes
  `Generated.serdeSchema` and these theorems stop checking.
-/
import NetflowModel.JsonSchema
import NetflowModel.GeneratedSerde
import NetflowModel.Generated
namespace Netflow.Props
open Netflow Netflow.JsonSchema

/-- the schema read from the source, restricted to the result types, IS the modelled schema (names, order, skip attributes, untagged) -/
theorem Serde_schema_is_modelled :
    Generated.serdeSchema.filter (fun e => modelled.contains e.1) = modelSchema := by decide +kernel

/-- members of a type that the regenerated schema says are always written -/
def alwaysG (ty : String) : List String :=
  match Generated.serdeSchema.lookup ty with
  | some (_, ms) => (ms.filter fun m => m.2 == "").map (·.1)
  | none => []

theorem lookup_filter_fst {α β : Type} [BEq α] [LawfulBEq α] (p : α → Bool) {k : α} (hk : p k = true) :
    ∀ l : List (α × β), (l.filter fun e => p e.1).lookup k = l.lookup k
  | [] => rfl
  | (a, b) :: l => by
    rw [List.filter_cons]
    split
    · simp only [List.lookup, lookup_filter_fst p hk l]
    · next ha =>
      have : (k == a) = false := by
        rw [beq_eq_false_iff_ne]
        intro e; rw [← e] at ha; exact ha hk
      simp only [List.lookup, this, lookup_filter_fst p hk l]

/-- for every modelled type the always-written members of the regenerated schema are those of the modelled schema -/
theorem Serde_always_generated : ∀ ty ∈ modelled, alwaysG ty = always ty := by
  intro ty hty
  rw [alwaysG, always, ← Serde_schema_is_modelled, lookup_filter_fst _ (List.contains_iff_mem.mpr hty)]
  rfl

/-- the V9 / IPFIX header structs are written through the layouts generated from the same declarations (`layoutJ`): their member
    names in the regenerated serde schema are the layout's field names, in order -/
theorem Serde_headers_are_layouts :
    alwaysG "v9::Header" = Generated.v9Hdr.map (·.name) ∧ alwaysG "ipfix::Header" = Generated.ipHdr.map (·.name) := by decide +kernel

/-- the same for V5 / V7 (headers and records are written through `layoutJ` of the layouts generated from the same struct
    declarations): the serde member names of the regenerated schema are the layout's field names, in order, none skipped or renamed;
    the packet structs are `header`, `flowsets` -/
theorem Serde_fixed_are_layouts :
    alwaysG "v5::Header" = Generated.v5Hdr.map (·.name) ∧ alwaysG "v5::FlowSet" = Generated.v5Rec.map (·.name) ∧
    alwaysG "v7::Header" = Generated.v7Hdr.map (·.name) ∧ alwaysG "v7::FlowSet" = Generated.v7Rec.map (·.name) ∧
    alwaysG "v5::V5" = ["header", "flowsets"] ∧ alwaysG "v7::V7" = ["header", "flowsets"] ∧
    (∀ ty ∈ ["v5::V5", "v5::Header", "v5::FlowSet", "v7::V7", "v7::Header", "v7::FlowSet", "v9::Header", "ipfix::Header"],
      (match Generated.serdeSchema.lookup ty with
       | some (cont, ms) => cont == "" && ms.all (fun m => m.2 == "")
       | none => false) = true) := by decide +kernel

/-- **C16** (members, V9 packet): the object `toJ` writes for a V9 packet has exactly the members the source declares -/
theorem C16_v9_members_generated (c : Config) (nm : JNames) (h : List Nat) (ss : List V9Set) :
    ∃ inner, toJ c nm (.v9 h ss) = .obj [("V9", inner)] ∧ objKeys inner = alwaysG "v9::V9" := by
  obtain ⟨inner, h1, h2⟩ := v9_members c nm h ss
  exact ⟨inner, h1, by rw [h2, Serde_always_generated _ (mem_modelled_at (i := 4) rfl)]⟩

/-- **C16** (members, V9 template flowset): `padding` is not written, every template and every field specifier carries exactly the
    members of the regenerated schema, in declaration order -/
theorem C16_v9_template_members_generated (c : Config) (nm : JNames) (ts : List V9Template) (pad : Bytes) :
    ∃ f : V9Template → JVal, v9BodyJ c nm (.templates ts pad) = .obj [("Template", .obj [("templates", .arr (ts.map f))])] ∧
      ["templates"] = alwaysG "v9::Templates" ∧ ∀ t, objKeys (f t) = alwaysG "v9::Template" := by
  obtain ⟨f, h1, h2, h3⟩ := v9_templates_members c nm ts pad
  refine ⟨f, h1, ?_, fun t => ?_⟩
  · rw [Serde_always_generated _ (mem_modelled_at (i := 8) rfl)]; exact h2
  · rw [Serde_always_generated _ (mem_modelled_at (i := 10) rfl)]; exact (h3 t).1

/-- **C16** (members, IPFIX field specifier): `enterprise_number` is written exactly when it is `Some` -/
theorem C16_ipfix_field_members_generated (c : Config) (nm : JNames) (f : IpTField) :
    objKeys (ipTFieldJ c nm f) = alwaysG "ipfix::TemplateField" ++ (if f.ent.isSome then ["enterprise_number"] else []) := by
  rw [Serde_always_generated _ (mem_modelled_at (i := 26) rfl)]
  exact (ipfix_field_members c nm f).1

/-- **C16** (members, error element) -/
theorem C16_error_members_generated (c : Config) (nm : JNames) (k : ErrKind) (rem : Bytes) :
    ∃ inner, toJ c nm (.error k rem) = .obj [("Error", inner)] ∧ objKeys inner = alwaysG "lib::NetflowPacketError" := by
  obtain ⟨inner, h1, h2⟩ := error_members c nm k rem
  exact ⟨inner, h1, by rw [h2, Serde_always_generated _ (mem_modelled_at (i := 1) rfl)]⟩

end Netflow.Props
